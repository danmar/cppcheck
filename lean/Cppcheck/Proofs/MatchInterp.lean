import Cppcheck.Proofs.MatchSpec
/-
C33 (interpreter side): the byte-level interpreter `interpB` computes the documented word-level language `langWords` on the
patterns of the documented grammar (Proofs/MatchSpec.lean).  `interpLoop_eq` is an induction on the derivation `DocPattern p Ws`:
one iteration of `interpLoop` per documented word (`word_step`), given that the loop on the rest of the pattern computes the
remaining words (`hk`, like `run_word` on the compiled side); inside an alternatives word `tailRes` plays the part of `hk`.
Last, `simpleMatch`: on a pattern of literal words its loop and the language are both word-by-word equality (`exactWords`).
-/
namespace Cppcheck.Match
open Cppcheck.Wire

theorem takeWhile_word (w rest : Str) (hw : ∀ x ∈ w, x ≠ ' ') (hr : restOK rest) :
    (w ++ rest).takeWhile (· ≠ ' ') = w := by
  rw [List.takeWhile_append_of_pos fun a ha => decide_eq_true (hw a ha)]
  rcases hr with rfl | ⟨r, rfl⟩ <;> simp

theorem skipWord_word (w rest : Str) (hw : ∀ x ∈ w, x ≠ ' ') (hr : restOK rest) :
    skipWord (w ++ rest) = rest := by
  rw [skipWord_eq, List.dropWhile_append_of_pos fun a ha => decide_eq_true (hw a ha)]
  rcases hr with rfl | ⟨r, rfl⟩ <;> simp

/-- `strchr(p, ' ')` is what follows the first word, if anything does -/
theorem toSpace_eq (p : Str) : toSpace p = if skipWord p = [] then none else some (skipWord p) := by
  induction p with
  | nil => rfl
  | cons c r ih => by_cases h : c = ' ' <;> simp [toSpace, skipWord, h, ih]

theorem chrInFirstWord_eq (c : Char) (p : Str) :
    chrInFirstWord c p = (p.takeWhile (· ≠ ' ')).contains c := by
  induction p with
  | nil => rfl
  | cons x r ih =>
    by_cases hx : x = ' '
    · simp [chrInFirstWord, hx]
    · rw [List.takeWhile_cons_of_pos (by simpa using hx), List.contains_cons, ← ih]
      by_cases h : x = c
      · subst h
        simp [chrInFirstWord, hx]
      · simp [chrInFirstWord, hx, h, Ne.symm h]

theorem toSpace_word (x rest : Str) (hx : ∀ c ∈ x, c ≠ ' ') (hr : restOK rest) :
    toSpace (x ++ rest) = if rest = [] then none else some rest := by
  rw [toSpace_eq, skipWord_word x rest hx hr]

theorem toSpace_append (x rest : Str) (hx : ∀ c ∈ x, c ≠ ' ') (hr : restOK rest) :
    toSpace (x ++ rest) = toSpace rest :=
  (toSpace_word x rest hx hr).trans (toSpace_word [] rest (by simp) hr).symm

theorem at0_cons_zero (c : Char) (l : Str) : at0 (c :: l) 0 = c := by simp [at0]
theorem at0_cons_succ (c : Char) (l : Str) (n : Nat) : at0 (c :: l) (n + 1) = at0 l n := by simp [at0]
theorem at0_nil (n : Nat) : at0 [] n = '\x00' := by simp [at0]

theorem restOK_head (rest : Str) (hr : restOK rest) : at0 rest 0 = ' ' ∨ at0 rest 0 = '\x00' := by
  rcases hr with rfl | ⟨r, rfl⟩
  · exact .inr (at0_nil 0)
  · exact .inl (at0_cons_zero _ _)

/-- what the loop returns from the end of an alternative that did not match: at the end of the word
    -1, at a `|` whatever it returns on the next alternative -/
def tailRes (t : Tok) (v : Nat) (tail : Str) (R : MC) : Prop :=
  (restOK tail ∧ R = .minus) ∨
    ∃ tl, tail = '|' :: tl ∧ ∀ f, tl.length < f → multiCompareLoop t v f tl t.str true = R

theorem tailRes_head (t : Tok) (v : Nat) (tail : Str) (R : MC) (hR : tailRes t v tail R) :
    at0 tail 0 = '|' ∨ at0 tail 0 = '\x00' ∨ at0 tail 0 = ' ' := by
  rcases hR with ⟨hr, _⟩ | ⟨tl, rfl, _⟩
  · exact .inr (restOK_head tail hr).symm
  · exact .inl (at0_cons_zero _ _)

/-- the loop behind `skipToBar`: -1 if the word ended, else its result on the next alternative -/
def skipRes (t : Tok) (v : Nat) (f : Nat) : Option Str → MC
  | none => .minus
  | some rest => multiCompareLoop t v f rest t.str true

theorem mcl_pct (t : Tok) (v f : Nat) (l : Char) (x np : Str)
    (hl : l ≠ '|' ∧ l ≠ '\x00' ∧ l ≠ ' ' ∧ l ≠ '=') :
    multiCompareLoop t v (f + 1) ('%' :: l :: x) np true =
      match multiComparePercent t ('%' :: l :: x) v with
      | .one => .one
      | .minus => .minus
      | .thrw => .thrw
      | .cont rest => multiCompareLoop t v f rest t.str true := by
  simp only [multiCompareLoop, at0_cons_zero, at0_cons_succ, hl, ne_eq, not_false_eq_true, and_self, if_true]
  cases multiComparePercent t ('%' :: l :: x) v <;> rfl

theorem mcl_bar (t : Tok) (v f : Nat) (r np : Str) (b : Bool) :
    multiCompareLoop t v (f + 1) ('|' :: r) np b =
      if np = [] then .one else multiCompareLoop t v f r t.str true := by
  simp only [multiCompareLoop, at0_cons_zero, show ('|' : Char) ≠ '%' by decide, false_and, and_false,
    if_false, if_true, List.drop_one, List.tail_cons]

theorem mcl_match (t : Tok) (v f : Nat) (c : Char) (r np : Str) (b : Bool) (hc : c ≠ '|')
    (hpc : ¬(b = true ∧ c = '%' ∧ at0 r 0 ≠ '|' ∧ at0 r 0 ≠ '\x00' ∧ at0 r 0 ≠ ' ' ∧ at0 r 0 ≠ '=')) :
    multiCompareLoop t v (f + 1) (c :: r) (c :: np) b = multiCompareLoop t v f r np false := by
  simp only [multiCompareLoop, at0_cons_zero, at0_cons_succ, hpc, if_false, hc, if_true, reduceCtorEq,
    List.drop_one, List.tail_cons]

/-- the mismatch branch: skip to the next alternative -/
theorem mcl_miss (t : Tok) (v f : Nat) (c : Char) (hay' np : Str) (b : Bool)
    (hc : c ≠ '|' ∧ c ≠ ' ' ∧ c ≠ '\x00') (hnp : at0 np 0 ≠ c)
    (hpc : ¬(b = true ∧ c = '%' ∧ at0 hay' 0 ≠ '|' ∧ at0 hay' 0 ≠ '\x00' ∧ at0 hay' 0 ≠ ' ' ∧ at0 hay' 0 ≠ '=')) :
    multiCompareLoop t v (f + 1) (c :: hay') np b = skipRes t v f (skipToBar hay') := by
  simp only [multiCompareLoop, at0_cons_zero, at0_cons_succ, hpc, if_false, hc.1, hc.2.1, hc.2.2, hnp,
    false_or, List.drop_one, List.tail_cons]
  cases skipToBar hay' <;> rfl

/-- the haystack is at the end of the word: NUL = NUL only if the token text is used up as well -/
theorem mcl_end (t : Tok) (v f : Nat) (rest np : Str) (b : Bool) (hr : restOK rest)
    (hnp : ∀ c ∈ np, c ≠ ' ' ∧ c ≠ '\x00') :
    multiCompareLoop t v (f + 1) rest np b =
      if np = [] ∧ rest = [] then .one else if b then .zero else if np = [] then .one else .minus := by
  have h0 := restOK_head rest hr
  have hpc : at0 rest 0 ≠ '%' ∧ at0 rest 0 ≠ '|' := by rcases h0 with h | h <;> rw [h] <;> decide
  have hn : at0 np 0 = at0 rest 0 ↔ np = [] ∧ rest = [] := by
    cases np with
    | nil => rcases hr with rfl | ⟨r, rfl⟩ <;> simp [at0_nil, at0_cons_zero]
    | cons d np' =>
      have hd := hnp d (by simp)
      rcases h0 with h | h <;> simp [at0_cons_zero, h, hd.1, hd.2]
  simp only [multiCompareLoop, hpc, false_and, and_false, if_false, hn, h0, if_true]
  by_cases h : np = [] ∧ rest = []
  · rw [if_pos h, if_pos h, if_pos h.1]
  · rw [if_neg h, if_neg h]

theorem skipToBar_lit (x tail : Str) (hx : ∀ c ∈ x, c ≠ '|' ∧ c ≠ ' ') :
    skipToBar (x ++ tail) = skipToBar tail := by
  induction x with
  | nil => rfl
  | cons y x ih =>
    have hy := hx y (by simp)
    simp only [List.cons_append, skipToBar, hy.1, hy.2, if_false]
    exact ih (fun z hz => hx z (by simp [hz]))

theorem skipRes_tail (t : Tok) (v f : Nat) (x tail : Str) (R : MC) (hx : ∀ c ∈ x, c ≠ '|' ∧ c ≠ ' ')
    (hR : tailRes t v tail R) (hf : (x ++ tail).length ≤ f) :
    skipRes t v f (skipToBar (x ++ tail)) = R := by
  rw [skipToBar_lit x tail hx]
  rcases hR with ⟨hr, rfl⟩ | ⟨tl, rfl, hR⟩
  · rcases hr with rfl | ⟨r, rfl⟩ <;> simp [skipToBar, skipRes]
  · simp only [skipToBar, skipRes, show ('|' : Char) ≠ ' ' by decide, if_false, if_true]
    exact hR f (by simp at hf; omega)

/-- `b` says that the needle pointer is at the start of the token text; `x` is then a whole alternative, not empty and not
    read as a `%cmd%` -/
theorem mcl_lit (t : Tok) (v : Nat) (tail : Str) (R : MC) (hR : tailRes t v tail R) :
    ∀ (x np : Str) (b : Bool) (f : Nat), (∀ c ∈ x, c ≠ '|' ∧ c ≠ ' ' ∧ c ≠ '\x00') →
      (∀ c ∈ np, c ≠ ' ' ∧ c ≠ '\x00') →
      (b = true → x ≠ [] ∧ (x.head? ≠ some '%' ∨ x = ['%'] ∨ x = ['%', '='])) →
      (x ++ tail).length < f →
      multiCompareLoop t v f (x ++ tail) np b = if np = x then .one else R := by
  intro x
  induction x with
  | nil =>
    intro np b f _ hnp hb hf
    cases b with
    | true => exact absurd rfl (hb rfl).1
    | false =>
    cases f with
    | zero => omega
    | succ f =>
      rw [List.nil_append] at hf ⊢
      rcases hR with ⟨hr, rfl⟩ | ⟨tl, rfl, hR⟩
      · rw [mcl_end t v f tail np false hr hnp]
        by_cases h : np = [] <;> simp [h]
      · rw [mcl_bar]
        by_cases h : np = []
        · rw [if_pos h, if_pos h]
        · rw [if_neg h, if_neg h]
          exact hR f (by simpa using hf)
  | cons c x ih =>
    intro np b f hx hnp hb hf
    have hc := hx c (by simp)
    have hx' : ∀ c ∈ x, c ≠ '|' ∧ c ≠ ' ' ∧ c ≠ '\x00' := fun z hz => hx z (by simp [hz])
    have hpc : ¬(b = true ∧ c = '%' ∧ at0 (x ++ tail) 0 ≠ '|' ∧ at0 (x ++ tail) 0 ≠ '\x00' ∧
        at0 (x ++ tail) 0 ≠ ' ' ∧ at0 (x ++ tail) 0 ≠ '=') := by
      rintro ⟨hbt, hrest⟩
      rcases (hb hbt).2 with h | h | h
      · simp only [List.head?_cons, ne_eq, Option.some.injEq] at h
        exact h hrest.1
      · simp only [List.cons.injEq] at h
        obtain ⟨_, rfl⟩ := h
        have h3 := tailRes_head t v tail R hR
        simp only [List.nil_append] at hrest
        rcases h3 with h3 | h3 | h3 <;> simp [h3] at hrest
      · simp only [List.cons.injEq] at h
        obtain ⟨_, rfl⟩ := h
        simp [at0_cons_zero] at hrest
    cases f with
    | zero => omega
    | succ f =>
      simp only [List.cons_append, List.length_cons] at hf ⊢
      have hmiss : ∀ np', at0 np' 0 ≠ c → multiCompareLoop t v (f + 1) (c :: (x ++ tail)) np' b = R := by
        intro np' h
        rw [mcl_miss t v f c (x ++ tail) np' b hc h hpc]
        exact skipRes_tail t v f x tail R (fun z hz => ⟨(hx' z hz).1, (hx' z hz).2.1⟩) hR (by omega)
      cases np with
      | nil =>
        rw [hmiss [] (by rw [at0_nil]; exact fun e => hc.2.2 e.symm)]
        simp
      | cons d np' =>
        by_cases hdc : d = c
        · subst hdc
          rw [mcl_match t v f d (x ++ tail) np' b hc.1 hpc,
            ih np' false f hx' (fun z hz => hnp z (by simp [hz])) (fun h => absurd h (by decide)) (by omega)]
          simp only [List.cons.injEq, true_and]
        · rw [hmiss (d :: np') (by rw [at0_cons_zero]; exact hdc)]
          simp [hdc]

/-- `multiComparePercent` decodes each of the 15 commands and leaves the haystack behind it -/
theorem pct_eval (t : Tok) (v : Nat) (c : Cmd) (tail : Str)
    (htl : at0 tail 0 ≠ '%') :
    multiComparePercent t (c.spell ++ tail) v =
      if c = .varid ∧ v = 0 then .thrw
      else if c.eval t v then .one else if at0 tail 0 = '|' then .cont (tail.drop 1) else .minus := by
  cases c
  -- `%num%` is told from `%name%` by the byte behind `%num`: it must not be a `%`
  case num =>
    show (if at0 tail 0 = '%' then _ else _) = _
    rw [if_neg htl]
    rfl
  case varid => simp only [eq_self, true_and]; rfl
  all_goals rfl

theorem spell_head (c : Cmd) : ∃ l x, c.spell = '%' :: l :: x ∧ l ≠ '|' ∧ l ≠ '\x00' ∧ l ≠ ' ' ∧ l ≠ '=' := by
  cases c <;> exact ⟨_, _, rfl, by decide⟩

/-- a `%cmd%` alternative at the start of the token text -/
theorem mcl_cmd (t : Tok) (v : Nat) (tail : Str) (R : MC) (hR : tailRes t v tail R)
    (c : Cmd) (f : Nat) (hf : (c.spell ++ tail).length < f) :
    multiCompareLoop t v f (c.spell ++ tail) t.str true =
      if c = .varid ∧ v = 0 then .thrw else if c.eval t v then .one else R := by
  cases f with
  | zero => omega
  | succ f =>
    have hp := pct_eval t v c tail (by
      rcases tailRes_head t v tail R hR with h | h | h <;> rw [h] <;> decide)
    obtain ⟨l, x, hs, hl⟩ := spell_head c
    have hlen : tail.length + 2 ≤ (c.spell ++ tail).length := by rw [hs]; simp
    rw [hs] at hp ⊢
    simp only [List.cons_append] at hp ⊢
    rw [mcl_pct t v f l (x ++ tail) t.str hl, hp]
    by_cases hthr : c = .varid ∧ v = 0
    · simp only [hthr, and_self, if_true]
    simp only [hthr, if_false]
    by_cases he : c.eval t v = true
    · simp only [he, if_true]
    · simp only [he, Bool.false_eq_true, if_false]
      rcases hR with ⟨hr, rfl⟩ | ⟨tl, rfl, hR⟩
      · have : at0 tail 0 ≠ '|' := by rcases restOK_head tail hr with h | h <;> rw [h] <;> decide
        simp only [this, if_false]
      · simp only [at0_cons_zero, if_true, List.drop_one, List.tail_cons]
        exact hR f (by simp only [List.length_cons] at hlen; omega)

theorem tokStrOK_chars (t : Tok) (h : TokStrOK t = true) :
    ∀ c ∈ t.str, c ≠ ' ' ∧ c ≠ '\x00' := by
  simpa [TokStrOK] using h

theorem evalR_mc (a : Atom) (t : Tok) (v : Nat) (R : MC) :
    (match a.evalR t v with | .t => MC.one | .err => .thrw | .f => R) =
      if a = .cmd .varid ∧ v = 0 then .thrw else if a.eval t v then .one else R := by
  unfold Atom.evalR
  by_cases h : a = .cmd .varid ∧ v = 0
  · rw [if_pos h, if_pos h]
  · rw [if_neg h, if_neg h]
    cases a.eval t v <;> rfl

/-- one alternative (command or plain literal) followed by `tail` -/
theorem mcl_alt (t : Tok) (v : Nat) (ht : TokStrOK t = true) (tail : Str) (R : MC)
    (hR : tailRes t v tail R) {a : Str} {A : Atom} (hA : DocAtom a A) (f : Nat)
    (hnul : ∀ c ∈ a, c ≠ '\x00') (hf : (a ++ tail).length < f) :
    multiCompareLoop t v f (a ++ tail) t.str true =
      match A.evalR t v with | .t => .one | .err => .thrw | .f => R := by
  rw [evalR_mc]
  cases hA with
  | @cmd c hc =>
    obtain rfl := (docCmd_spell _ c).1 hc
    simp only [Atom.cmd.injEq, Atom.eval]
    exact mcl_cmd t v tail R hR c f hf
  | lit hl =>
    obtain ⟨hne, hsp, hbar, hpc⟩ := hl
    simp only [reduceCtorEq, false_and, if_false, Atom.eval, decide_eq_true_eq]
    exact mcl_lit t v tail R hR a t.str true f
      (fun c hc => ⟨fun e => hbar (e ▸ hc), fun e => hsp (e ▸ hc), hnul c hc⟩)
      (tokStrOK_chars t ht) (fun _ => ⟨hne, hpc⟩) hf

/-- the trailing empty alternative: 0 — except that an empty token text at the very end of the
    pattern compares equal (NUL = NUL) and gives 1 -/
theorem mcl_empty (t : Tok) (v : Nat) (ht : TokStrOK t = true) (rest : Str) (hr : restOK rest) (f : Nat) :
    multiCompareLoop t v (f + 1) rest t.str true =
      if (t.str = [] ∧ rest = []) then .one else .zero := by
  rw [mcl_end t v f rest t.str true hr (tokStrOK_chars t ht)]
  rfl

/-- what `multiCompareLoop` returns when the alternatives say `r`: a trailing empty alternative (`opt`) turns "none accepts" into
    0, or into 1 if `e` (token text and rest of the pattern both empty: the loop's end-of-needle test succeeds) -/
def mcOut (opt e : Bool) : Res → MC
  | .t => .one
  | .err => .thrw
  | .f => if opt then (if e then .one else .zero) else .minus

theorem mcl_parts (t : Tok) (v : Nat) (ht : TokStrOK t = true) (rest : Str) (hr : restOK rest)
    {ps : List Str} {as : List Atom} {opt : Bool} (h : DocParts ps as opt) :
    (∀ c ∈ bars ps, c ≠ '\x00') → ∀ f, (bars ps ++ rest).length < f →
      multiCompareLoop t v f (bars ps ++ rest) t.str true =
        mcOut opt (decide (t.str = [] ∧ rest = [])) (altsR as t v) := by
  induction h with
  | empty =>
    intro _ f hf
    cases f with
    | zero => omega
    | succ f => simpa [mcOut, altsR, bars] using mcl_empty t v ht rest hr f
  | @last a A hA =>
    intro hnul f hf
    rw [show bars [a] = a from rfl] at hf hnul ⊢
    rw [mcl_alt t v ht rest .minus (.inl ⟨hr, rfl⟩) hA f hnul hf, altsR]
    cases A.evalR t v <;> rfl
  | @cons a A ps as opt hA hps ih =>
    intro hnul f hf
    obtain ⟨b, r, rfl⟩ := hps.ne_nil
    simp only [bars, List.append_assoc, List.cons_append] at hf hnul ⊢
    rw [mcl_alt t v ht _ _ (.inr ⟨_, rfl, ih fun c hc => hnul c (by simp [hc])⟩) hA f
      (fun c hc => hnul c (by simp [hc])) hf, altsR]
    cases A.evalR t v <;> rfl

/-- `multiCompare` on an alternatives word followed by the end or a blank -/
theorem multiCompare_parts (t : Tok) (v : Nat) (ht : TokStrOK t = true) (rest : Str) (hr : restOK rest)
    {ps : List Str} {as : List Atom} {opt : Bool} (h : DocParts ps as opt) (hnul : ∀ c ∈ bars ps, c ≠ '\x00') :
    multiCompare t (bars ps ++ rest) v = mcOut opt (decide (t.str = [] ∧ rest = [])) (altsR as t v) := by
  unfold multiCompare
  simp only [decide_true]
  exact mcl_parts t v ht rest hr h hnul _ (by omega)

theorem classScan_other (c : Char) (hc : c ≠ ']') (rest : Str) (hr : restOK rest) :
    ∀ (cs : Str) (n : Nat), (∀ x ∈ cs, x ≠ ' ') →
      (classScan c (cs ++ rest) n).1 = decide (c ∈ cs) ∧
      toSpace (classScan c (cs ++ rest) n).2.2 = toSpace rest := by
  intro cs
  induction cs with
  | nil =>
    intro n _
    rcases hr with rfl | ⟨r, rfl⟩ <;> simp [classScan]
  | cons x cs ih =>
    intro n hcs
    obtain ⟨hx, hcs'⟩ := List.forall_mem_cons.1 hcs
    simp only [List.cons_append, classScan, hx, if_false]
    by_cases h1 : x = ']'
    · subst h1
      simp only [if_true]
      have := ih (n + 1) hcs'
      simp [this.1, this.2, hc]
    · simp only [h1, if_false]
      by_cases h2 : x = c
      · subst h2
        simp only [if_true, List.mem_cons, true_or, decide_true, true_and]
        have := toSpace_append (x :: cs) rest hcs hr
        simpa using this
      · have h2' : ¬ c = x := fun e => h2 e.symm
        simp only [h2, if_false]
        have := ih n hcs'
        simp [this.1, this.2, h2']

theorem classScan_bracket (rest : Str) (hr : restOK rest) :
    ∀ (cs : Str) (n : Nat), (∀ x ∈ cs, x ≠ ' ') →
      classScan ']' (cs ++ rest) n = (false, n + cs.count ']', rest) := by
  intro cs
  induction cs with
  | nil =>
    intro n _
    rcases hr with rfl | ⟨r, rfl⟩ <;> simp [classScan]
  | cons x cs ih =>
    intro n hcs
    obtain ⟨hx, hcs'⟩ := List.forall_mem_cons.1 hcs
    simp only [List.cons_append, classScan, hx, if_false]
    by_cases h1 : x = ']'
    · subst h1
      simp only [if_true]
      rw [ih (n + 1) hcs']
      simp only [List.count_cons_self, Prod.mk.injEq, true_and, and_true]
      omega
    · have h1' : ¬ ']' = x := fun e => h1 e.symm
      simp only [h1, if_false]
      rw [ih n hcs']
      simp [h1]

theorem firstWordEquals_eq : ∀ (tstr p : Str), (∀ c ∈ tstr, c ≠ ' ') →
    firstWordEquals p tstr = decide (tstr = p.takeWhile (· ≠ ' ')) := by
  intro tstr
  induction tstr with
  | nil =>
    intro p _
    cases p with
    | nil => rfl
    | cons c s => by_cases hc : c = ' ' <;> simp [firstWordEquals, at0_cons_zero, hc]
  | cons b w ih =>
    intro p ht
    have hb : b ≠ ' ' := ht b (by simp)
    cases p with
    | nil => simp [firstWordEquals]
    | cons a s =>
      by_cases hab : a = b
      · subst hab
        simp [firstWordEquals, hb, ih s (fun c hc => ht c (by simp [hc]))]
      · have hab' : ¬ b = a := fun e => hab e.symm
        by_cases ha : a = ' '
        · subst ha
          simp [firstWordEquals, hab]
        · simp [firstWordEquals, hab, hab', ha]

theorem interpLoop_nil (f : Nat) (ts : List Tok) (v : Nat) : interpLoop f [] ts v = .t := by
  cases f <;> rfl

/-- the `match` written here is elaborated to another constant than the one inside `interpLoop` (the same function): a goal is
    closed with it by `exact`, not by rewriting -/
theorem cont_eq (f : Nat) (rest : Str) (v : Nat) (hr : restOK rest) (r : List Tok) (q : Str)
    (hq : toSpace q = toSpace rest) :
    (match toSpace q with | none => Res.t | some p' => interpLoop f p' r v) = interpLoop f rest r v := by
  rw [hq, show toSpace rest = _ from toSpace_word [] rest (by simp) hr]
  by_cases he : rest = []
  · simp [he, interpLoop_nil]
  · simp only [he, if_false]

/-! One iteration of `interpLoop` per kind of word: the dispatch tests of the loop body are evaluated on the pattern beforehand,
    and the one `simp only [interpLoop, …]` that unfolds the body decides every `if` with them. -/

theorem step_cls (f v : Nat) (cs rest : Str) (ws : List Word) (hcs : ∀ x ∈ cs, x ≠ ' ') (hr : restOK rest) (ts : List Tok)
    (hk : ∀ n, interpLoop f rest (ts.drop n) v = langWords ws (ts.drop n) v) :
    interpLoop (f + 1) ('[' :: (cs ++ [']']) ++ rest) ts v = langWords (.cls cs :: ws) ts v := by
  have hw : ∀ x ∈ '[' :: (cs ++ [']']), x ≠ ' ' :=
    List.forall_mem_cons.2 ⟨by decide, List.forall_mem_append.2 ⟨hcs, List.forall_mem_singleton.2 (by decide)⟩⟩
  have hchr : chrInFirstWord ']' ('[' :: (cs ++ [']']) ++ rest) = true := by
    rw [chrInFirstWord_eq, takeWhile_word _ rest hw hr]; simp
  have hne : ('[' :: (cs ++ [']']) ++ rest) ≠ [] := by simp
  have hsk : skipSpaces ('[' :: (cs ++ [']']) ++ rest) = '[' :: (cs ++ [']']) ++ rest := rfl
  have h0 : at0 ('[' :: (cs ++ [']']) ++ rest) 0 = '[' := at0_cons_zero _ _
  cases ts with
  | nil =>
    simp only [interpLoop, hsk, hne, if_false, h0, hchr, show ('[' : Char) ≠ '!' by decide, false_and, and_self,
      not_true_eq_false, langWords]
  | cons t r =>
    have hk1 : interpLoop f rest r v = langWords ws r v := hk 1
    simp only [interpLoop, hsk, hne, if_false, h0, hchr, and_self, if_true, langWords]
    have hdrop : List.drop 1 ('[' :: (cs ++ [']']) ++ rest) = (cs ++ [']']) ++ rest := by simp
    rw [hdrop]
    have hcs' : ∀ x ∈ cs ++ [']'], x ≠ ' ' := fun x hx => hw x (by simp only [List.mem_cons]; exact Or.inr hx)
    cases hs : t.str with
    | nil => simp
    | cons c cr =>
      cases cr with
      | cons _ _ => simp
      | nil =>
        simp only
        by_cases hc : c = ']'
        · subst hc
          rw [classScan_bracket rest hr (cs ++ [']']) 0 hcs']
          simp only [Nat.zero_add, List.count_append, List.count_cons_self, List.count_nil]
          have hq := (cont_eq f rest v hr r rest rfl).trans hk1
          by_cases hm : ']' ∈ cs
          · have : 0 < List.count ']' cs := List.count_pos_iff.mpr hm
            simp [hm, this]
            exact hq
          · have : List.count ']' cs = 0 := List.count_eq_zero.mpr hm
            simp [hm, this]
        · obtain ⟨h1, h2⟩ := classScan_other c hc rest hr (cs ++ [']']) 0 hcs'
          rcases hsc : classScan c (cs ++ [']'] ++ rest) 0 with ⟨found, cnt, temp⟩
          rw [hsc] at h1 h2
          simp only at h1 h2
          have hq := (cont_eq f rest v hr r temp h2).trans hk1
          have hc' : ¬ c = ']' := hc
          by_cases hm : c ∈ cs
          · simp [h1, hm]
            exact hq
          · simp [h1, hm, hc']

theorem step_neg (f v : Nat) (s rest : Str) (ws : List Word)
    (hs : ∀ x ∈ s, x ≠ ' ') (hs0 : at0 s 0 ≠ '\x00') (hr : restOK rest)
    (ts : List Tok) (hts : ∀ t ∈ ts, TokStrOK t = true)
    (hk : ∀ n, interpLoop f rest (ts.drop n) v = langWords ws (ts.drop n) v) :
    interpLoop (f + 1) ('!' :: '!' :: s ++ rest) ts v = langWords (.neg s :: ws) ts v := by
  -- `p` stays a variable, so that the unfolded body does not carry the pattern
  generalize hp : '!' :: '!' :: s ++ rest = p
  have hw : ∀ x ∈ '!' :: '!' :: s, x ≠ ' ' :=
    List.forall_mem_cons.2 ⟨by decide, List.forall_mem_cons.2 ⟨by decide, hs⟩⟩
  have hsk : skipSpaces p = p := by rw [← hp]; rfl
  have hne : p ≠ [] := by rw [← hp]; simp
  have hb0 : at0 p 0 = '!' := by rw [← hp]; rfl
  have hb1 : at0 p 1 = '!' := by rw [← hp]; rfl
  have hb2 : at0 p 2 ≠ '\x00' := by
    rw [← hp]
    cases s with
    | nil => exact absurd (at0_nil 0) hs0
    | cons c s' => exact hs0
  have hskip : skipWord p = rest := by rw [← hp]; exact skipWord_word _ rest hw hr
  have hdrop : List.drop 2 p = s ++ rest := by rw [← hp]; rfl
  cases ts with
  | nil =>
    simp only [interpLoop, hsk, hne, if_false, hb0, hb1, hb2, ne_eq, not_false_eq_true, and_self, if_true, langWords,
      hskip]
    exact hk 0
  | cons t r =>
    have htc := tokStrOK_chars t (hts t (by simp))
    simp only [interpLoop, hsk, hne, if_false, hb0, hb1, hb2, show ('!' : Char) ≠ '[' by decide, false_and, ne_eq,
      not_false_eq_true, and_self, if_true, langWords, hdrop]
    rw [firstWordEquals_eq t.str _ (fun c hc => (htc c hc).1), takeWhile_word s rest hs hr]
    by_cases he : t.str = s
    · simp [he]
    · have hq := (cont_eq f rest v hr r (s ++ rest) (toSpace_append s rest hs hr)).trans (hk 1)
      simp [he]
      exact hq

theorem notBang (w rest : Str) (hr : restOK rest) (h : ¬ Bang w) :
    ¬(at0 (w ++ rest) 0 = '!' ∧ at0 (w ++ rest) 1 = '!' ∧ at0 (w ++ rest) 2 ≠ '\x00') := by
  have h0 := restOK_head rest hr
  cases w with
  | nil =>
    simp only [List.nil_append]
    rcases h0 with h0 | h0 <;> simp [h0]
  | cons c w =>
    cases w with
    | nil =>
      simp only [List.cons_append, List.nil_append, at0_cons_zero, at0_cons_succ]
      rcases h0 with h0 | h0 <;> simp [h0]
    | cons d x =>
      simp only [Bang, List.take_succ_cons, List.take_zero, List.cons.injEq, and_true] at h
      simp only [List.cons_append, at0_cons_zero, at0_cons_succ]
      intro hh
      exact h ⟨hh.1, hh.2.1⟩

theorem notCls (w rest : Str) (hw : ∀ x ∈ w, x ≠ ' ') (hr : restOK rest) (h : ¬ Bracketed w) :
    ¬(at0 (w ++ rest) 0 = '[' ∧ chrInFirstWord ']' (w ++ rest) = true) := by
  rw [chrInFirstWord_eq, takeWhile_word w rest hw hr]
  intro hh
  cases w with
  | nil => simp at hh
  | cons c x =>
    rw [List.cons_append, at0_cons_zero] at hh
    exact h ⟨by rw [hh.1]; rfl, by simpa using hh.2⟩

theorem skipSpaces_word (w rest : Str) (hne : w ≠ []) (hw : ∀ x ∈ w, x ≠ ' ') :
    skipSpaces (w ++ rest) = w ++ rest := by
  obtain ⟨c, x, rfl⟩ := List.exists_cons_of_ne_nil hne
  simp [skipSpaces_eq, hw c]

/-- an alternatives word `bars ps`, or a single command / literal `w` (`ps = [w]`), in front of `rest` -/
theorem step_multi (f v : Nat) (rest : Str) (ws : List Word) (hr : restOK rest)
    {ps : List Str} {as : List Atom} {opt : Bool} (h : DocParts ps as opt) (hne : bars ps ≠ [])
    (hw : ∀ x ∈ bars ps, x ≠ ' ') (hnul : ∀ c ∈ bars ps, c ≠ '\x00') (hnb : ¬ Bracketed (bars ps)) (hng : ¬ Bang (bars ps))
    (ts : List Tok) (hts : ∀ t ∈ ts, TokStrOK t = true)
    (hk : ∀ n, interpLoop f rest (ts.drop n) v = langWords ws (ts.drop n) v) :
    interpLoop (f + 1) (bars ps ++ rest) ts v = langWords (.alts as opt :: ws) ts v := by
  have hopt := docParts_null h hne
  have hmc := fun t ht => multiCompare_parts t v ht rest hr h hnul
  have hne' : bars ps ++ rest ≠ [] := by simp [hne]
  have hsk := skipSpaces_word (bars ps) rest hne hw
  have hncls := notCls (bars ps) rest hw hr hnb
  have hnbang := notBang (bars ps) rest hr hng
  cases ts with
  | nil =>
    simp only [interpLoop, hsk, hne', if_false, hnbang, hncls, not_false_eq_true, true_and,
      takeWhile_word (bars ps) rest hw hr, skipWord_word (bars ps) rest hw hr, langWords]
    by_cases ho : opt = true
    · rw [if_pos (hopt.mp ho), if_pos ho]
      exact hk 0
    · rw [if_neg (fun h => ho (hopt.mpr h)), if_neg ho]
  | cons t r =>
    have hk0 : interpLoop f rest (t :: r) v = langWords ws (t :: r) v := hk 0
    simp only [interpLoop, hsk, hne', if_false, hncls, hnbang, hmc t (hts t (by simp)), langWords]
    cases altsR as t v with
    | t => exact (cont_eq f rest v hr r (bars ps ++ rest) (toSpace_append (bars ps) rest hw hr)).trans (hk 1)
    | err => rfl
    | f =>
      cases opt with
      | false => rfl
      | true =>
        simp only [mcOut, if_true]
        by_cases h3 : t.str = [] ∧ rest = []
        · -- empty token text at the very end of the pattern: 1 instead of 0, same verdict
          simp only [h3, and_self, decide_true, if_true]
          rw [toSpace_word (bars ps) [] hw (.inl rfl), ← hk0, h3.2, interpLoop_nil]
          rfl
        · simp only [h3, decide_false, Bool.false_eq_true, if_false]
          rw [skipWord_word (bars ps) rest hw hr]
          exact hk0

theorem langWords_one (a : Atom) (ws : List Word) (ts : List Tok) (v : Nat) :
    langWords (.one a :: ws) ts v = langWords (.alts [a] false :: ws) ts v := by
  cases ts with
  | nil => rfl
  | cons t r =>
    simp only [langWords, altsR]
    cases a.evalR t v <;> rfl

theorem word_step (f v : Nat) {w : Str} {W : Word} (hW : DocWord w W) (rest : Str) (ws : List Word)
    (hr : restOK rest) (hnul : ∀ c ∈ w, c ≠ '\x00') (ts : List Tok) (hts : ∀ t ∈ ts, TokStrOK t = true)
    (hk : ∀ n, interpLoop f rest (ts.drop n) v = langWords ws (ts.drop n) v) :
    interpLoop (f + 1) (w ++ rest) ts v = langWords (W :: ws) ts v := by
  obtain ⟨hne, hsp⟩ := docWord_chars w W hW
  have hw : ∀ x ∈ w, x ≠ ' ' := fun x hx e => hsp (e ▸ hx)
  cases hW with
  | cls cs _ _ => exact step_cls f v cs rest ws (fun x hx => hw x (by simp [hx])) hr ts hk
  | neg s hsne _ _ =>
    refine step_neg f v s rest ws (fun x hx => hw x (by simp [hx])) ?_ hr ts hts hk
    cases s with
    | nil => exact absurd rfl hsne
    | cons c s' => exact hnul c (by simp)
  | one _ A hA hnb hng =>
    -- a single command / literal: the one-element case of alternatives
    rw [langWords_one]
    exact step_multi f v rest ws hr (.last hA) hne hw hnul hnb hng ts hts hk
  | alts ps as hlen hdl hfa hnb hng =>
    exact step_multi f v rest ws hr (docParts_of ps as (by intro e; subst e; simp at hlen) hdl hfa)
      hne hw hnul hnb hng ts hts hk

theorem interpLoop_blank (f : Nat) (p : Str) (ts : List Tok) (v : Nat) (hf : (' ' :: p).length < f) :
    interpLoop f (' ' :: p) ts v = interpLoop f p ts v := by
  cases f with
  | zero => omega
  | succ f => rfl

/-- **main induction**, over the derivation of the pattern in the documented grammar -/
theorem interpLoop_eq (v : Nat) {p : Str} {Ws : List Word} (h : DocPattern p Ws) :
    ∀ (f : Nat) (ts : List Tok), p.length < f → (∀ c ∈ p, c ≠ '\x00') → (∀ t ∈ ts, TokStrOK t = true) →
      interpLoop f p ts v = langWords Ws ts v := by
  induction h with
  | nil =>
    intro f ts hf _ _
    cases f with
    | zero => omega
    | succ f => rfl
  | blank p Ws _ ih =>
    intro f ts hf hn hts
    rw [interpLoop_blank f p ts v hf]
    exact ih f ts (by simp at hf; omega) (fun c hc => hn c (by simp [hc])) hts
  | last w W hw =>
    intro f ts hf hn hts
    cases f with
    | zero => omega
    | succ f =>
      have := word_step f v hw [] [] (.inl rfl) hn ts hts fun n => interpLoop_nil f _ v
      rwa [List.append_nil] at this
  | word w W p Ws hw _ ih =>
    intro f ts hf hn hts
    cases f with
    | zero => omega
    | succ f =>
      have hlen : (' ' :: p).length < f := by
        have := List.length_pos_iff.2 (docWord_chars w W hw).1
        simp only [List.length_append] at hf
        omega
      exact word_step f v hw (' ' :: p) Ws (.inr ⟨p, rfl⟩) (fun c hc => hn c (by simp [hc])) ts hts fun n => by
        rw [interpLoop_blank f p _ v hlen]
        exact ih f _ (by simp at hlen; omega) (fun c hc => hn c (by simp [hc])) fun t ht => hts t (List.mem_of_mem_drop ht)

/-- exact word-by-word equality of the token texts with the pattern words -/
def exactWords : List Str → List Tok → Bool
  | [], _ => true
  | _ :: _, [] => false
  | w :: ws, t :: r => t.str = w && exactWords ws r

theorem simpleLoop_eq : ∀ (f : Nat) (cur : Str) (ts : List Tok), cur.length < f →
    (∀ w ∈ splitOn ' ' cur, w ≠ []) →
    simpleLoop f cur ts = exactWords (splitOn ' ' cur) ts := by
  intro f
  induction f with
  | zero => intro cur ts h; omega
  | succ f ih =>
    intro cur ts hlen hall
    have hne : cur ≠ [] := by
      intro e; subst e; exact hall [] (by simp [splitOn]) rfl
    obtain ⟨hsplit, hrest, hwsp⟩ := first_word cur
    simp only [simpleLoop, hne, if_false, ← skipWord_eq]
    generalize cur.takeWhile (· ≠ ' ') = w at hsplit hwsp
    generalize skipWord cur = rest at hsplit hrest
    subst hsplit
    rcases hrest with rfl | ⟨rest', rfl⟩
    · rw [List.append_nil, splitOn_nosep ' ' w hwsp]
      cases ts with
      | nil => simp [exactWords]
      | cons t r =>
        by_cases he : t.str = w <;> simp [exactWords, he]
    · rw [splitOn_append_sep ' ' w rest' hwsp] at hall ⊢
      cases ts with
      | nil => simp [exactWords]
      | cons t r =>
        by_cases he : t.str = w
        · simp only [exactWords, he, ne_eq, not_true_eq_false, if_false, decide_true, Bool.true_and]
          exact ih rest' r (by simp at hlen; omega) (fun w' hw' => hall w' (by simp [hw']))
        · simp [exactWords, he]

theorem simplePatternWF_words (p : Str) (h : simplePatternWF p = true) :
    ∀ w ∈ splitOn ' ' p, w ≠ [] ∧ ∃ s, Word.ofStr w = .one (.lit s) := by
  simp only [simplePatternWF, Bool.and_eq_true, decide_eq_true_eq, List.all_eq_true] at h
  intro w hw
  have := h.2 w hw
  refine ⟨this.1, ?_⟩
  have h2 := this.2
  split at h2
  · exact ⟨_, by assumption⟩
  · exact absurd h2 (by simp)

theorem words_of_simple (p : Str) (h : simplePatternWF p = true) : words p = splitOn ' ' p := by
  simp only [words, List.filter_eq_self, decide_eq_true_eq]
  exact fun w hw => (simplePatternWF_words p h w hw).1

theorem ofStr_one_lit (w s : Str) (h : Word.ofStr w = .one (.lit s)) : s = w := by
  rcases ofStr_cases w with ⟨_, hof⟩ | ⟨_, _, hof⟩ | ⟨_, _, _, hof⟩ | ⟨_, _, _, hof⟩ <;> rw [hof] at h
  · cases h
  · cases h
  · cases h
  · simp only [Word.one.injEq] at h
    unfold Atom.ofStr at h
    cases hcmd : Cmd.ofStr w with
    | some c => rw [hcmd] at h; cases h
    | none => rw [hcmd] at h; cases h; rfl

/-- the documented language on literal-only words = exact word equality -/
theorem langWords_lits (v : Nat) : ∀ (ws : List Str) (ts : List Tok),
    (∀ w ∈ ws, ∃ s, Word.ofStr w = .one (.lit s)) →
    langWords (ws.map Word.ofStr) ts v = Res.ofBool (exactWords ws ts) := by
  intro ws
  induction ws with
  | nil => intro ts _; rfl
  | cons w ws ih =>
    intro ts h
    obtain ⟨s, hs⟩ := h w (by simp)
    obtain rfl := ofStr_one_lit w s hs
    rw [List.map_cons, hs]
    cases ts with
    | nil => rfl
    | cons t r =>
      simp only [langWords, Atom.evalR, reduceCtorEq, false_and, if_false, Atom.eval, exactWords,
        ih r (fun w' hw' => h w' (by simp [hw']))]
      by_cases he : t.str = s <;> simp [he, Res.ofBool]

theorem usesVarid_lits : ∀ (ws : List Str), (∀ w ∈ ws, ∃ s, Word.ofStr w = .one (.lit s)) →
    usesVarid (ws.map Word.ofStr) = false := by
  intro ws h
  simp only [usesVarid, List.any_eq_false, List.mem_map]
  rintro _ ⟨w, hw, rfl⟩
  obtain ⟨s, hs⟩ := h w hw
  rw [hs]
  simp

end Cppcheck.Match
