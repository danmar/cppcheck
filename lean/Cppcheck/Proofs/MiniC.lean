import Cppcheck.Model.MiniC
/-
C01 — big-step semantics of MiniC statements as an inductive relation, and the two directions (`bigstep_exec`,
`exec_bigstep`) of its agreement with the fuel-indexed interpreter `execS` (Model/MiniC.lean):
`BigStep σ st o evs ↔ ∃ fuel, execS fuel σ st = (o, evs) ∧ o ≠ timeout` (`interpreter_agrees_bigstep` of Props/C01.lean).
Expression evaluation `evalE` is a total structural function and is shared by both.
-/
namespace Cppcheck.MiniC
open Cppcheck.Platforms

def Out.isNormal : Out → Bool
  | .normal _ => true
  | _ => false

def Out.continues : Out → Option Env
  | .normal e => some e
  | .cont e => some e
  | _ => none

inductive BigStep (P : Platform) (vars : List Ty) : Env → Stmt → Out → List Event → Prop
  | skip (σ) : BigStep P vars σ .skip (.normal σ) []
  | assign (σ id x e v ev) : evalE P vars σ e = (some v, ev) →
      BigStep P vars σ (.assign id x e) (.normal (setVar σ x (conv P (varTy vars x) v))) (ev ++ [(id, conv P (varTy vars x) v)])
  | assignUb (σ id x e ev) : evalE P vars σ e = (none, ev) → BigStep P vars σ (.assign id x e) .ub ev
  | compound (σ id op x e v r ev) : evalE P vars σ e = (some v, ev) →
      evalBin P op (varTy vars x) (tyOf P vars e) (σ.getD x 0) v = some r →
      BigStep P vars σ (.compound id op x e) (.normal (setVar σ x (conv P (varTy vars x) r))) (ev ++ [(id, conv P (varTy vars x) r)])
  | compoundUb1 (σ id op x e ev) : evalE P vars σ e = (none, ev) → BigStep P vars σ (.compound id op x e) .ub ev
  | compoundUb2 (σ id op x e v ev) : evalE P vars σ e = (some v, ev) →
      evalBin P op (varTy vars x) (tyOf P vars e) (σ.getD x 0) v = none → BigStep P vars σ (.compound id op x e) .ub ev
  | incdec (σ id inc pre x r) : evalBin P (if inc then .add else .sub) (varTy vars x) tInt (σ.getD x 0) 1 = some r →
      BigStep P vars σ (.incdec id inc pre x) (.normal (setVar σ x (conv P (varTy vars x) r)))
        [(id, if pre then conv P (varTy vars x) r else σ.getD x 0)]
  | incdecUb (σ id inc pre x) : evalBin P (if inc then .add else .sub) (varTy vars x) tInt (σ.getD x 0) 1 = none →
      BigStep P vars σ (.incdec id inc pre x) .ub []
  | seqNormal (σ σ' a b o ev1 ev2) : BigStep P vars σ a (.normal σ') ev1 → BigStep P vars σ' b o ev2 →
      BigStep P vars σ (.seq a b) o (ev1 ++ ev2)
  | seqAbort (σ a b o ev1) : BigStep P vars σ a o ev1 → o.isNormal = false → BigStep P vars σ (.seq a b) o ev1
  | iteTrue (σ c a b vc ev1 o ev2) : evalE P vars σ c = (some vc, ev1) → vc ≠ 0 → BigStep P vars σ a o ev2 →
      BigStep P vars σ (.ite c a b) o (ev1 ++ ev2)
  | iteFalse (σ c a b ev1 o ev2) : evalE P vars σ c = (some 0, ev1) → BigStep P vars σ b o ev2 →
      BigStep P vars σ (.ite c a b) o (ev1 ++ ev2)
  | iteUb (σ c a b ev1) : evalE P vars σ c = (none, ev1) → BigStep P vars σ (.ite c a b) .ub ev1
  | whileFalse (σ c body ev1) : evalE P vars σ c = (some 0, ev1) → BigStep P vars σ (.while c body) (.normal σ) ev1
  | whileUb (σ c body ev1) : evalE P vars σ c = (none, ev1) → BigStep P vars σ (.while c body) .ub ev1
  | whileIter (σ σ' c body vc ev1 o1 ev2 o ev3) : evalE P vars σ c = (some vc, ev1) → vc ≠ 0 →
      BigStep P vars σ body o1 ev2 → o1.continues = some σ' → BigStep P vars σ' (.while c body) o ev3 →
      BigStep P vars σ (.while c body) o (ev1 ++ ev2 ++ ev3)
  | whileBrk (σ σ' c body vc ev1 ev2) : evalE P vars σ c = (some vc, ev1) → vc ≠ 0 →
      BigStep P vars σ body (.brk σ') ev2 → BigStep P vars σ (.while c body) (.normal σ') (ev1 ++ ev2)
  | whileRet (σ c body vc ev1 ev2) : evalE P vars σ c = (some vc, ev1) → vc ≠ 0 →
      BigStep P vars σ body .ret ev2 → BigStep P vars σ (.while c body) .ret (ev1 ++ ev2)
  | whileBodyUb (σ c body vc ev1 ev2) : evalE P vars σ c = (some vc, ev1) → vc ≠ 0 →
      BigStep P vars σ body .ub ev2 → BigStep P vars σ (.while c body) .ub (ev1 ++ ev2)
  | brk (σ) : BigStep P vars σ .brk (.brk σ) []
  | cont (σ) : BigStep P vars σ .cont (.cont σ) []
  | ret (σ e v ev) : evalE P vars σ e = (some v, ev) → BigStep P vars σ (.ret e) .ret ev
  | retUb (σ e ev) : evalE P vars σ e = (none, ev) → BigStep P vars σ (.ret e) .ub ev

def Out.isTimeout : Out → Bool
  | .timeout => true
  | _ => false

def Eventually (p : Nat → Prop) : Prop := ∃ n, ∀ m, n ≤ m → p m

theorem Eventually.exists {p : Nat → Prop} (hp : Eventually p) : ∃ m, p m :=
  hp.elim fun n hn => ⟨n, hn n (Nat.le_refl n)⟩

theorem Eventually.and {p q : Nat → Prop} (hp : Eventually p) (hq : Eventually q) : Eventually fun m => p m ∧ q m := by
  obtain ⟨a, ha⟩ := hp
  obtain ⟨b, hb⟩ := hq
  exact ⟨a + b, fun m hm => ⟨ha m (by omega), hb m (by omega)⟩⟩

/-- one more unit of fuel: the interpreter at `m + 1` runs the parts of a statement at `m` -/
theorem Eventually.succ {p q : Nat → Prop} (hp : Eventually p) (h : ∀ m, p m → q (m + 1)) : Eventually q := by
  obtain ⟨a, ha⟩ := hp
  exact ⟨a + 1, fun | m + 1, hm => h m (ha m (by omega))⟩

theorem Eventually.now {q : Nat → Prop} (h : ∀ m, q (m + 1)) : Eventually q :=
  ⟨1, fun | m + 1, _ => h m⟩

section
variable {P : Platform} {vars : List Ty}

theorem bigstep_not_timeout {σ : Env} {st : Stmt} {o : Out} {evs : List Event} (h : BigStep P vars σ st o evs) : o.isTimeout = false := by
  induction h <;> simp_all [Out.isTimeout]

theorem bigstep_exec {σ : Env} {st : Stmt} {o : Out} {evs : List Event} (h : BigStep P vars σ st o evs) :
    Eventually fun m => execS P vars m σ st = (o, evs) := by
  induction h with
  | skip σ | brk σ | cont σ => exact .now fun m => by simp [execS]
  | assign σ id x e v ev he | assignUb σ id x e ev he | compoundUb1 σ id op x e ev he | ret σ e v ev he | retUb σ e ev he
  | iteUb σ c a b ev he | whileFalse σ c body ev he | whileUb σ c body ev he =>
    exact .now fun m => by simp [execS, he]
  | compound σ id op x e v r ev he hb | compoundUb2 σ id op x e v ev he hb => exact .now fun m => by simp only [execS, he, hb]
  | incdec σ id inc pre x r hb | incdecUb σ id inc pre x hb => exact .now fun m => by simp only [execS, hb]
  | seqNormal σ σ' a b o ev1 ev2 ha hb iha ihb =>
    refine (iha.and ihb).succ fun m ⟨h1, h2⟩ => ?_
    simp only [execS]
    rw [h1]
    simp only []
    rw [h2]
  | seqAbort σ a b o ev1 ha hn iha =>
    refine iha.succ fun m h1 => ?_
    simp only [execS]
    rw [h1]
    cases o <;> simp_all [Out.isNormal]
  | iteTrue σ c a b vc ev1 o ev2 hc hv ha iha => exact iha.succ fun m h1 => by simp [execS, hc, hv, h1]
  | iteFalse σ c a b ev1 o ev2 hc hb ihb => exact ihb.succ fun m h1 => by simp [execS, hc, h1]
  | whileIter σ σ' c body vc ev1 o1 ev2 o ev3 hc hv hb hcont hw ihb ihw =>
    refine (ihb.and ihw).succ fun m ⟨h1, h2⟩ => ?_
    rw [execS, hc]
    simp only [hv, if_false]
    rw [h1]
    cases o1 <;> simp [Out.continues] at hcont
    -- left: `normal` and `cont`
    all_goals
      subst hcont
      simp only []
      rw [h2]
  | whileBrk σ σ' c body vc ev1 ev2 hc hv hb ihb | whileRet σ c body vc ev1 ev2 hc hv hb ihb
  | whileBodyUb σ c body vc ev1 ev2 hc hv hb ihb =>
    refine ihb.succ fun m h1 => ?_
    rw [execS, hc]
    simp only [hv, if_false]
    rw [h1]

theorem exec_bigstep (n : Nat) : ∀ (σ : Env) (st : Stmt),
    (execS P vars n σ st).1.isTimeout = false → BigStep P vars σ st (execS P vars n σ st).1 (execS P vars n σ st).2 := by
  induction n with
  | zero => intro σ st ht; cases ht
  | succ n ih =>
    intro σ st
    cases st with
    | skip => exact fun _ => .skip σ
    | brk => exact fun _ => .brk σ
    | cont => exact fun _ => .cont σ
    | assign id x e =>
      simp only [execS]
      rcases he : evalE P vars σ e with ⟨_ | v, ev⟩
      · exact fun _ => .assignUb σ id x e ev he
      · exact fun _ => .assign σ id x e v ev he
    | ret e =>
      simp only [execS]
      rcases he : evalE P vars σ e with ⟨_ | v, ev⟩
      · exact fun _ => .retUb σ e ev he
      · exact fun _ => .ret σ e v ev he
    | compound id op x e =>
      simp only [execS]
      rcases he : evalE P vars σ e with ⟨_ | v, ev⟩
      · exact fun _ => .compoundUb1 σ id op x e ev he
      · simp only []
        cases hb : evalBin P op (varTy vars x) (tyOf P vars e) (σ.getD x 0) v with
        | none => exact fun _ => .compoundUb2 σ id op x e v ev he hb
        | some r => exact fun _ => .compound σ id op x e v r ev he hb
    | incdec id inc pre x =>
      simp only [execS]
      cases hb : evalBin P (if inc = true then BinOp.add else BinOp.sub) (varTy vars x) tInt (σ.getD x 0) 1 with
      | none => exact fun _ => .incdecUb σ id inc pre x hb
      | some r => exact fun _ => .incdec σ id inc pre x r hb
    | seq a b =>
      simp only [execS]
      have A := ih σ a
      rcases hea : execS P vars n σ a with ⟨oa, ev1⟩
      rw [hea] at A
      cases oa with
      | normal σ' => exact fun ht => .seqNormal σ σ' a b _ ev1 _ (A rfl) (ih σ' b ht)
      | brk _ | cont _ | ret | ub => exact fun _ => .seqAbort σ a b _ _ (A rfl) rfl
      | timeout => exact fun ht => nomatch ht
    | ite c a b =>
      simp only [execS]
      rcases hec : evalE P vars σ c with ⟨_ | vc, ev1⟩
      · exact fun _ => .iteUb σ c a b ev1 hec
      · by_cases hv : vc = 0
        · subst hv
          exact fun ht => .iteFalse σ c a b ev1 _ _ hec (ih σ b ht)
        · simp only [ne_eq, hv, not_false_eq_true, if_true]
          exact fun ht => .iteTrue σ c a b vc ev1 _ _ hec hv (ih σ a ht)
    | «while» c body =>
      rw [execS]
      rcases hec : evalE P vars σ c with ⟨_ | vc, ev1⟩
      · exact fun _ => .whileUb σ c body ev1 hec
      · by_cases hv : vc = 0
        · subst hv
          exact fun _ => .whileFalse σ c body ev1 hec
        · simp only [hv, if_false]
          have B := ih σ body
          rcases heb : execS P vars n σ body with ⟨ob, ev2⟩
          rw [heb] at B
          cases ob with
          | normal σ' | cont σ' =>
            exact fun ht => .whileIter σ σ' c body vc ev1 _ ev2 _ _ hec hv (B rfl) rfl (ih σ' _ ht)
          | brk σ' => exact fun _ => .whileBrk σ σ' c body vc ev1 ev2 hec hv (B rfl)
          | ret => exact fun _ => .whileRet σ c body vc ev1 ev2 hec hv (B rfl)
          | ub => exact fun _ => .whileBodyUb σ c body vc ev1 ev2 hec hv (B rfl)
          | timeout => exact fun ht => nomatch ht

end

end Cppcheck.MiniC
