import Cppcheck.Model.MatchEquiv
import Cppcheck.Proofs.TextLemmas
/- C05, the pattern part: `semWords` is equivariant under maps of the token spellings that respect the strings a pattern
   compares with (`semWords_map`); a renaming that avoids a list `R` respects `R` and keeps the token-type invariant `TokWF` of C33. -/
namespace Cppcheck.MatchEquiv
open Cppcheck.Wire Cppcheck.Match

/-- `f` neither creates nor destroys an equality of the spelling `x` with one of the strings in `L` -/
def Respects (f : Str → Str) (L : List Str) (x : Str) : Prop := ∀ s ∈ L, (f x = s ↔ x = s)

def Compat (f : Str → Str) (L : List Str) (ts : List Tok) : Prop := ∀ t ∈ ts, Respects f L t.str

instance (f : Str → Str) (L : List Str) (x : Str) : Decidable (Respects f L x) := by
  unfold Respects; exact inferInstance

instance (f : Str → Str) (L : List Str) (ts : List Tok) : Decidable (Compat f L ts) := by
  unfold Compat; exact inferInstance

theorem Respects.mono {f : Str → Str} {L L' : List Str} {x : Str} (h : Respects f L x) (hs : ∀ s ∈ L', s ∈ L) :
    Respects f L' x := fun s hs' => h s (hs s hs')

theorem Compat.mono {f : Str → Str} {L L' : List Str} {ts : List Tok} (h : Compat f L ts) (hs : ∀ s ∈ L', s ∈ L) :
    Compat f L' ts := fun t ht => (h t ht).mono hs

theorem Compat.tail {f : Str → Str} {L : List Str} {t : Tok} {ts : List Tok} (h : Compat f L (t :: ts)) :
    Compat f L ts := fun t' ht' => h t' (by simp [ht'])

theorem respects_eq {f : Str → Str} {L : List Str} {x s : Str} (h : Respects f L x) (hs : s ∈ L) :
    decide (f x = s) = decide (x = s) := by
  have := h s hs
  by_cases hx : x = s
  · subst hx
    simp [this.2 rfl]
  · have : ¬ f x = s := fun h' => hx (this.1 h')
    simp [hx, this]

@[simp] theorem mapTok_str (f : Str → Str) (t : Tok) : (mapTok f t).str = f t.str := rfl
@[simp] theorem mapTok_ty (f : Str → Str) (t : Tok) : (mapTok f t).ty = t.ty := rfl
@[simp] theorem mapTok_varId (f : Str → Str) (t : Tok) : (mapTok f t).varId = t.varId := rfl
@[simp] theorem mapTok_isName (f : Str → Str) (t : Tok) : (mapTok f t).isName = t.isName := rfl

theorem cmd_eval_map (f : Str → Str) (c : Cmd) (t : Tok) (v : Nat) (h : Respects f (cmdLits c) t.str) :
    c.eval (mapTok f t) v = c.eval t v := by
  cases c
  case or =>
    show (decide (t.ty = .eBitOp) && decide (f t.str = ['|'])) = (decide (t.ty = .eBitOp) && decide (t.str = ['|']))
    rw [respects_eq h (by simp [cmdLits])]
  case oror =>
    show (decide (t.ty = .eLogicalOp) && decide (f t.str = ['|', '|'])) = (decide (t.ty = .eLogicalOp) && decide (t.str = ['|', '|']))
    rw [respects_eq h (by simp [cmdLits])]
  all_goals rfl

theorem atom_eval_map (f : Str → Str) (a : Atom) (t : Tok) (v : Nat) (h : Respects f (atomLits a) t.str) :
    a.eval (mapTok f t) v = a.eval t v := by
  cases a with
  | cmd c => exact cmd_eval_map f c t v h
  | lit s =>
    simp only [Atom.eval, mapTok_str]
    exact respects_eq h (by simp [atomLits])

theorem any_atom_eval_map (f : Str → Str) (as : List Atom) (t : Tok) (v : Nat)
    (h : Respects f (as.flatMap atomLits) t.str) :
    as.any (·.eval (mapTok f t) v) = as.any (·.eval t v) :=
  Text.any_congr_mem fun a ha => atom_eval_map f a t v (h.mono fun _ hs => List.mem_flatMap.2 ⟨a, ha, hs⟩)

/-- the `[abc]` test as a Boolean function of the spelling -/
def clsTest (cs : Str) (x : Str) : Bool :=
  match x with
  | [c] => cs.contains c
  | _ => false

theorem clsTest_iff (cs x : Str) : clsTest cs x = true ↔ ∃ c ∈ cs, x = [c] := by
  unfold clsTest
  split
  · rename_i c
    simp
  · rename_i hne
    constructor
    · intro h; cases h
    · rintro ⟨c, _, rfl⟩
      exact absurd rfl (hne c)

theorem clsTest_map (f : Str → Str) (cs x : Str) (h : Respects f (cs.map (fun c => [c])) x) :
    clsTest cs (f x) = clsTest cs x := by
  rw [Bool.eq_iff_iff, clsTest_iff, clsTest_iff]
  exact exists_congr fun c => and_congr_right fun hc => h [c] (List.mem_map.2 ⟨c, hc, rfl⟩)

/-- **word-level equivariance**: renaming the spellings of the tokens by a map that respects the
    strings the pattern words compare with does not change the verdict. -/
theorem semWords_map (f : Str → Str) (v : Nat) :
    ∀ (ws : List Word) (ts : List Tok), Compat f (lits ws) ts →
      semWords ws (ts.map (mapTok f)) v = semWords ws ts v := by
  intro ws
  induction ws with
  | nil => intro ts _; simp [semWords]
  | cons w ws ih =>
    intro ts h
    have hws : Compat f (lits ws) ts :=
      h.mono (by intro s hs; simp only [lits, List.flatMap_cons, List.mem_append]; exact Or.inr hs)
    have hw : Compat f (wordLits w) ts :=
      h.mono (by intro s hs; simp only [lits, List.flatMap_cons, List.mem_append]; exact Or.inl hs)
    cases w with
    | cls cs =>
      cases ts with
      | nil => simp [semWords]
      | cons t r =>
        have ht := hw t (by simp)
        simp only [wordLits] at ht
        have := clsTest_map f cs t.str ht
        simp only [clsTest] at this
        simp only [List.map_cons, semWords, ih r hws.tail]
        exact congrArg (· && semWords ws r v) this
    | alts as opt =>
      cases ts with
      | nil => simp [semWords]
      | cons t r =>
        have ht := hw t (by simp)
        simp only [wordLits] at ht
        simp only [List.map_cons, semWords, any_atom_eval_map f as t v ht, ih r hws.tail]
        have := ih (t :: r) hws
        simp only [List.map_cons] at this
        rw [this]
    | neg s =>
      cases ts with
      | nil => simp [semWords]
      | cons t r =>
        have ht := hw t (by simp)
        have := respects_eq ht (s := s) (by simp [wordLits])
        have e : decide (¬ f t.str = s) = decide (¬ t.str = s) := by simp only [decide_not, this]
        simp only [List.map_cons, semWords, ih r hws.tail, ne_eq]
        exact congrArg (· && semWords ws r v) e
    | one a =>
      cases ts with
      | nil => simp [semWords]
      | cons t r =>
        have ht := hw t (by simp)
        simp only [wordLits] at ht
        simp only [List.map_cons, semWords, atom_eval_map f a t v ht, ih r hws.tail]

theorem lookup_mem {α β : Type} [BEq α] [LawfulBEq α] (l : List (α × β)) (k : α) (v : β)
    (h : l.lookup k = some v) : (k, v) ∈ l := by
  obtain ⟨l₁, l₂, rfl, _⟩ := List.lookup_eq_some_iff.1 h
  simp

theorem avoids_spec (σ : Renaming) (R : List Str) (h : σ.avoids R = true) (x : Str) :
    (x ∈ R → σ.f x = x) ∧ (x ∉ R → σ.f x ∉ R) := by
  simp only [Renaming.avoids, List.all_eq_true, Bool.and_eq_true, Bool.not_eq_true', List.contains_eq_mem,
    decide_eq_false_iff_not] at h
  unfold Renaming.f
  cases hl : σ.map.lookup x with
  | none => exact ⟨fun _ => rfl, fun hx => hx⟩
  | some y =>
    have := h (x, y) (lookup_mem _ _ _ hl)
    exact ⟨fun hx => absurd hx this.1, fun _ => this.2⟩

theorem avoids_respects (σ : Renaming) (R : List Str) (h : σ.avoids R = true) (x : Str) : Respects σ.f R x := by
  intro s hs
  have hx := avoids_spec σ R h x
  constructor
  · intro e
    by_cases hxR : x ∈ R
    · rw [hx.1 hxR] at e; exact e
    · exact absurd (e ▸ hs) (hx.2 hxR)
  · intro e
    subst e
    exact hx.1 hs

theorem avoids_compat (σ : Renaming) (R : List Str) (h : σ.avoids R = true) (ts : List Tok) : Compat σ.f R ts :=
  fun t _ => avoids_respects σ R h t.str

theorem lookupTypes_eq_nil (s : Str) : ∀ (tbl : List (String × List TokType)), s ∉ tbl.map (·.1.toList) → lookupTypes s tbl = []
  | [], _ => rfl
  | (k, tys) :: r, hm => by
    simp only [List.map_cons, List.mem_cons, not_or] at hm
    rw [lookupTypes, if_neg (fun e => hm.1 e.symm)]
    exact lookupTypes_eq_nil s r hm.2

theorem tokWF_map (σ : Renaming) (R : List Str) (h : σ.avoids R = true)
    (hR : ∀ k ∈ tokTypes.map (·.1.toList), k ∈ R) (t : Tok) (ht : TokWF t = true) : TokWF (σ.tok t) = true := by
  have hx := avoids_spec σ R h t.str
  by_cases hxR : t.str ∈ R
  · have : σ.tok t = t := by
      simp only [Renaming.tok, mapTok, hx.1 hxR]
    rw [this]; exact ht
  · simp only [TokWF, Bool.and_eq_true, Bool.or_eq_true, decide_eq_true_eq] at ht ⊢
    refine ⟨Or.inl ?_, ht.2⟩
    simp only [Renaming.tok, mapTok_str]
    exact lookupTypes_eq_nil _ tokTypes fun hm => hx.2 hxR (hR _ hm)

theorem mem_reservedOf_of_pattern (patterns extra : List Str) (p : Str) (hp : p ∈ patterns) (s : Str)
    (hs : s ∈ patLits p) : s ∈ reservedOf patterns extra := by
  simp only [reservedOf, List.mem_append, List.mem_flatMap]
  exact Or.inl (Or.inl ⟨p, hp, hs⟩)

theorem tokTypes_sub_reservedOf (patterns extra : List Str) :
    ∀ k ∈ tokTypes.map (·.1.toList), k ∈ reservedOf patterns extra := by
  intro k hk
  simp only [reservedOf, List.mem_append]
  exact Or.inr hk

end Cppcheck.MatchEquiv
