import Cppcheck.Model.Infer
import Cppcheck.Proofs.Calc
/-
C01 — soundness of `infer()` (lib/infer.cpp): the invariant `Interval.Ok` that `fromValues` establishes, then one lemma per
branch of `infer`, joined in `infer_core` for the code before and after commit 8842d71.
-/
namespace Cppcheck.Infer
open Cppcheck.Calc

/-- a value that is a claim about every execution: Known or Impossible -/
def Value.hard (v : Value) : Bool := v.kind == .known || v.kind == .impossible

/-- what a claiming value says about the concrete integer `a` (Possible / Inconclusive values claim nothing) -/
def Value.holds (v : Value) (a : Int) : Prop :=
  match v.kind, v.bound with
  | .known, _ => a = v.intvalue
  | .impossible, .point => a ≠ v.intvalue
  | .impossible, .upper => v.intvalue < a
  | .impossible, .lower => a < v.intvalue
  | _, _ => True

instance (v : Value) (a : Int) : Decidable (v.holds a) := by
  unfold Value.holds; split <;> exact inferInstance

/-- magnitude bound under which no bound computation of `infer` leaves `long long`: the difference of two bounds, ±1, stays
    inside int64 (`2 * Bnd + 1 < 2 ^ 63`) -/
def Bnd : Int := 2 ^ 62 - 1
def Value.small (v : Value) : Prop := -Bnd < v.intvalue ∧ v.intvalue < Bnd
instance (v : Value) : Decidable v.small := by unfold Value.small; exact inferInstance
theorem Bnd_eq : Bnd = 4611686018427387903 := by decide

/-- the mathematical meaning of the operators `infer` is called with -/
def opSem (op : Op) (a b : Int) : Int :=
  match op with
  | .sub => a - b
  | .lt => b2i (decide (a < b))
  | .le => b2i (decide (a ≤ b))
  | .gt => b2i (decide (a > b))
  | .ge => b2i (decide (a ≥ b))
  | .eq => b2i (decide (a = b))
  | .ne => b2i (decide (a ≠ b))
  | _ => 0

def allHard (vs : List Value) : Prop := ∀ v ∈ vs, v.isInt = true → v.hard = true
instance (vs : List Value) : Decidable (allHard vs) := by unfold allHard; exact inferInstance

theorem getCompareValue_mem (cmp : Int → Int → Bool) (vs : List Value) (r : Option Value) (v : Value)
    (h : getCompareValue cmp vs r = some v) : v ∈ vs ∨ r = some v := by
  induction vs generalizing r with
  | nil => simp [getCompareValue] at h; exact Or.inr h
  | cons x xs ih =>
    cases r with
    | none =>
      simp only [getCompareValue] at h
      rcases ih _ h with h1 | h1
      · exact Or.inl (List.mem_cons_of_mem _ h1)
      · simp at h1; subst h1; exact Or.inl List.mem_cons_self
    | some r0 =>
      simp only [getCompareValue] at h
      rcases ih _ h with h1 | h1
      · exact Or.inl (List.mem_cons_of_mem _ h1)
      · simp at h1
        split at h1
        · exact Or.inr (by rw [h1])
        · subst h1; exact Or.inl List.mem_cons_self

theorem getCompareValue_mem' (cmp : Int → Int → Bool) (vs : List Value) (v : Value)
    (h : getCompareValue cmp vs none = some v) : v ∈ vs := by
  rcases getCompareValue_mem cmp vs none v h with h1 | h1
  · exact h1
  · simp at h1

theorem isClaim_hard {refs : List Value} (hc : isClaim refs = true) : ∀ r ∈ refs, r.hard = true := by
  intro r hr'
  unfold isClaim at hc
  simp at hc
  have := hc r hr'
  unfold Value.hard
  unfold Value.isPossible Value.isInconclusive at this
  cases hk : r.kind <;> simp_all

theorem isClaim_of_known {refs : List Value} (h : valueKindOf refs = .known) : isClaim refs = true := by
  unfold valueKindOf at h
  split at h
  · cases h
  · split at h
    · cases h
    · simp_all [isClaim]

theorem all_hard_of_known (refs : List Value) (h : valueKindOf refs = .known) : ∀ r ∈ refs, r.hard = true :=
  isClaim_hard (isClaim_of_known h)

theorem hard_of_kind (v : Value) (h : valueKindOf [v] = .known) : v.hard = true :=
  all_hard_of_known [v] h v List.mem_cons_self

/-- invariant of an interval built from the values `vs` that describe the integer `a`; a bound that rests on a Possible value
    promises nothing (the proviso of `minH`, `maxH`) -/
structure Interval.Ok (i : Interval) (vs : List Value) (a : Int) : Prop where
  minS : ∀ m, i.minvalue = some m → -Bnd ≤ m ∧ m ≤ Bnd
  maxS : ∀ m, i.maxvalue = some m → -Bnd ≤ m ∧ m ≤ Bnd
  minH : ∀ m, i.minvalue = some m → (∀ r ∈ i.minRef, r.hard = true) → m ≤ a
  maxH : ∀ m, i.maxvalue = some m → (∀ r ∈ i.maxRef, r.hard = true) → a ≤ m
  minR : ∀ r ∈ i.minRef, r ∈ vs
  maxR : ∀ r ∈ i.maxRef, r ∈ vs

theorem ok_empty (vs : List Value) (a : Int) : Interval.Ok {} vs a :=
  ⟨by simp, by simp, by simp, by simp, by simp, by simp⟩

theorem ok_setMin {i : Interval} {vs : List Value} {a : Int} (h : i.Ok vs a) (x : Int) (ref : Value) (hm : ref ∈ vs)
    (hs : -Bnd ≤ x ∧ x ≤ Bnd) (hh : ref.hard = true → x ≤ a) : (i.setMinValue x ref).Ok vs a := by
  refine ⟨?_, h.maxS, ?_, h.maxH, ?_, h.maxR⟩
  · intro m hm'; simp [Interval.setMinValue] at hm'; subst hm'; exact hs
  · intro m hm' hr; simp [Interval.setMinValue] at hm' hr; subst hm'; exact hh hr
  · intro r hr; simp [Interval.setMinValue] at hr; subst hr; exact hm

theorem ok_setMax {i : Interval} {vs : List Value} {a : Int} (h : i.Ok vs a) (x : Int) (ref : Value) (hm : ref ∈ vs)
    (hs : -Bnd ≤ x ∧ x ≤ Bnd) (hh : ref.hard = true → a ≤ x) : (i.setMaxValue x ref).Ok vs a := by
  refine ⟨h.minS, ?_, h.minH, ?_, h.minR, ?_⟩
  · intro m hm'; simp [Interval.setMaxValue] at hm'; subst hm'; exact hs
  · intro m hm' hr; simp [Interval.setMaxValue] at hm' hr; subst hm'; exact hh hr
  · intro r hr; simp [Interval.setMaxValue] at hr; subst hr; exact hm

theorem wrap_small (x : Int) (h : -(2 ^ 63) ≤ x ∧ x ≤ 2 ^ 63 - 1) : wrap64 x = x :=
  wrap64_of_in x (by unfold inI64 minI64 maxI64; omega)

section
variable {vs : List Value} {a : Int}
  (hs : ∀ v ∈ vs, v.small) (ha : ∀ v ∈ vs, v.hard = true → v.holds a)
include hs ha

theorem minStep_ok {i : Interval} (h : i.Ok vs a) (mn : Value) (hm : mn ∈ vs) : (minStep i mn).Ok vs a := by
  have hsm := hs mn hm
  have hB := Bnd_eq
  unfold Value.small at hsm
  have h1 : (mn.isImpossible && mn.bound == .upper) = true → (i.setMinValue (wrap64 (mn.intvalue + 1)) mn).Ok vs a := by
    intro hc
    simp [Value.isImpossible] at hc
    rw [wrap_small _ (by omega)]
    refine ok_setMin h _ _ hm (by omega) ?_
    intro hh
    have := ha mn hm hh
    unfold Value.holds at this
    rw [hc.1, hc.2] at this
    simp at this; omega
  have h2 : ∀ j : Interval, j.Ok vs a → (mn.isPossible && mn.bound == .lower) = true → (j.setMinValue mn.intvalue mn).Ok vs a := by
    intro j hj hc
    simp [Value.isPossible] at hc
    refine ok_setMin hj _ _ hm (by omega) ?_
    intro hh
    unfold Value.hard at hh
    rw [hc.1] at hh
    simp at hh
  unfold minStep
  by_cases c1 : (mn.isImpossible && mn.bound == .upper) = true <;>
    by_cases c2 : (mn.isPossible && mn.bound == .lower) = true <;> simp only [c1, c2, ↓reduceIte]
  · exact h2 _ (h1 c1) c2
  · exact h1 c1
  · exact h2 _ h c2
  · exact h

theorem maxStep_ok {i : Interval} (h : i.Ok vs a) (mx : Value) (hm : mx ∈ vs) : (maxStep i mx).Ok vs a := by
  -- as `minStep_ok`, bounds swapped
  have hsm := hs mx hm
  have hB := Bnd_eq
  unfold Value.small at hsm
  have h1 : (mx.isImpossible && mx.bound == .lower) = true → (i.setMaxValue (wrap64 (mx.intvalue - 1)) mx).Ok vs a := by
    intro hc
    simp [Value.isImpossible] at hc
    rw [wrap_small _ (by omega)]
    refine ok_setMax h _ _ hm (by omega) ?_
    intro hh
    have := ha mx hm hh
    unfold Value.holds at this
    rw [hc.1, hc.2] at this
    simp at this; omega
  have h2 : ∀ j : Interval, j.Ok vs a → (mx.isPossible && mx.bound == .upper) = true → (j.setMaxValue mx.intvalue mx).Ok vs a := by
    intro j hj hc
    simp [Value.isPossible] at hc
    refine ok_setMax hj _ _ hm (by omega) ?_
    intro hh
    unfold Value.hard at hh
    rw [hc.1] at hh
    simp at hh
  unfold maxStep
  by_cases c1 : (mx.isImpossible && mx.bound == .lower) = true <;>
    by_cases c2 : (mx.isPossible && mx.bound == .upper) = true <;> simp only [c1, c2, ↓reduceIte]
  · exact h2 _ (h1 c1) c2
  · exact h1 c1
  · exact h2 _ h c2
  · exact h

theorem fromInt_ok (mn : Value) (hm : mn ∈ vs) (hp : isPointLike mn vs.length = true) :
    (Interval.fromInt mn.intvalue mn).Ok vs a := by
  have hsm := hs mn hm
  have hB := Bnd_eq
  unfold Value.small at hsm
  have key : mn.hard = true → mn.intvalue = a := by
    intro hh
    have := ha mn hm hh
    unfold isPointLike at hp
    simp [Value.isImpossible, Value.isKnown] at hp
    unfold Value.hard at hh
    unfold Value.holds at this
    -- point-like is not Impossible; with `hard` that leaves Known, where `holds` is the equation
    cases hk : mn.kind <;> simp_all
  unfold Interval.fromInt
  refine ok_setMax (ok_setMin (ok_empty vs a) _ _ hm (by omega) ?_) _ _ hm (by omega) ?_
  · intro hh; rw [key hh]; exact Int.le_refl _
  · intro hh; rw [key hh]; exact Int.le_refl _

theorem fromValues_ok : (fromValues vs).Ok vs a := by
  unfold fromValues
  split
  · rename_i mn hmn
    have hm := getCompareValue_mem' _ _ _ hmn
    split
    · rename_i hp; exact fromInt_ok hs ha mn hm hp
    · split
      · rename_i mx hmx
        exact maxStep_ok hs ha (minStep_ok hs ha (ok_empty _ _) mn hm) mx (getCompareValue_mem' _ _ _ hmx)
      · exact minStep_ok hs ha (ok_empty _ _) mn hm
  · split
    · rename_i mx hmx
      exact maxStep_ok hs ha (ok_empty _ _) mx (getCompareValue_mem' _ _ _ hmx)
    · exact ok_empty _ _

end

/-- `Interval.Ok` at twice the bound, for the difference `lhs - rhs` -/
structure DiffOk (d : Interval) (vs : List Value) (x : Int) : Prop where
  minS : ∀ m, d.minvalue = some m → -(2 * Bnd) ≤ m ∧ m ≤ 2 * Bnd
  maxS : ∀ m, d.maxvalue = some m → -(2 * Bnd) ≤ m ∧ m ≤ 2 * Bnd
  minH : ∀ m, d.minvalue = some m → (∀ r ∈ d.minRef, r.hard = true) → m ≤ x
  maxH : ∀ m, d.maxvalue = some m → (∀ r ∈ d.maxRef, r.hard = true) → x ≤ m
  minR : d.minRef ⊆ vs
  maxR : d.maxRef ⊆ vs

theorem applyMinus_some {x y : Option Int} {m : Int} (hx : ∀ p, x = some p → -Bnd ≤ p ∧ p ≤ Bnd)
    (hy : ∀ q, y = some q → -Bnd ≤ q ∧ q ≤ Bnd) (h : applyMinus x y = some m) :
    ∃ p q, x = some p ∧ y = some q ∧ m = p - q ∧ -(2 * Bnd) ≤ m ∧ m ≤ 2 * Bnd := by
  have hB := Bnd_eq
  unfold applyMinus at h
  split at h
  · rename_i p q
    have := hx p rfl
    have := hy q rfl
    rw [wrap_small _ (by omega)] at h
    cases h
    exact ⟨p, q, rfl, rfl, rfl, by omega, by omega⟩
  · cases h

theorem minus_ok {lhs rhs : Interval} {L R : List Value} {a b : Int} (hl : lhs.Ok L a) (hr : rhs.Ok R b) :
    DiffOk (lhs.minus rhs) (L ++ R) (a - b) := by
  refine ⟨?_, ?_, ?_, ?_, ?_, ?_⟩
  · intro m hm
    obtain ⟨_, _, _, _, _, hb⟩ := applyMinus_some hl.minS hr.maxS hm
    exact hb
  · intro m hm
    obtain ⟨_, _, _, _, _, hb⟩ := applyMinus_some hl.maxS hr.minS hm
    exact hb
  · intro m hm hh
    simp only [Interval.minus] at hm hh
    rw [hm] at hh; simp at hh
    obtain ⟨p, q, hp, hq, rfl, _⟩ := applyMinus_some hl.minS hr.maxS hm
    have h1 := hl.minH p hp (fun r hr' => hh r (Or.inl hr'))
    have h2 := hr.maxH q hq (fun r hr' => hh r (Or.inr hr'))
    omega
  · intro m hm hh
    simp only [Interval.minus] at hm hh
    rw [hm] at hh; simp at hh
    obtain ⟨p, q, hp, hq, rfl, _⟩ := applyMinus_some hl.maxS hr.minS hm
    have h1 := hl.maxH p hp (fun r hr' => hh r (Or.inl hr'))
    have h2 := hr.minH q hq (fun r hr' => hh r (Or.inr hr'))
    omega
  · simp only [Interval.minus]
    split
    · exact List.append_subset.2 ⟨List.subset_append_of_subset_left _ hl.minR, List.subset_append_of_subset_right _ hr.maxR⟩
    · exact List.nil_subset _
  · simp only [Interval.minus]
    split
    · exact List.append_subset.2 ⟨List.subset_append_of_subset_left _ hl.maxR, List.subset_append_of_subset_right _ hr.minR⟩
    · exact List.nil_subset _

/-- on the two fields that `Interval.Ok` and `DiffOk` have in common -/
theorem scalar_pin {i : Interval} {x : Int}
    (minH : ∀ m, i.minvalue = some m → (∀ r ∈ i.minRef, r.hard = true) → m ≤ x)
    (maxH : ∀ m, i.maxvalue = some m → (∀ r ∈ i.maxRef, r.hard = true) → x ≤ m)
    (hsc : i.isScalar = true) (hh : ∀ r ∈ i.getScalarRef, r.hard = true) : x = i.getScalar := by
  unfold Interval.isScalar at hsc
  split at hsc
  · rename_i p q hp hq
    simp at hsc; subst hsc
    have hmin : ∀ r ∈ i.minRef, r.hard = true := by
      intro r hr; apply hh; unfold Interval.getScalarRef; split
      · exact List.mem_append_left _ hr
      · exact hr
    have hmax : ∀ r ∈ i.maxRef, r.hard = true := by
      intro r hr; apply hh; unfold Interval.getScalarRef; split
      · exact List.mem_append_right _ hr
      · rename_i he; simp at he; rw [he]; exact hr
    have h1 := minH p hp hmin
    have h2 := maxH p hq hmax
    unfold Interval.getScalar; rw [hp]; simp; omega
  · simp at hsc

theorem scalar_eq {i : Interval} {vs : List Value} {a : Int} (h : i.Ok vs a) (hsc : i.isScalar = true)
    (hh : ∀ r ∈ i.getScalarRef, r.hard = true) : a = i.getScalar :=
  scalar_pin h.minH h.maxH hsc hh

theorem diff_scalar_eq {d : Interval} {vs : List Value} {x : Int} (h : DiffOk d vs x) (hsc : d.isScalar = true)
    (hh : ∀ r ∈ d.getScalarRef, r.hard = true) : x = d.getScalar :=
  scalar_pin h.minH h.maxH hsc hh

theorem scalarRef_sub {i : Interval} {vs : List Value} {a : Int} (h : i.Ok vs a) : ∀ r ∈ i.getScalarRef, r ∈ vs := by
  intro r hr
  unfold Interval.getScalarRef at hr
  split at hr
  · rcases List.mem_append.1 hr with h1 | h1
    · exact h.minR r h1
    · exact h.maxR r h1
  · exact h.minR r hr

theorem scalar_small {i : Interval} {vs : List Value} {a : Int} (h : i.Ok vs a) (hsc : i.isScalar = true) :
    -Bnd ≤ i.getScalar ∧ i.getScalar ≤ Bnd := by
  unfold Interval.isScalar at hsc
  split at hsc
  · rename_i p q hp hq
    unfold Interval.getScalar; rw [hp]; simp; exact h.minS p hp
  · simp at hsc

/-- `s op 0` for the comparison operators -/
def cmpSign (op : Op) (s : Int) : Bool :=
  match op with
  | .lt => decide (s < 0) | .le => decide (s ≤ 0) | .gt => decide (s > 0) | .ge => decide (s ≥ 0)
  | .eq => decide (s = 0) | .ne => decide (s ≠ 0) | _ => false

theorem calc_cmpSign (op : Op) (hop : op.isComparison = true) (s : Int) : calculateNoErr op s 0 = b2i (cmpSign op s) := by
  cases op <;> simp [Op.isComparison] at hop
  case eq | ne =>
    simp [calculateNoErr, calculate, cmpSign]
    by_cases h0 : s = 0 <;> simp [h0, b2i]
  all_goals simp [calculateNoErr, calculate, cmpSign]

theorem cmpSign_sem (op : Op) (hop : op.isComparison = true) (a b : Int) : b2i (cmpSign op (a - b).sign) = opSem op a b := by
  cases op <;> simp [Op.isComparison] at hop
  all_goals
    simp only [cmpSign, opSem]
    congr 1
    simp
  all_goals omega

theorem isGreaterThan_sound {d : Interval} {vs : List Value} {x y : Int} (hd : DiffOk d vs x)
    (hg : d.isGreaterThan y = true) (hh : ∀ r ∈ d.minRef, r.hard = true) : y < x := by
  unfold Interval.isGreaterThan at hg
  split at hg
  · rename_i m hm
    have := hd.minH m hm hh
    simp at hg; omega
  · cases hg

theorem isLessThan_sound {d : Interval} {vs : List Value} {x y : Int} (hd : DiffOk d vs x)
    (hl : d.isLessThan y = true) (hh : ∀ r ∈ d.maxRef, r.hard = true) : x < y := by
  unfold Interval.isLessThan at hl
  split at hl
  · rename_i m hm
    have := hd.maxH m hm hh
    simp at hl; omega
  · cases hl

theorem isScalar_minvalue {i : Interval} (h : i.isScalar = true) : i.minvalue = some i.getScalar := by
  unfold Interval.isScalar at h; unfold Interval.getScalar
  split at h <;> simp_all

theorem compare3_sound {lhs rhs : Interval} {L R : List Value} {a b : Int} (hl : lhs.Ok L a) (hr : rhs.Ok R b)
    (hh : ∀ r ∈ (Interval.compare3 lhs rhs).2, r.hard = true) (hne : (Interval.compare3 lhs rhs).1 ≠ []) :
    (a - b).sign ∈ (Interval.compare3 lhs rhs).1 := by
  have hd := minus_ok hl hr
  unfold Interval.compare3 at hh hne ⊢
  simp only [] at hh hne ⊢
  by_cases hg : (lhs.minus rhs).isGreaterThan 0 = true
  · rw [if_pos hg] at hh ⊢
    have := isGreaterThan_sound hd hg hh
    simp; omega
  rw [if_neg hg] at hh hne ⊢
  by_cases hlt : (lhs.minus rhs).isLessThan 0 = true
  · rw [if_pos hlt] at hh ⊢
    have := isLessThan_sound hd hlt hh
    simp; omega
  rw [if_neg hlt] at hh hne ⊢
  cases heq : Interval.equal lhs rhs with
  | some p =>
    -- both sides are scalars: the sign is that of the difference of the two scalars
    obtain ⟨eq, refs⟩ := p
    rw [heq] at hh
    simp only [] at hh ⊢
    unfold Interval.equal at heq
    split at heq
    · cases heq
    · split at heq
      · cases heq
      · rename_i h1 h2
        simp at h1 h2 heq
        obtain ⟨he, hrf⟩ := heq
        have hhall : ∀ r ∈ lhs.getScalarRef ++ rhs.getScalarRef, r.hard = true := by
          intro r hr'; rw [hrf] at hr'
          cases eq <;> exact hh r hr'
        have ea := scalar_eq hl h1 (fun r hr' => hhall r (List.mem_append_left _ hr'))
        have eb := scalar_eq hr h2 (fun r hr' => hhall r (List.mem_append_right _ hr'))
        rw [isScalar_minvalue h1, isScalar_minvalue h2] at he
        cases eq <;> simp at he ⊢ <;> omega
  | none =>
    rw [heq] at hh hne
    simp only [] at hh hne ⊢
    by_cases hg1 : (lhs.minus rhs).isGreaterThan (-1) = true
    · rw [if_pos hg1] at hh ⊢
      have := isGreaterThan_sound hd hg1 hh
      simp; omega
    rw [if_neg hg1] at hh hne ⊢
    by_cases hl1 : (lhs.minus rhs).isLessThan 1 = true
    · rw [if_pos hl1] at hh ⊢
      have := isLessThan_sound hd hl1 hh
      simp; omega
    · rw [if_neg hl1] at hne
      exact absurd rfl hne

theorem holds_known (v : Value) (x : Int) (hk : v.kind = .known) : v.holds x ↔ x = v.intvalue := by
  unfold Value.holds; rw [hk]

theorem impossible_ne (v : Value) (x : Int) (hi : v.isImpossible = true) (hh : v.holds x) : x ≠ v.intvalue := by
  unfold Value.isImpossible at hi
  simp at hi
  unfold Value.holds at hh
  rw [hi] at hh
  cases hb : v.bound <;> simp [hb] at hh <;> omega

theorem valueKindOf_ne_impossible (refs : List Value) : valueKindOf refs ≠ .impossible := by
  unfold valueKindOf; split <;> (try split) <;> simp

theorem impossible_hard (v : Value) (hv : v.isImpossible = true) : v.hard = true := by
  unfold Value.hard; unfold Value.isImpossible at hv; simp at hv; simp [hv]

theorem mem_bound {guard : Bool} {bound : Option Int} {refs : List Value} {mk : Int → Value} {r : Value}
    (h : r ∈ (match bound with
      | some m => if !guard || isClaim refs then [mk m] else []
      | none => [] : List Value)) :
    ∃ m, bound = some m ∧ r = mk m ∧ (guard = true → isClaim refs = true) := by
  split at h
  · rename_i m
    split at h
    · rename_i hc
      exact ⟨m, rfl, List.mem_singleton.1 h, fun hg => by subst hg; simpa using hc⟩
    · cases h
  · cases h

/-- the `-` branch: the Impossible value from a bound of the difference holds when that bound rests on claims only (what
    `guard` tests) -/
theorem sub_branch {d : Interval} {vs : List Value} {x : Int} (hd : DiffOk d vs x) (guard : Bool) (r : Value)
    (hr : r ∈ (if d.isScalar then
        [{ kind := valueKindOf d.getScalarRef, bound := .point, intvalue := d.getScalar }]
      else
        (match d.minvalue with
         | some m => if !guard || isClaim d.minRef then [{ kind := .impossible, bound := .upper, intvalue := wrap64 (m - 1) }] else []
         | none => []) ++
        (match d.maxvalue with
         | some m => if !guard || isClaim d.maxRef then [{ kind := .impossible, bound := .lower, intvalue := wrap64 (m + 1) }] else []
         | none => []) : List Value)) :
    (r.kind = .known → r.holds x) ∧
    (r.kind = .impossible → ((∀ v ∈ vs, v.hard = true) ∨ guard = true) → r.holds x) := by
  have hB := Bnd_eq
  split at hr
  · rename_i hsc
    simp at hr
    subst hr
    refine ⟨fun hk => ?_, fun h => absurd h (valueKindOf_ne_impossible _)⟩
    exact (holds_known _ _ hk).2 (diff_scalar_eq hd hsc (all_hard_of_known _ hk))
  · rcases List.mem_append.1 hr with h | h
    all_goals
      obtain ⟨m, hm, rfl, hc⟩ := mem_bound h
      refine ⟨(fun hk => by cases hk), fun _ hLR => ?_⟩
    · have hrefs : ∀ r ∈ d.minRef, r.hard = true :=
        hLR.elim (fun hall r hr' => hall r (hd.minR hr')) (fun hg => isClaim_hard (hc hg))
      have s1 := hd.minS m hm
      have h1 := hd.minH m hm hrefs
      rw [wrap_small _ (by omega)]
      simp [Value.holds]; omega
    · have hrefs : ∀ r ∈ d.maxRef, r.hard = true :=
        hLR.elim (fun hall r hr' => hall r (hd.maxR hr')) (fun hg => isClaim_hard (hc hg))
      have s1 := hd.maxS m hm
      have h1 := hd.maxH m hm hrefs
      rw [wrap_small _ (by omega)]
      simp [Value.holds]; omega

theorem scalar_ne {i : Interval} {L R : List Value} {a b : Int} (hi : i.Ok L a) (hb : ∀ v ∈ R, v.hard = true → v.holds b)
    (hsc : i.isScalar = true) (hh : ∀ r ∈ i.getScalarRef, r.hard = true) (hne : inferNotEqual R i.getScalar = true) : a ≠ b := by
  have ea := scalar_eq hi hsc hh
  unfold inferNotEqual at hne
  obtain ⟨v, hv, hvi⟩ := List.any_eq_true.1 hne
  simp at hvi
  have := impossible_ne v b hvi.1 (hb v hv (impossible_hard v hvi.1))
  omega

/-- the `==` / `!=` branch on scalar-or-empty intervals -/
theorem eqne_branch {lhs rhs : Interval} {L R : List Value} {a b : Int} (hl : lhs.Ok L a) (hrr : rhs.Ok R b)
    (ha : ∀ v ∈ L, v.hard = true → v.holds a) (hb : ∀ v ∈ R, v.hard = true → v.holds b)
    (op : Op) (hopeq : op = .ne ∨ op = .eq) (r : Value)
    (hr : r ∈ (if lhs.isScalar && rhs.isScalar then
        [{ kind := valueKindOf (lhs.getScalarRef ++ rhs.getScalarRef), bound := .point,
           intvalue := calculateNoErr op lhs.getScalar rhs.getScalar }]
      else
        if !(if lhs.isScalar && inferNotEqual R lhs.getScalar then lhs.getScalarRef
             else if rhs.isScalar && inferNotEqual L rhs.getScalar then rhs.getScalarRef
             else []).isEmpty then
          [{ kind := valueKindOf (if lhs.isScalar && inferNotEqual R lhs.getScalar then lhs.getScalarRef
               else if rhs.isScalar && inferNotEqual L rhs.getScalar then rhs.getScalarRef
               else []), bound := .point, intvalue := b2i (op == .ne) }]
        else [] : List Value)) :
    (r.kind = .known → r.holds (opSem op a b)) ∧ r.kind ≠ .impossible := by
  split at hr
  · rename_i hboth
    simp at hboth
    simp at hr; subst hr
    refine ⟨fun hk => ?_, valueKindOf_ne_impossible _⟩
    have hh := all_hard_of_known _ hk
    have ea := scalar_eq hl hboth.1 (fun r hr' => hh r (List.mem_append_left _ hr'))
    have eb := scalar_eq hrr hboth.2 (fun r hr' => hh r (List.mem_append_right _ hr'))
    refine (holds_known _ _ hk).2 ?_
    rw [← ea, ← eb]
    rcases hopeq with h | h <;> subst h <;> simp [opSem, calculateNoErr, calculate, b2i]
  · split at hr
    · rename_i hc
      simp at hc
      simp at hr
      obtain ⟨_, hr⟩ := hr
      subst hr
      refine ⟨fun hk => (holds_known _ _ hk).2 ?_, valueKindOf_ne_impossible _⟩
      have hne : a ≠ b := scalar_ne hl hb hc.1 (all_hard_of_known _ hk) hc.2
      rcases hopeq with h | h <;> subst h <;> simp [opSem, b2i, hne]
    · split at hr
      · rename_i hc
        simp at hc
        simp at hr
        obtain ⟨_, hr⟩ := hr
        subst hr
        refine ⟨fun hk => (holds_known _ _ hk).2 ?_, valueKindOf_ne_impossible _⟩
        have hne : a ≠ b := (scalar_ne hrr ha hc.1 (all_hard_of_known _ hk) hc.2).symm
        rcases hopeq with h | h <;> subst h <;> simp [opSem, b2i, hne]
      · simp at hr

/-- the comparison branch through `Interval::compare` -/
theorem cmp_branch {lhs rhs : Interval} {L R : List Value} {a b : Int} (hl : lhs.Ok L a) (hrr : rhs.Ok R b)
    (op : Op) (hcmp : op.isComparison = true) (r : Value)
    (hr : r ∈ (match Interval.compareOp op lhs rhs with
      | (some b, refs) => [{ kind := valueKindOf refs, bound := .point, intvalue := b2i b }]
      | (none, _) => [] : List Value)) :
    (r.kind = .known → r.holds (opSem op a b)) ∧ r.kind ≠ .impossible := by
  split at hr
  · rename_i bv refs hcmpop
    simp at hr; subst hr
    refine ⟨fun hk => (holds_known _ _ hk).2 ?_, valueKindOf_ne_impossible _⟩
    have hh := all_hard_of_known _ hk
    unfold Interval.compareOp at hcmpop
    generalize hc3 : Interval.compare3 lhs rhs = c3 at hcmpop
    obtain ⟨S, refs'⟩ := c3
    simp only [] at hcmpop
    split at hcmpop
    · simp at hcmpop
    · rename_i r0 rest
      split at hcmpop
      · rename_i hall
        simp at hcmpop
        obtain ⟨hbv, hrefs⟩ := hcmpop
        subst hrefs
        have hs := compare3_sound hl hrr (by rw [hc3]; exact hh) (by rw [hc3]; simp)
        rw [hc3] at hs
        simp only [] at hs
        have hs_eq : calculateNoErr op (a - b).sign 0 = b2i bv := by
          rcases List.mem_cons.1 hs with h | h
          · rw [h, ← hbv, calc_cmpSign op hcmp]
            cases cmpSign op r0 <;> simp [b2i]
          · have := List.all_eq_true.1 hall _ h
            simp at this
            rw [← this, hbv]
        rw [← hs_eq, calc_cmpSign op hcmp, cmpSign_sem op hcmp a b]
      · simp at hcmpop
  · simp at hr

/-- both states of the code in one statement: an Impossible result needs the guard of commit 8842d71 to be on, or (guard off)
    all inputs to be claims anyway -/
theorem infer_core (op : Op) (hop : op.isComparison = true ∨ op = .sub) (L R : List Value) (a b : Int)
    (hLs : ∀ v ∈ L, v.isInt = true → v.small) (hRs : ∀ v ∈ R, v.isInt = true → v.small)
    (ha : ∀ v ∈ L, v.isInt = true → v.hard = true → v.holds a)
    (hb : ∀ v ∈ R, v.isInt = true → v.hard = true → v.holds b)
    (guard : Bool) (r : Value) (hr : r ∈ inferG guard op L R) (hh : r.hard = true)
    (hg : r.kind = .impossible → guard = true ∨ (allHard L ∧ allHard R)) : r.holds (opSem op a b) := by
  suffices h : (r.kind = .known → r.holds (opSem op a b)) ∧ (r.kind = .impossible → r.holds (opSem op a b)) by
    unfold Value.hard at hh
    cases hk : r.kind <;> simp [hk] at hh
    · exact h.1 hk
    · exact h.2 hk
  unfold inferG at hr
  simp only [] at hr
  -- `infer` looks at the INT values only, and so do the hypotheses about its inputs
  have ha' := List.forall_mem_filter.2 ha
  have hb' := List.forall_mem_filter.2 hb
  have hsL : allHard L → _ := List.forall_mem_filter.2
  have hsR : allHard R → _ := List.forall_mem_filter.2
  have hl := fromValues_ok (List.forall_mem_filter.2 hLs) ha'
  have hrr := fromValues_ok (List.forall_mem_filter.2 hRs) hb'
  clear hLs hRs ha hb
  generalize L.filter (·.isInt) = L' at *
  generalize R.filter (·.isInt) = R' at *
  generalize fromValues L' = lhs at *
  generalize fromValues R' = rhs at *
  by_cases hLe : L'.isEmpty = true
  · rw [if_pos hLe] at hr; cases hr
  rw [if_neg hLe] at hr
  by_cases hRe : R'.isEmpty = true
  · rw [if_pos hRe] at hr; cases hr
  rw [if_neg hRe] at hr
  by_cases hsub : op = .sub
  · rw [if_pos hsub] at hr
    subst hsub
    have h := sub_branch (minus_ok hl hrr) guard r hr
    refine ⟨h.1, fun hk => h.2 hk ?_⟩
    rcases hg hk with hg | ⟨hL, hR⟩
    · exact Or.inr hg
    · exact Or.inl (List.forall_mem_append.2 ⟨hsL hL, hsR hR⟩)
  · rw [if_neg hsub] at hr
    have hcmp : op.isComparison = true := hop.resolve_right hsub
    by_cases heqne : (op = .ne ∨ op = .eq) ∧ lhs.isScalarOrEmpty = true ∧ rhs.isScalarOrEmpty = true
    · rw [if_pos heqne] at hr
      have h := eqne_branch hl hrr ha' hb' op heqne.1 r hr
      exact ⟨h.1, fun hk => absurd hk h.2⟩
    · rw [if_neg heqne] at hr
      have h := cmp_branch hl hrr op hcmp r hr
      exact ⟨h.1, fun hk => absurd hk h.2⟩

end Cppcheck.Infer
