import Cppcheck.Proofs.MathLit
/-
C10 — `characterLiteralToLL` on rendered character literals: one element and what must follow it (`element_eq`), then the
loop over the elements (gcc's multi-character rule, modulo 2^64).
-/
-- for `decide` in the test vectors of Props/C10.lean
deriving instance DecidableEq for Except

namespace Cppcheck.CharLit
open Cppcheck.Wire Cppcheck.Trunc Cppcheck.MathLit

/-- the string starts like a `0x` prefix that strtoull (base 16) would skip -/
def pfxQuirk (s : Str) : Bool :=
  match s with
  | '0' :: x :: h :: _ => (x == 'x' || x == 'X') && (digitOf 16 h).isSome
  | _ => false

theorem pfxQuirk_ne0 {d : Char} {r : Str} (h : d ≠ '0') : pfxQuirk (d :: r) = false := by
  unfold pfxQuirk
  split
  · rename_i heq; simp only [List.cons.injEq] at heq; exact absurd heq.1 h
  · rfl

theorem pfxQuirk_0 (x hh : Char) (r : Str) :
    pfxQuirk ('0' :: x :: hh :: r) = ((x == 'x' || x == 'X') && (digitOf 16 hh).isSome) := rfl

theorem pfxQuirk_two {d1 d2 : Char} {r : Str} (h : isXDigit d2 = true) : pfxQuirk (d1 :: d2 :: r) = false := by
  have : (d2 == 'x' || d2 == 'X') = false := by
    simp [Text.beq_false_of_pred h (b := 'x'), Text.beq_false_of_pred h (b := 'X')]
  unfold pfxQuirk
  split
  · rename_i heq
    simp only [List.cons.injEq] at heq
    obtain ⟨_, hx, _⟩ := heq
    subst hx
    simp [this]
  · rfl

theorem pfxQuirk_digits (ds : Str) (hall : ds.all isXDigit = true) : pfxQuirk ds = false := by
  match ds, hall with
  | [], _ => rfl
  | [d], _ =>
    unfold pfxQuirk
    split
    · rename_i heq; simp at heq
    · rfl
  | d1 :: d2 :: r, ha =>
    simp only [List.all_cons, Bool.and_eq_true] at ha
    exact pfxQuirk_two ha.2.1

theorem skipPfx_16 {s : Str} (h : pfxQuirk s = false) : skipPfx 16 s = (s, 0) := by
  unfold skipPfx
  unfold pfxQuirk at h
  simp only [if_true]
  split
  · rename_i x hh r
    simp only at h
    simp [h]
  · rfl

theorem not_xdigit_none {c : Char} (h : isXDigit c = false) : digitOf 16 c = none :=
  digitOf_of_not_isDigit (b := .hex) h

theorem not_octdigit_none {c : Char} (h : isOctDigit c = false) : digitOf 8 c = none :=
  digitOf_of_not_isDigit (b := .oct) h

theorem escTable_ok : escTable.all (fun p => simpleEscape p.1 == some p.2 && decide (p.2 ≤ 123)) = true := by decide

theorem lookup_simpleEscape (e : Char) (v : Nat) (h : escTable.lookup e = some v) : simpleEscape e = some v ∧ v ≤ 123 := by
  obtain ⟨l₁, l₂, hl, _⟩ := List.lookup_eq_some_iff.1 h
  simpa using List.all_eq_true.mp escTable_ok (e, v) (by rw [hl]; simp)

theorem simpleEscape_none_of_alnum {e : Char}
    (h : (48 ≤ e.toNat ∧ e.toNat ≤ 57) ∨ e = 'x' ∨ e = 'u' ∨ e = 'U') : simpleEscape e = none := by
  rcases h with h | h | h | h
  · have hne : ∀ c : Char, (c.toNat < 48 ∨ 57 < c.toNat) → (e == c) = false := by
      intro c hc; apply Bool.eq_false_iff.2; intro heq; simp only [beq_iff_eq] at heq; subst heq; omega
    simp [simpleEscape, hne '%' (by decide), hne '(' (by decide), hne '[' (by decide), hne '{' (by decide), hne '\'' (by decide),
      hne '"' (by decide), hne '?' (by decide), hne '\\' (by decide), hne 'a' (by decide), hne 'b' (by decide), hne 'f' (by decide),
      hne 'n' (by decide), hne 'r' (by decide), hne 't' (by decide), hne 'v' (by decide), hne 'e' (by decide), hne 'E' (by decide)]
  · subst h; decide
  · subst h; decide
  · subst h; decide

theorem Kind.limits (k : Kind) :
    255 ≤ k.maxNumeric ∧ k.maxNumeric < 2 ^ 32 ∧ k.maxUcn ≤ k.maxNumeric ∧ k.maxUcn ≤ 0x10ffff := by
  cases k <;> decide

theorem value_le_maxNumeric {k : Kind} {e : CElem} (h : e.WF k = true) : e.value ≤ k.maxNumeric := by
  have := k.limits
  cases e <;> simp only [CElem.WF, Bool.and_eq_true, decide_eq_true_eq, Option.isSome_iff_exists] at h <;> simp only [CElem.value]
  · omega
  · obtain ⟨v, hv⟩ := h
    have := (lookup_simpleEscape _ v hv).2
    rw [hv, Option.getD_some]
    omega
  · exact h.2
  · exact h.2
  · omega
  · omega

theorem ucn_check {k : Kind} {v : Nat} (hv : v ≤ k.maxUcn) :
    (((k == .narrow || k == .utf8) && decide (v > 0x7f)) || (k == .utf16 && decide (v > 0xffff)) || decide (v > 0x10ffff)) = false := by
  have h3 : ¬ v > 0x10ffff := Nat.not_lt.2 (Nat.le_trans hv k.limits.2.2.2)
  cases k
  · have : ¬ v > 0x7f := Nat.not_lt.2 hv
    simp [h3, this]
  · have : ¬ v > 0x7f := Nat.not_lt.2 hv
    simp [h3, this]
  · have : ¬ v > 0xffff := Nat.not_lt.2 hv
    simp [h3, this]
  · simp [h3]

theorem numeric_check {k : Kind} {v : Nat} (hv : v ≤ k.maxNumeric) :
    (((k == .narrow || k == .utf8) && decide (v > 255)) || (k == .utf16 && decide (v / 2 ^ 16 ≠ 0)) || decide (v / 2 ^ 32 ≠ 0)) = false := by
  have h32 : v / 2 ^ 32 = 0 := Nat.div_eq_of_lt (Nat.lt_of_le_of_lt hv k.limits.2.1)
  cases k
  · have : ¬ v > 255 := Nat.not_lt.2 hv
    simp [h32, this]
  · have : ¬ v > 255 := Nat.not_lt.2 hv
    simp [h32, this]
  · have : v / 2 ^ 16 = 0 := Nat.div_eq_of_lt (Nat.lt_succ_of_le hv)
    simp [h32, this]
  · simp [h32]

/-- the next character; the quote (no digit of any base) when there is none -/
def headOf (rest : Str) : Char := rest.headD '\''

theorem takeWhile_cut {p : Char → Bool} {ds : Str} (hall : ds.all p = true) (rest : Str) (maxlen : Option Nat)
    (hmax : ∀ m ∈ maxlen, ds.length ≤ m) (hstop : (∀ m ∈ maxlen, ds.length < m) → p (headOf rest) = false) :
    (match maxlen with | some m => (ds ++ rest).take m | none => ds ++ rest).takeWhile p = ds := by
  have key (n : Nat) (h : 0 < n → p (headOf rest) = false) : (ds ++ rest.take n).takeWhile p = ds := by
    rw [List.takeWhile_append_of_pos (List.all_eq_true.1 hall)]
    match n, rest with
    | 0, _ => simp
    | _, [] => simp
    | n + 1, c :: r => simp [show p c = false from h (Nat.succ_pos n)]
  cases maxlen with
  | none => simpa using key rest.length fun _ => hstop nofun
  | some m =>
    have := hmax m rfl
    show ((ds ++ rest).take m).takeWhile p = ds
    rw [List.take_append, List.take_of_length_le this]
    exact key _ fun h => hstop fun m' hm' => by cases hm'; omega

/-- the (post-bed3bd1) `stringToULLbounded` on a digit run: only the digits reach strtoull -/
theorem stb_digits (b : Base) (hb : b = .oct ∨ b = .hex) (ds rest : Str) (hne : ds ≠ []) (hall : ds.all b.isDigit = true)
    (hlt : positional b.radix ds < 2 ^ 64) (minlen : Nat) (hmin : minlen ≤ ds.length) (maxlen : Option Nat)
    (hmax : ∀ m ∈ maxlen, ds.length ≤ m) (hstop : (∀ m ∈ maxlen, ds.length < m) → b.isDigit (headOf rest) = false) :
    stringToULLbounded (ds ++ rest) b.radix minlen maxlen false = .ok (positional b.radix ds, ds.length) := by
  have hp : skipPfx b.radix ds = (ds, 0) := by
    rcases hb with h | h <;> subst h
    · exact skipPfx_ne16 (by decide) _
    · exact skipPfx_16 (pfxQuirk_digits ds hall)
  have hst : strtoull b.radix ds = ⟨positional b.radix ds, ds.length, false⟩ := by
    obtain ⟨d, ds', rfl⟩ := List.exists_cons_of_ne_nil hne
    have hx : isXDigit d = true := isXDigit_of_base (b := b) (by rw [List.all_cons, Bool.and_eq_true] at hall; exact hall.1)
    have := strtoull_run b none hx hp (Text.takeWhile_eq_self (List.all_eq_true.1 hall)) hne
    rw [if_neg (Nat.not_le.2 hlt), if_neg nofun] at this
    simpa only [signStr, List.nil_append, List.length_nil, Nat.zero_add] using this
  have hcut := takeWhile_cut hall rest maxlen hmax hstop
  have hlen : ¬ (ds.length < minlen) := by omega
  -- with or without `maxlen`, octal or hexadecimal: the same unfolding, once `radix` and `isDigit` are concrete
  cases maxlen <;> rcases hb with rfl | rfl <;>
  · simp only [Base.radix, Base.isDigit] at hcut hst
    simp only [stringToULLbounded, Base.radix, Bool.false_eq_true, if_false, if_true, Nat.reduceEqDiff, hcut, hst, hlen]

/-- maximal munch: `c`, the character after `e`'s spelling, would not lex as one more digit of it -/
def okNext : CElem → Char → Prop
  | .oct ds, c => ds.length < 3 → isOctDigit c = false
  | .hex _, c => isXDigit c = false
  | _, _ => True

theorem ucn_element (k : Kind) (u : Char) (nd : Nat) (hu : (u = 'u' ∧ nd = 4) ∨ (u = 'U' ∧ nd = 8)) (ds rest : Str)
    (hlen : ds.length = nd) (hall : ds.all isXDigit = true) (hmax : positional 16 ds ≤ k.maxUcn)
    (hsur : ¬ (0xd800 ≤ positional 16 ds ∧ positional 16 ds ≤ 0xdfff)) :
    element k ('\\' :: u :: ds ++ rest) = .ok (positional 16 ds, rest) := by
  have hse : simpleEscape u = none := simpleEscape_none_of_alnum (by rcases hu with h | h <;> simp [h.1])
  have hoct : isOctDigit u = false := by rcases hu with h | h <;> (rw [h.1]; decide)
  have hx : (u == 'x') = false := by rcases hu with h | h <;> (rw [h.1]; decide)
  have huu : (u == 'u' || u == 'U') = true := by rcases hu with h | h <;> (rw [h.1]; decide)
  have hnd : (if (u == 'u') = true then 4 else 8) = nd := by rcases hu with h | h <;> (rw [h.1, h.2]; decide)
  have hne : ds ≠ [] := by intro h; rw [h] at hlen; simp at hlen; omega
  have hmx : positional 16 ds < 2 ^ 64 := by have := k.limits; omega
  have hstb := stb_digits .hex (Or.inr rfl) ds rest hne hall hmx nd (by omega) (some nd) (fun m hm => by cases hm; omega)
    fun h => absurd (h nd rfl) (by omega)
  simp only [Base.radix] at hstb
  have hdrop : (ds ++ rest).drop ds.length = rest := by simp
  have hre : (ds ++ rest).isEmpty = false := by cases ds with | nil => exact absurd rfl hne | cons _ _ => rfl
  simp only [element, List.cons_append, beq_self_eq_true, if_true, hre, Bool.false_eq_true, if_false, hse, hoct, hx, huu, hnd, hstb]
  have c2 : (decide (positional 16 ds ≥ 0xd800) && decide (positional 16 ds ≤ 0xdfff)) = false := by
    simp only [Bool.and_eq_false_iff, decide_eq_false_iff_not]; omega
  simp only [ucn_check hmax, c2, Bool.false_eq_true, if_false, hdrop]

theorem element_eq (k : Kind) (e : CElem) (hwf : e.WF k = true) (rest : Str) (hrne : rest ≠ [])
    (hside : okNext e (headOf rest)) : element k (e.render ++ rest) = .ok (e.value, rest) := by
  have hre : rest.isEmpty = false := by cases rest with | nil => exact absurd rfl hrne | cons _ _ => rfl
  cases e with
  | plain c =>
    simp only [CElem.WF, Bool.and_eq_true, decide_eq_true_eq, bne_iff_ne, ne_eq] at hwf
    have hb : (c == '\\') = false := by simp [hwf.2]
    have hm : c.toNat % 256 = c.toNat := Nat.mod_eq_of_lt (by omega)
    have hlt : ¬ (c.toNat ≥ 0x80) := by omega
    simp [CElem.render, element, hb, hm, hlt, CElem.value]
  | simple e =>
    simp only [CElem.WF, Option.isSome_iff_exists] at hwf
    obtain ⟨v, hv⟩ := hwf
    simp [CElem.render, element, hre, (lookup_simpleEscape e v hv).1, CElem.value, hv]
  | oct ds =>
    simp only [CElem.WF, Bool.and_eq_true, decide_eq_true_eq] at hwf
    obtain ⟨⟨⟨hl1, hl3⟩, hall⟩, hmax⟩ := hwf
    cases hd : ds with
    | nil => rw [hd] at hl1; simp at hl1
    | cons d ds' =>
      have hall' := hall
      rw [hd] at hall'
      simp only [List.all_cons, Bool.and_eq_true] at hall'
      have hdo := hall'.1
      have hse : simpleEscape d = none := simpleEscape_none_of_alnum (Or.inl (by
        simp only [isOctDigit, Bool.and_eq_true, decide_eq_true_eq] at hdo; omega))
      have hne : ds ≠ [] := by rw [hd]; simp
      have hmx : positional 8 ds < 2 ^ 64 := by have := k.limits; omega
      -- at most three characters are looked at: a shorter run ends only at a non-digit (`hside`)
      have hstb := stb_digits .oct (Or.inl rfl) ds rest hne hall hmx 1 hl1 (some 3) (fun m hm => by cases hm; exact hl3)
        fun h => hside (h 3 rfl)
      simp only [Base.radix] at hstb
      have hre2 : (ds' ++ rest).isEmpty = false := by
        cases ds' with
        | nil => simpa using hre
        | cons _ _ => rfl
      have hdrop : (ds ++ rest).drop ds.length = rest := by simp
      rw [hd] at hstb hdrop
      simp only [List.cons_append] at hstb hdrop
      simp only [CElem.render, element, List.cons_append, beq_self_eq_true, if_true, hre2, Bool.false_eq_true, if_false, hse, hdo,
        hstb, CElem.value, hdrop]
  | hex ds =>
    simp only [CElem.WF, Bool.and_eq_true, decide_eq_true_eq] at hwf
    obtain ⟨⟨hl1, hall⟩, hmax⟩ := hwf
    have hne : ds ≠ [] := by intro h; rw [h] at hl1; simp at hl1
    have hmx : positional 16 ds < 2 ^ 64 := by have := k.limits; omega
    have hstb := stb_digits .hex (Or.inr rfl) ds rest hne hall hmx 1 hl1 none nofun fun _ => hside
    simp only [Base.radix] at hstb
    have hre2 : (ds ++ rest).isEmpty = false := by
      cases ds with
      | nil => exact absurd rfl hne
      | cons _ _ => rfl
    have hdrop : (ds ++ rest).drop ds.length = rest := by simp
    have hse : simpleEscape 'x' = none := by decide
    have hoct : isOctDigit 'x' = false := by decide
    simp only [CElem.render, element, List.cons_append, beq_self_eq_true, if_true, hre2, Bool.false_eq_true, if_false, hse, hoct,
      hstb, CElem.value, hdrop]
  | ucn4 ds =>
    simp only [CElem.WF, Bool.and_eq_true, decide_eq_true_eq, beq_iff_eq, Bool.not_eq_true', Bool.and_eq_false_iff,
      decide_eq_false_iff_not] at hwf
    obtain ⟨⟨⟨hl, hall⟩, hmax⟩, hsur⟩ := hwf
    exact ucn_element k 'u' 4 (Or.inl ⟨rfl, rfl⟩) ds rest hl hall hmax (by omega)
  | ucn8 ds =>
    simp only [CElem.WF, Bool.and_eq_true, decide_eq_true_eq, beq_iff_eq, Bool.not_eq_true', Bool.and_eq_false_iff,
      decide_eq_false_iff_not] at hwf
    obtain ⟨⟨⟨hl, hall⟩, hmax⟩, hsur⟩ := hwf
    exact ucn_element k 'U' 8 (Or.inr ⟨rfl, rfl⟩) ds rest hl hall hmax (by omega)

/-- what follows the elements `es` inside the literal: their spelling and the closing quote -/
def tailStr (es : List CElem) : Str := renderElems es ++ ['\'']

theorem tailStr_cons (e : CElem) (es : List CElem) : tailStr (e :: es) = e.render ++ tailStr es := by
  simp [tailStr, renderElems, List.append_assoc]

theorem tailStr_ne (es : List CElem) : tailStr es ≠ [] := by simp [tailStr]

theorem render_ne (e : CElem) : e.render ≠ [] := by cases e <;> simp [CElem.render]

theorem tailStr_length (e : CElem) (es : List CElem) :
    0 < (tailStr es).length ∧ (tailStr es).length < (tailStr (e :: es)).length := by
  rw [tailStr_cons, List.length_append]
  exact ⟨List.length_pos_iff.2 (tailStr_ne es), Nat.lt_add_of_pos_left (List.length_pos_iff.2 (render_ne e))⟩

def CElem.head : CElem → Char
  | .plain p => p
  | _ => '\\'

theorem render_cons (e : CElem) : ∃ r, e.render = e.head :: r := by cases e <;> exact ⟨_, rfl⟩

def nextChar : List CElem → Char
  | [] => '\''
  | e :: _ => e.head

theorem headOf_tail : ∀ es : List CElem, headOf (tailStr es) = nextChar es
  | [] => rfl
  | e :: es => by
    obtain ⟨r, hr⟩ := render_cons e
    rw [tailStr_cons, hr]; rfl

theorem adjOk_cons (e : CElem) (es : List CElem) : adjOk (e :: es) = true ↔ okNext e (nextChar es) ∧ adjOk es = true := by
  -- unless a numeric escape is followed by a plain character, `adjOk` skips the element and the next character is the
  -- quote or a backslash, no digit
  cases e with
  | oct ds =>
    cases es with
    | nil => exact (and_iff_right fun _ => rfl).symm
    | cons e' es' =>
      cases e' with
      | plain c => simp [adjOk, okNext, nextChar, CElem.head, Decidable.imp_iff_not_or]
      | _ => exact (and_iff_right fun _ => rfl).symm
  | hex ds =>
    cases es with
    | nil => exact (and_iff_right rfl).symm
    | cons e' es' =>
      cases e' with
      | plain c => simp [adjOk, okNext, nextChar, CElem.head]
      | _ => exact (and_iff_right rfl).symm
  | _ => exact (and_iff_right trivial).symm

theorem adjOk_tail {e : CElem} {es : List CElem} (h : adjOk (e :: es) = true) : adjOk es = true :=
  ((adjOk_cons e es).1 h).2

theorem loop_step (k : Kind) (e : CElem) (es : List CElem) (hwf : e.WF k = true) (hr : okNext e (nextChar es))
    (f mv nb : Nat) (hnb : nb = 0 ∨ k = .narrow) :
    loop k false (f + 1) (tailStr (e :: es)) mv nb = loop k false f (tailStr es) ((mv * 256 % 2 ^ 64) ||| e.value) (nb + 1) := by
  obtain ⟨r, hrr⟩ := render_cons e
  have hlen2 : ¬ ((tailStr (e :: es)).length < 2) := by have := tailStr_length e es; omega
  have hcq : (e.head == '\'' || e.head == '\n') = false := by
    cases e with
    | plain c =>
      simp only [CElem.WF, Bool.and_eq_true, decide_eq_true_eq, bne_iff_ne, ne_eq] at hwf
      have h2 : (c == '\n') = false := by
        apply Bool.eq_false_iff.2; intro h; simp only [beq_iff_eq] at h; subst h; revert hwf; decide
      simp [CElem.head, hwf.1.2, h2]
    | _ => rfl
  have hel := element_eq k e hwf (tailStr es) (tailStr_ne es) (headOf_tail es ▸ hr)
  have hv := value_le_maxNumeric hwf
  have hnn : (decide (nb ≥ 1) && k != Kind.narrow) = false := by
    rcases hnb with h | h <;> simp [h]
  simp only [loop]
  rw [if_neg hlen2]
  rw [tailStr_cons, hrr] at *
  simp only [List.cons_append, hcq, Bool.false_eq_true, if_false, hnn]
  simp only [List.cons_append] at hel
  rw [hel]
  simp only [numeric_check hv, Bool.false_eq_true, if_false]

theorem loop_narrow (es : List CElem) (hwf : es.all (CElem.WF .narrow) = true) (hadj : adjOk es = true) :
    ∀ fuel mv nb, (tailStr es).length ≤ fuel →
      loop .narrow false fuel (tailStr es) (mv % 2 ^ 64) nb =
        .ok (es.foldl (fun acc e => acc * 256 + e.value) mv % 2 ^ 64, nb + es.length, ['\'']) := by
  induction es with
  | nil =>
    intro fuel mv nb hf
    cases fuel with
    | zero => simp [tailStr, renderElems] at hf
    | succ f => simp [loop, tailStr, renderElems]
  | cons e es ih =>
    intro fuel mv nb hf
    simp only [List.all_cons, Bool.and_eq_true] at hwf
    have hf' : (tailStr es).length < fuel := by have := tailStr_length e es; omega
    cases fuel with
    | zero => omega
    | succ f =>
      have hv := value_le_maxNumeric hwf.1
      simp only [Kind.maxNumeric] at hv
      -- the accumulator is kept modulo 2^64, the specification's is not: one step commutes with the reduction
      have hm : (mv % 2 ^ 64 * 256 + e.value) % 2 ^ 64 = (mv * 256 + e.value) % 2 ^ 64 := by
        rw [Nat.add_mod, Nat.mod_mul_mod, ← Nat.add_mod]
      rw [loop_step .narrow e es hwf.1 ((adjOk_cons e es).1 hadj).1 f _ nb (Or.inr rfl), or_low_byte _ _ (by omega), hm,
        ih hwf.2 (adjOk_tail hadj) f _ (nb + 1) (by omega), List.length_cons, Nat.add_right_comm, Nat.add_assoc]
      rfl

theorem loop_single (k : Kind) (e : CElem) (hwf : e.WF k = true) (hr : okNext e (nextChar [])) :
    ∀ fuel, (tailStr [e]).length ≤ fuel → loop k false fuel (tailStr [e]) 0 0 = .ok (e.value, 1, ['\'']) := by
  intro fuel hf
  have hlen := tailStr_length e []
  obtain ⟨f, rfl⟩ : ∃ f, fuel = f + 2 := ⟨fuel - 2, by omega⟩
  rw [loop_step k e [] hwf hr (f + 1) 0 0 (Or.inl rfl)]
  simp [loop, show tailStr [] = ['\''] from rfl]

theorem charLit_start (k : Kind) (body : Str) :
    characterLiteralToLL (k.pfx ++ '\'' :: body) =
      match loop k false (body.length + 1) body 0 0 with
      | .error e => .error e
      | .ok (multivalue, nbytes, rest) =>
        if rest != ['\''] then .error .missingQuote
        else if nbytes = 0 then .error .empty
        else if k == .narrow && nbytes = 1 then .ok (Int.bmod (multivalue : Int) 256)
        else if k == .narrow then .ok (Int.bmod (multivalue : Int) (2 ^ 32))
        else .ok (multivalue : Int) := by
  cases k <;> rfl

end Cppcheck.CharLit
