import Cppcheck.Model.CondExpr
/-
C03 — the C semantics of Model/CondExpr.lean: `eval` stays inside the range of `tyOf` (`eval_inRange`), and the 64-bit
image `toI64` in which cppcheck keeps a Known value is injective on the range of every type.
-/
namespace Cppcheck.CondExpr

theorem wrap_inRange (t : Ty) (v : Int) : inRange t (wrap t v) := by
  obtain ⟨r, s⟩ := t
  cases r <;> cases s <;> simp [inRange, wrap, tmin, tmax, Ty.bits, Rank.bits] <;> omega

theorem wrap_of_inRange (t : Ty) (v : Int) (h : inRange t v) : wrap t v = v := by
  obtain ⟨r, s⟩ := t
  cases r <;> cases s <;> simp [inRange, wrap, tmin, tmax, Ty.bits, Rank.bits] at * <;> omega

theorem wrap_eq_zero_iff {t : Ty} {v : Int} (h : -(2 ^ t.bits) < v ∧ v < 2 ^ t.bits) : wrap t v = 0 ↔ v = 0 := by
  obtain ⟨r, s⟩ := t
  cases r <;> cases s <;> simp [wrap, Ty.bits, Rank.bits] at * <;> omega

/-- number of value bits -/
def Ty.vbits (t : Ty) : Nat := if t.signed then t.bits - 1 else t.bits

theorem Ty.bits_bounds (t : Ty) : 8 ≤ t.bits ∧ t.bits ≤ 64 := by
  obtain ⟨r, s⟩ := t
  cases r <;> cases s <;> decide

theorem Ty.vbits_le_bits (t : Ty) : t.vbits ≤ t.bits := by
  unfold Ty.vbits; split <;> omega

theorem two_pow_mono {m n : Nat} (h : m ≤ n) : (2 : Int) ^ m ≤ 2 ^ n := by
  exact_mod_cast Nat.pow_le_pow_right (by decide : 2 > 0) h

theorem tmax_eq (t : Ty) : tmax t = 2 ^ t.vbits - 1 := by
  unfold tmax Ty.vbits; split <;> rfl

theorem tmin_nonpos (t : Ty) : tmin t ≤ 0 := by
  unfold tmin
  split
  · have := Int.pow_pos (n := 2) (m := t.bits - 1) (by decide); omega
  · exact Int.le_refl 0

theorem inRange_abs_lt {t : Ty} {v : Int} (h : inRange t v) : -(2 ^ t.bits) < v ∧ v < 2 ^ t.bits := by
  obtain ⟨h1, h2⟩ := h
  rw [tmax_eq] at h2
  have := two_pow_mono t.vbits_le_bits
  have hp := Int.pow_pos (n := 2) (m := t.bits - 1) (by decide)
  have hb : (2 : Int) ^ t.bits = 2 ^ (t.bits - 1) * 2 := by
    rw [← Int.pow_succ]; congr 1; have := t.bits_bounds; omega
  refine ⟨?_, by omega⟩
  unfold tmin at h1
  split at h1 <;> omega

theorem inRange_01 (t : Ty) {v : Int} (h : v = 0 ∨ v = 1) : inRange t v := by
  refine ⟨Int.le_trans (tmin_nonpos t) (by omega), ?_⟩
  rw [tmax_eq]
  have : (2 : Int) ^ 1 ≤ 2 ^ t.vbits := two_pow_mono (by have := t.bits_bounds; unfold Ty.vbits; split <;> omega)
  omega

theorem wrap_01 (t : Ty) (v : Int) (h : v = 0 ∨ v = 1) : wrap t v = v :=
  wrap_of_inRange t v (inRange_01 t h)

theorem pat_nonneg {T : Ty} {n : Int} (h0 : 0 ≤ n) (hr : inRange T n) : pat T n = n.toNat := by
  unfold pat; rw [Int.emod_eq_of_lt h0 (inRange_abs_lt hr).2]

theorem inRange_natCast {T : Ty} {m : Nat} (h : (m : Int) ≤ tmax T) : inRange T m :=
  ⟨Int.le_trans (tmin_nonpos T) (Int.natCast_nonneg m), h⟩

theorem b2i_inRange_int (b : Bool) : inRange tInt (b2i b) := by
  cases b <;> decide

theorem b2i_01 (b : Bool) : b2i b = 0 ∨ b2i b = 1 := by
  cases b <;> simp [b2i]

theorem b2i_ne_zero (b : Bool) : b2i b ≠ 0 ↔ b = true := by
  cases b <;> simp [b2i]

theorem arith_inRange (t : Ty) (r v : Int) (h : arith t r = some v) : inRange t v := by
  unfold arith at h
  split at h
  · split at h
    · simp at h; subst h; unfold inRange; assumption
    · simp at h
  · simp at h; subst h; exact wrap_inRange _ _

theorem uac_table (ta tb : Ty) :
    uac ta tb = uac tb ta ∧ ta.bits ≤ (uac ta tb).bits ∧ ta.vbits ≤ (uac ta tb).vbits := by
  obtain ⟨ra, sa⟩ := ta
  obtain ⟨rb, sb⟩ := tb
  cases ra <;> cases sa <;> cases rb <;> cases sb <;> decide

theorem uac_comm (a b : Ty) : uac a b = uac b a := (uac_table a b).1

theorem wrap_uac_eq_zero_left (ta tb : Ty) (v : Int) (h : inRange ta v) : wrap (uac ta tb) v = 0 ↔ v = 0 := by
  obtain ⟨h1, h2⟩ := inRange_abs_lt h
  have := two_pow_mono (uac_table ta tb).2.1
  exact wrap_eq_zero_iff ⟨by omega, by omega⟩

theorem inRange_uac_nonneg_left (ta tb : Ty) (v : Int) (h : inRange ta v) (h0 : 0 ≤ v) : inRange (uac ta tb) v := by
  have h2 := h.2
  rw [tmax_eq] at h2
  have m1 := two_pow_mono (uac_table ta tb).2.2
  refine ⟨Int.le_trans (tmin_nonpos _) h0, ?_⟩
  rw [tmax_eq]; omega

theorem inRange_uac_nonneg_right (ta tb : Ty) (v : Int) (h : inRange tb v) (h0 : 0 ≤ v) : inRange (uac ta tb) v := by
  rw [uac_comm]; exact inRange_uac_nonneg_left tb ta v h h0

theorem promote_bits_ge (t : Ty) : t.bits ≤ (promote t).bits ∧ 32 ≤ (promote t).bits := by
  obtain ⟨r, s⟩ := t
  cases r <;> cases s <;> simp [promote, Rank.idx, Ty.bits, Rank.bits, tInt]

def binTy (op : BinOp) (ta tb : Ty) : Ty :=
  if op.isCmp || op.isLogic then tInt else if op.isShift then promote ta else uac ta tb

def unTy (op : UnOp) (ta : Ty) : Ty :=
  match op with
  | .lnot => tInt
  | _ => promote ta

theorem tyOf_un (S : Sem) (a : Ann) (op : UnOp) (e : Expr) :
    tyOf S (.un a op e) = unTy op (tyOf S e) := by
  cases op <;> rfl

theorem tyOf_bin (S : Sem) (a : Ann) (op : BinOp) (l r : Expr) :
    tyOf S (.bin a op l r) = binTy op (tyOf S l) (tyOf S r) := rfl

theorem evalBin_inRange (op : BinOp) (ta tb : Ty) (a b v : Int) (h : evalBin op ta tb a b = some v) :
    inRange (binTy op ta tb) v := by
  -- once the operator is a constructor `evalBin` and `binTy` reduce: `h` already speaks of `arith`, `wrap` or `b2i`
  cases op
  case add | sub | mul => exact arith_inRange _ _ _ h
  case band | bor | bxor => exact Option.some.inj h ▸ wrap_inRange (uac ta tb) _
  case lt | le | gt | ge | eq | ne => exact Option.some.inj h ▸ b2i_inRange_int _
  case land | lor => cases h
  case div =>
    simp only [evalBin, BinOp.isShift, Bool.false_eq_true, if_false, Option.ite_none_left_eq_some] at h
    exact arith_inRange _ _ _ h.2
  case mod =>
    simp only [evalBin, BinOp.isShift, Bool.false_eq_true, if_false, Option.ite_none_left_eq_some] at h
    exact arith_inRange _ _ _ h.2.2
  case shl =>
    simp only [evalBin, BinOp.isShift, if_true, Option.ite_none_left_eq_some] at h
    obtain ⟨_, h⟩ := h
    split at h
    · exact arith_inRange _ _ _ (Option.ite_none_left_eq_some.mp h).2
    · exact Option.some.inj h ▸ wrap_inRange (promote ta) _
  case shr =>
    simp only [evalBin, BinOp.isShift, if_true, reduceCtorEq, if_false, Option.ite_none_left_eq_some] at h
    exact Option.some.inj h.2 ▸ wrap_inRange (promote ta) _

theorem evalUn_inRange (op : UnOp) (ta : Ty) (a v : Int) (h : evalUn op ta a = some v) :
    inRange (unTy op ta) v := by
  cases op
  · exact arith_inRange _ _ _ h
  · exact Option.some.inj h ▸ wrap_inRange (promote ta) _
  · exact Option.some.inj h ▸ b2i_inRange_int _

theorem eval_un {S ρ a op e v} (h : eval S ρ (.un a op e) = some v) :
    ∃ w, eval S ρ e = some w ∧ evalUn op (tyOf S e) w = some v := by
  simp only [eval] at h
  split at h
  · exact ⟨_, by assumption, h⟩
  · simp at h

theorem eval_lnot {S ρ a e v} (h : eval S ρ (.un a .lnot e) = some v) :
    ∃ w, eval S ρ e = some w ∧ v = b2i (decide (w = 0)) := by
  obtain ⟨w, h1, h2⟩ := eval_un h
  exact ⟨w, h1, (Option.some.inj h2).symm⟩

theorem eval_bin {S ρ a op l r} (hop : op.isLogic = false) :
    eval S ρ (.bin a op l r) =
      match eval S ρ l, eval S ρ r with
      | some x, some y => evalBin op (tyOf S l) (tyOf S r) x y
      | _, _ => none := by
  cases op <;> first | rfl | cases hop

theorem eval_bin_cop {S ρ a op l r v} (hop : op.isLogic = false) (h : eval S ρ (.bin a op l r) = some v) :
    ∃ x y, eval S ρ l = some x ∧ eval S ρ r = some y ∧ evalBin op (tyOf S l) (tyOf S r) x y = some v := by
  rw [eval_bin hop] at h
  split at h
  · exact ⟨_, _, by assumption, by assumption, h⟩
  · cases h

theorem eval_land {S ρ a l r v} (h : eval S ρ (.bin a .land l r) = some v) :
    ∃ x, eval S ρ l = some x ∧ ((x = 0 ∧ v = 0) ∨ (x ≠ 0 ∧ ∃ y, eval S ρ r = some y ∧ v = b2i (decide (y ≠ 0)))) := by
  simp only [eval] at h
  split at h
  · rename_i x hx
    refine ⟨x, hx, ?_⟩
    split at h
    · exact Or.inl ⟨‹x = 0›, (Option.some.inj h).symm⟩
    · split at h
      · exact Or.inr ⟨‹¬x = 0›, _, ‹_›, (Option.some.inj h).symm⟩
      · cases h
  · cases h

theorem eval_lor {S ρ a l r v} (h : eval S ρ (.bin a .lor l r) = some v) :
    ∃ x, eval S ρ l = some x ∧ ((x ≠ 0 ∧ v = 1) ∨ (x = 0 ∧ ∃ y, eval S ρ r = some y ∧ v = b2i (decide (y ≠ 0)))) := by
  simp only [eval] at h
  split at h
  · rename_i x hx
    refine ⟨x, hx, ?_⟩
    split at h
    · exact Or.inl ⟨‹x ≠ 0›, (Option.some.inj h).symm⟩
    · split at h
      · exact Or.inr ⟨Decidable.not_not.mp ‹¬x ≠ 0›, _, ‹_›, (Option.some.inj h).symm⟩
      · cases h
  · cases h

theorem isLogic_spec {op : BinOp} (h : op.isLogic = true) : op = .land ∨ op = .lor := by
  cases op <;> simp [BinOp.isLogic] at h ⊢

/-- `eval_land` and `eval_lor` in one: the left operand decides when its truth value is `op == .lor` -/
theorem eval_logic {S ρ a op l r v} (hl : op.isLogic = true) (h : eval S ρ (.bin a op l r) = some v) :
    ∃ x, eval S ρ l = some x ∧
      ((decide (x ≠ 0) = (op == .lor) ∧ v = b2i (op == .lor)) ∨
       (decide (x ≠ 0) ≠ (op == .lor) ∧ ∃ y, eval S ρ r = some y ∧ v = b2i (decide (y ≠ 0)))) := by
  rcases isLogic_spec hl with rfl | rfl
  · obtain ⟨x, hx, ⟨x0, rfl⟩ | ⟨x0, hy⟩⟩ := eval_land h
    · exact ⟨x, hx, Or.inl ⟨by simp [x0], rfl⟩⟩
    · exact ⟨x, hx, Or.inr ⟨by simp [x0], hy⟩⟩
  · obtain ⟨x, hx, ⟨x0, rfl⟩ | ⟨x0, hy⟩⟩ := eval_lor h
    · exact ⟨x, hx, Or.inl ⟨by simp [x0], rfl⟩⟩
    · exact ⟨x, hx, Or.inr ⟨by simp [x0], hy⟩⟩

theorem eval_inRange (S : Sem) (ρ : Env) : ∀ (e : Expr) (v : Int), eval S ρ e = some v → inRange (tyOf S e) v
  | .lit _ sp, v, h => Option.some.inj h ▸ wrap_inRange (S.lty sp) _
  | .var _ x, v, h => Option.some.inj h ▸ wrap_inRange (S.vty x) _
  | .un a op e, v, h => by
    obtain ⟨w, _, hv⟩ := eval_un h
    rw [tyOf_un]; exact evalUn_inRange _ _ _ _ hv
  | .bin a op l r, v, h => by
    cases hlog : op.isLogic
    · obtain ⟨x, y, _, _, hv⟩ := eval_bin_cop hlog h
      rw [tyOf_bin]; exact evalBin_inRange _ _ _ _ _ _ hv
    · obtain ⟨x, _, ⟨_, rfl⟩ | ⟨_, y, _, rfl⟩⟩ := eval_logic hlog h <;> exact inRange_01 _ (b2i_01 _)

theorem eval_agree (S : Sem) (ρ ρ' : Env) : ∀ (e : Expr), (∀ x ∈ e.vars, ρ' x = ρ x) → eval S ρ' e = eval S ρ e
  | .lit _ _, _ => by simp [eval]
  | .var _ x, h => by simp [eval, h x (by simp [Expr.vars])]
  | .un _ op e, h => by
    simp only [eval, eval_agree S ρ ρ' e (fun x hx => h x (by simpa [Expr.vars] using hx))]
  | .bin _ op l r, h => by
    have hl := eval_agree S ρ ρ' l (fun x hx => h x (by simp [Expr.vars, hx]))
    have hr := eval_agree S ρ ρ' r (fun x hx => h x (by simp [Expr.vars, hx]))
    simp only [eval, hl, hr]

theorem closed_vars : ∀ (e : Expr), e.closed = true → e.vars = []
  | .lit _ _, _ => rfl
  | .var _ _, h => nomatch h
  | .un _ _ e, h => closed_vars e h
  | .bin _ _ l r, h => by
    simp only [Expr.closed, Bool.and_eq_true] at h
    simp [Expr.vars, closed_vars l h.1, closed_vars r h.2]

theorem eval_closed (S : Sem) (ρ ρ' : Env) (e : Expr) (h : e.closed = true) : eval S ρ e = eval S ρ' e :=
  eval_agree S ρ' ρ e (by simp [closed_vars e h])

theorem toI64_of_small (v : Int) (h1 : -(2 ^ 63) ≤ v) (h2 : v < 2 ^ 63) : toI64 v = v := by
  simp [toI64] at *; omega

/-- signed types lie inside `long long`, unsigned ones inside [0, 2^64): either way `toI64` is injective on the range -/
theorem inRange_i64 (t : Ty) :
    (∀ v, inRange t v → -(2 ^ 63) ≤ v ∧ v < 2 ^ 63) ∨ (∀ v, inRange t v → 0 ≤ v ∧ v < 2 ^ 64) := by
  have hb := t.bits_bounds
  cases hs : t.signed
  · right
    intro v ⟨h1, h2⟩
    simp only [tmin, tmax, hs, Bool.false_eq_true, if_false] at h1 h2
    have := two_pow_mono hb.2
    omega
  · left
    intro v ⟨h1, h2⟩
    simp only [tmin, tmax, hs, if_true] at h1 h2
    have := two_pow_mono (show t.bits - 1 ≤ 63 by omega)
    omega

theorem toI64_inj (t : Ty) (a b : Int) (ha : inRange t a) (hb : inRange t b) (h : toI64 a = toI64 b) : a = b := by
  simp only [toI64] at h
  rcases inRange_i64 t with r | r <;> have := r a ha <;> have := r b hb <;> omega

theorem toI64_eq_01 (t : Ty) (a k : Int) (ha : inRange t a) (hk : k = 0 ∨ k = 1) (h : k = toI64 a) : a = k := by
  refine toI64_inj t a k ha (inRange_01 t hk) ?_
  rw [← h, toI64_of_small] <;> omega

theorem toI64_nonneg (t : Ty) (v : Int) (h : inRange t v) (h0 : 0 ≤ toI64 v) : toI64 v = v := by
  simp only [toI64] at h0 ⊢
  rcases inRange_i64 t with r | r <;> have := r v h <;> omega

theorem toVT_inj {a b : Ty} (hs : (toVT a).sign = (toVT b).sign) (ht : (toVT a).type = (toVT b).type) : a = b := by
  obtain ⟨ra, sa⟩ := a
  obtain ⟨rb, sb⟩ := b
  simp only [toVT, Nat.add_right_cancel_iff] at hs ht
  have hr : ra = rb := by cases ra <;> cases rb <;> first | rfl | cases ht
  have hs : sa = sb := by cases sa <;> cases sb <;> first | rfl | cases hs
  rw [hr, hs]

end Cppcheck.CondExpr
