/-
Replacing one entry of a list (`l.set i y` where `l[i]? = some x`): the list splits around the entry, so maps, sums
and unions over the list change only by the entry's share. Used where a scheduler updates one worker of its pool.
-/
namespace Cppcheck.ListSet

variable {α β : Type} {l : List α} {i : Nat} {x : α}

theorem getElem?_split (h : l[i]? = some x) : ∃ a b, l = a ++ x :: b ∧ ∀ y, l.set i y = a ++ y :: b := by
  obtain ⟨hi, rfl⟩ := List.getElem?_eq_some_iff.1 h
  exact ⟨l.take i, l.drop (i + 1), by simp, fun y => by rw [List.set_eq_take_append_cons_drop, if_pos hi]⟩

theorem set_self (h : l[i]? = some x) : l.set i x = l := by
  obtain ⟨a, b, hab, hset⟩ := getElem?_split h
  rw [hset, ← hab]

theorem forall_mem_set {P : α → Prop} (h : ∀ x ∈ l, P x) (i : Nat) {y : α} (hy : P y) : ∀ x ∈ l.set i y, P x :=
  fun x hx => (List.mem_or_eq_of_mem_set hx).elim (h x) (fun e => e ▸ hy)

theorem flatMap_set_of_eq {y : α} (f : α → List β) (h : l[i]? = some x) (e : f y = f x) :
    (l.set i y).flatMap f = l.flatMap f := by
  obtain ⟨a, b, hab, hset⟩ := getElem?_split h
  rw [hset, hab, List.flatMap_append, List.flatMap_append, List.flatMap_cons, List.flatMap_cons, e]

theorem map_set_of_eq {y : α} (g : α → β) (h : l[i]? = some x) (e : g y = g x) : (l.set i y).map g = l.map g := by
  obtain ⟨a, b, hab, hset⟩ := getElem?_split h
  rw [hset, hab, List.map_append, List.map_append, List.map_cons, List.map_cons, e]

theorem mem_flatMap_set (f : α → List β) (h : l[i]? = some x) :
    ∃ R : List β, (∀ z, z ∈ l.flatMap f ↔ z ∈ f x ∨ z ∈ R) ∧ ∀ y z, z ∈ (l.set i y).flatMap f ↔ z ∈ f y ∨ z ∈ R := by
  obtain ⟨a, b, hab, hset⟩ := getElem?_split h
  refine ⟨(a ++ b).flatMap f, fun z => ?_, fun y z => ?_⟩
  · rw [hab]
    simp only [List.flatMap_append, List.flatMap_cons, List.mem_append, or_left_comm]
  · rw [hset]
    simp only [List.flatMap_append, List.flatMap_cons, List.mem_append, or_left_comm]

theorem perm_flatMap_set {y : α} {f : α → List β} {m : β} (h : l[i]? = some x) (e : f x = m :: f y) :
    (l.flatMap f).Perm (m :: (l.set i y).flatMap f) := by
  obtain ⟨a, b, hab, hset⟩ := getElem?_split h
  rw [hset, hab, List.flatMap_append, List.flatMap_append, List.flatMap_cons, List.flatMap_cons, e]
  exact List.perm_middle

theorem sum_map_set (g : α → Nat) (h : l[i]? = some x) (y : α) :
    ((l.set i y).map g).sum + g x = (l.map g).sum + g y := by
  obtain ⟨a, b, hab, hset⟩ := getElem?_split h
  rw [hset, hab]
  simp only [List.map_append, List.map_cons, List.sum_append, List.sum_cons]
  omega

end Cppcheck.ListSet
