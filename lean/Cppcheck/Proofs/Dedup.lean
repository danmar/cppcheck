import Cppcheck.Model.Dedup
import Cppcheck.Proofs.FirstOfKey
/-
The duplicate filter `dedupGo` (C15) as an instance of `FirstOfKey.firsts`; equal key lists up to permutation give equal
observations up to permutation.
-/
namespace Cppcheck.Dedup
open Cppcheck.Wire

variable {α β : Type}

theorem dedupGo_eq (key : α → Str) : ∀ seen l, dedupGo key seen l = FirstOfKey.firsts key seen l :=
  FirstOfKey.eq_firsts (fun _ => rfl) (fun s x r h => by simp [dedupGo, h]) (fun s x r h => by simp [dedupGo, h])

theorem mem_dedupGo (key : α → Str) (seen : List Str) (l : List α) (x : α) :
    x ∈ dedupGo key seen l → x ∈ l ∧ key x ∉ seen := by
  rw [dedupGo_eq]
  exact fun h => ⟨(FirstOfKey.firsts_sublist key seen l).subset h, FirstOfKey.not_seen_of_mem_firsts key seen l x h⟩

theorem keys_dedupGo (key : α → Str) (seen : List Str) (l : List α) (k : Str) :
    k ∈ (dedupGo key seen l).map key ↔ k ∉ seen ∧ ∃ x ∈ l, key x = k := by
  rw [dedupGo_eq, FirstOfKey.mem_keys_firsts, List.mem_map]

theorem nodup_keys_dedupGo (key : α → Str) (seen : List Str) (l : List α) :
    ((dedupGo key seen l).map key).Nodup :=
  dedupGo_eq key seen l ▸ FirstOfKey.nodup_keys_firsts key seen l

theorem perm_map_of_perm_keys [DecidableEq α] (key : α → Str) (obs : α → β) :
    ∀ (A B : List α), (A.map key).Perm (B.map key) →
      (∀ a ∈ A, ∀ b ∈ B, key a = key b → obs a = obs b) → (A.map obs).Perm (B.map obs) := by
  intro A
  induction A with
  | nil =>
    intro B h _
    rw [List.map_eq_nil_iff.1 (List.nil_perm.1 h)]
  | cons a A ih =>
    intro B h hk
    have hmem : key a ∈ B.map key := h.subset (by simp)
    obtain ⟨b, hb, hkb⟩ := List.mem_map.1 hmem
    have hB : B.Perm (b :: B.erase b) := List.perm_cons_erase hb
    have h2 : ((a :: A).map key).Perm ((b :: B.erase b).map key) := h.trans (hB.map key)
    simp only [List.map_cons, hkb] at h2
    have h3 : (A.map key).Perm ((B.erase b).map key) := (List.perm_cons _).1 h2
    have ih' := ih (B.erase b) h3 (fun a' ha' b' hb' => hk a' (by simp [ha']) b' (List.mem_of_mem_erase hb'))
    have hab : obs a = obs b := hk a (by simp) b hb hkb.symm
    have : ((a :: A).map obs).Perm ((b :: B.erase b).map obs) := by
      simp only [List.map_cons, hab]
      exact (List.perm_cons _).2 ih'
    exact this.trans (hB.map obs).symm

end Cppcheck.Dedup
