import Cppcheck.Model.PathMatch
import Cppcheck.Proofs.PathCanon
/-
C31 — `PathMatch::match`. The backtracking loop (a stack machine with restart positions) computes the recursive search
`mC` within `costC` iterations. What the search has to find at one position is `PrefixMatch`: the pattern matches a prefix
of the text behind which the loop's end test holds; `mC` decides it (`mC_spec`), the scan behind a star being the full
scan of the rule restricted to the positions the code explores. Read backwards from the restart positions, `PrefixMatch`
is the documented rule (`specMatch_iff_prefixMatch`). After that: the executable form of the rule, the component streams
of the path iterator, and the `pattern == path` shortcut of the caller.
-/
namespace Cppcheck.PathMatch
open Cppcheck.Wire Cppcheck.PathCanon

-- what the loop still has to try besides its current branch, and what that may cost: the backtrack stack `b` and the
-- restart positions after each separator of the text `q`
def stackAny (fx real : Bool) (b : Stack) : Bool := b.any (fun st => mC fx real st.1 st.2)
def stackCost (fx : Bool) (b : Stack) : Nat := (b.map (fun st => costC fx st.1 st.2)).sum
def restAny (fx real : Bool) (p q : Str) : Bool := (afterSeps q).any (mC fx real p)
def restCost (fx : Bool) (p q : Str) : Nat := ((afterSeps q).map (costC fx p)).sum

/-- the scan behind a star pushes exactly the positions `scanC` tries -/
theorem starScan_spec (fx real slash : Bool) (s2 : Str) : ∀ (t : Str) (b : Stack),
    (mC fx real s2 (starScan fx slash s2 t b).1 || stackAny fx real (starScan fx slash s2 t b).2)
      = (scanC fx (mC fx real s2) slash (hd s2) t || stackAny fx real b) ∧
    costC fx s2 (starScan fx slash s2 t b).1 + stackCost fx (starScan fx slash s2 t b).2
      = scanCost fx (costC fx s2) slash (hd s2) t + stackCost fx b := by
  intro t
  induction t with
  | nil => intro b; simp [starScan, scanC, scanCost]
  | cons c t ih =>
    intro b
    simp only [starScan, scanC, scanCost]
    by_cases hc : (c != NUL && (slash || c != '/')) = true
    · simp only [hc, if_true]
      by_cases hh : pushOk fx (hd s2) c = true
      · simp only [hh, if_true, Bool.true_and]
        have := ih ((s2, c :: t) :: b)
        constructor
        · rw [this.1]; simp [stackAny, Bool.or_assoc, Bool.or_left_comm]
        · rw [this.2]; simp [stackCost]; omega
      · simp only [hh, Bool.false_and, Bool.false_or]
        have := ih b
        simp only [Bool.false_eq_true, if_false, Nat.zero_add]
        exact this
    · simp only [hc]
      simp

/-- the pattern behind a star as the loop reads it (`s2`): a second `*` directly behind the first is consumed with it -/
def afterStar (s1 : Str) : Str := if hd s1 == '*' then s1.tail else s1

theorem afterStar_suffix (s1 : Str) : afterStar s1 <:+ s1 := by
  unfold afterStar
  split
  · exact List.tail_suffix s1
  · exact List.suffix_refl s1

/-- unfolding of `mC` at a star, in the shape the loop computes `slash` and `s2` -/
theorem mC_star (fx real : Bool) (s1 t : Str) :
    mC fx real ('*' :: s1) t =
      scanC fx (mC fx real (afterStar s1)) (hd s1 == '*') (hd (afterStar s1)) t := by
  cases s1 with
  | nil => simp [mC, hd, NUL, afterStar]
  | cons c2 s2 =>
    by_cases h : c2 = '*'
    · subst h; simp [mC, hd, afterStar]
    · have h' : (c2 == '*') = false := by simp [h]
      simp [mC, hd, h', afterStar]

theorem costC_star (fx : Bool) (s1 t : Str) :
    costC fx ('*' :: s1) t =
      1 + scanCost fx (costC fx (afterStar s1)) (hd s1 == '*') (hd (afterStar s1)) t := by
  cases s1 with
  | nil => simp [costC, hd, NUL, afterStar]
  | cons c2 s2 =>
    by_cases h : c2 = '*'
    · subst h; simp [costC, hd, afterStar]
    · have h' : (c2 == '*') = false := by simp [h]
      simp [costC, hd, h', afterStar]

theorem skipToSep_cases (q : Str) (hq : NUL ∉ q) :
    skipToSep q = [] ∨ ∃ q2, skipToSep q = '/' :: q2 := by
  fun_induction skipToSep q with
  | case1 => exact Or.inl rfl
  | case2 c q _ ih => exact ih (fun h => hq (List.mem_cons_of_mem _ h))
  | case3 c q h =>
    have hc : c ≠ NUL := fun e => hq (e ▸ List.mem_cons_self)
    have : c = '/' := by simpa [hc] using h
    exact Or.inr ⟨q, by rw [this]⟩

theorem skipToSep_suffix (q : Str) : skipToSep q <:+ q := by
  fun_induction skipToSep q with
  | case1 => exact List.suffix_refl _
  | case2 c q _ ih => exact ih.trans (List.suffix_cons c q)
  | case3 => exact List.suffix_refl _

theorem nul_not_mem_skipToSep (q : Str) (hq : NUL ∉ q) : NUL ∉ skipToSep q :=
  fun h => hq ((skipToSep_suffix q).subset h)

theorem not_mem_tail {a : Char} {l : Str} (h : a ∉ l) : a ∉ l.tail := fun hm => h (List.mem_of_mem_tail hm)

/-- the restart positions in the order the loop finds them: the next one lies behind the separator `skipToSep` stops at -/
theorem afterSeps_eq (q : Str) (hq : NUL ∉ q) :
    afterSeps q = if hd (skipToSep q) == '/' then (skipToSep q).tail :: afterSeps (skipToSep q).tail else [] := by
  fun_induction skipToSep q with
  | case1 => rfl
  | case2 c q h ih =>
    have hc : (c == '/') = false := beq_eq_false_iff_ne.2 (bne_iff_ne.1 (Bool.and_eq_true_iff.1 h).2)
    rw [afterSeps, hc, if_neg Bool.false_ne_true, ih (fun h => hq (List.mem_cons_of_mem _ h))]
  | case3 c q h =>
    have hc : c ≠ NUL := fun e => hq (e ▸ List.mem_cons_self)
    have : c = '/' := by simpa [hc] using h
    subst this
    rfl

theorem mC_qm (fx real : Bool) (s' t : Str) :
    mC fx real ('?' :: s') t = (hd t != NUL && hd t != '/' && mC fx real s' t.tail) := by
  conv => lhs; unfold mC
  cases t <;> simp [hd, NUL]

theorem costC_qm (fx : Bool) (s' t : Str) :
    costC fx ('?' :: s') t = if (hd t != NUL && hd t != '/') = true then 1 + costC fx s' t.tail else 1 := by
  conv => lhs; unfold costC
  cases t <;> simp [hd, NUL]

theorem mC_nulc (fx real : Bool) (s' t : Str) :
    mC fx real (NUL :: s') t = (hd t == NUL || (hd t == '/' && !real)) := by
  conv => lhs; unfold mC
  simp [NUL]

theorem costC_nulc (fx : Bool) (s' t : Str) : costC fx (NUL :: s') t = 1 := by
  conv => lhs; unfold costC
  simp [NUL]

theorem mC_lit (fx real : Bool) (c : Char) (s' t : Str) (h1 : c ≠ '*') (h2 : c ≠ '?') (h3 : c ≠ NUL) :
    mC fx real (c :: s') t = (c == hd t && mC fx real s' t.tail) := by
  conv => lhs; unfold mC
  cases t with
  | nil => simp [h1, h2, h3, hd]
  | cons d t' => simp [h1, h2, h3, hd]

theorem costC_lit (fx : Bool) (c : Char) (s' t : Str) (h1 : c ≠ '*') (h2 : c ≠ '?') (h3 : c ≠ NUL) :
    costC fx (c :: s') t = if (c == hd t) = true then 1 + costC fx s' t.tail else 1 := by
  conv => lhs; unfold costC
  cases t with
  | nil => simp [h1, h2, h3, hd]
  | cons d t' => simp [h1, h2, h3, hd]

theorem costC_pos (fx : Bool) (s t : Str) : 1 ≤ costC fx s t := by
  cases s with
  | nil => exact Nat.le_of_eq (by rw [costC])
  | cons c s' =>
    by_cases h1 : c = '*'
    · subst h1; rw [costC_star]; omega
    · by_cases h2 : c = '?'
      · subst h2; rw [costC_qm]; split <;> omega
      · by_cases h3 : c = NUL
        · subst h3; rw [costC_nulc]; exact Nat.le_refl 1
        · rw [costC_lit fx c s' t h1 h2 h3]; split <;> omega

/-- the "no match" continuation of the loop body -/
def failK (fx : Bool) (fuel : Nat) (real : Bool) (p q : Str) (b : Stack) : Option Bool :=
  match b with
  | (s', t') :: b' => matchLoopF fx fuel real p s' t' q b'
  | [] =>
    let q1 := skipToSep q
    if hd q1 == '/' then matchLoopF fx fuel real p p q1.tail q1.tail [] else some false

theorem failK_eq (fx real : Bool) (p : Str) (fuel : Nat)
    (ih : ∀ s t q b, NUL ∉ q → costC fx s t + stackCost fx b + restCost fx p q ≤ fuel →
      matchLoopF fx fuel real p s t q b = some (mC fx real s t || stackAny fx real b || restAny fx real p q))
    (q : Str) (b : Stack) (hq : NUL ∉ q) (hf : stackCost fx b + restCost fx p q ≤ fuel) :
    failK fx fuel real p q b = some (stackAny fx real b || restAny fx real p q) := by
  cases b with
  | cons st b' =>
    obtain ⟨s', t'⟩ := st
    simp only [failK]
    rw [ih s' t' q b' hq (by simp [stackCost] at hf ⊢; omega)]
    simp [stackAny]
  | nil =>
    rw [restCost, afterSeps_eq q hq] at hf
    rw [failK, restAny, afterSeps_eq q hq]
    by_cases h : (hd (skipToSep q) == '/') = true
    · rw [if_pos h] at hf ⊢
      rw [if_pos h, ih p _ _ [] (not_mem_tail (nul_not_mem_skipToSep q hq)) (by simp [stackCost, restCost] at hf ⊢; omega)]
      simp [stackAny, restAny]
    · simp [h, stackAny]

theorem matchLoopF_succ (fx : Bool) (fuel : Nat) (real : Bool) (p s t q : Str) (b : Stack) :
    matchLoopF fx (fuel + 1) real p s t q b =
      if hd s == '*' then
        matchLoopF fx fuel real p (afterStar s.tail)
          (starScan fx (hd s.tail == '*') (afterStar s.tail) t b).1 q
          (starScan fx (hd s.tail == '*') (afterStar s.tail) t b).2
      else if hd s == '?' && (hd t != NUL && hd t != '/') then matchLoopF fx fuel real p s.tail t.tail q b
      else if hd s == NUL && (hd t == NUL || (hd t == '/' && !real)) then some true
      else if hd s != '?' && hd s != NUL && hd s == hd t then matchLoopF fx fuel real p s.tail t.tail q b
      else failK fx fuel real p q b := rfl

theorem matchLoopF_star (fx : Bool) (fuel : Nat) (real : Bool) (p s1 t q : Str) (b : Stack) :
    matchLoopF fx (fuel + 1) real p ('*' :: s1) t q b =
        matchLoopF fx fuel real p (afterStar s1)
          (starScan fx (hd s1 == '*') (afterStar s1) t b).1 q
          (starScan fx (hd s1 == '*') (afterStar s1) t b).2 := by
  rw [matchLoopF_succ]
  rfl

theorem hd_cons (c : Char) (s : Str) : hd (c :: s) = c := rfl
theorem hd_nil : hd ([] : Str) = NUL := rfl

theorem matchLoopF_qm (fx : Bool) (fuel : Nat) (real : Bool) (p s' t q : Str) (b : Stack) :
    matchLoopF fx (fuel + 1) real p ('?' :: s') t q b =
      if (hd t != NUL && hd t != '/') = true then matchLoopF fx fuel real p s' t.tail q b
      else failK fx fuel real p q b := by
  rw [matchLoopF_succ]
  simp only [hd_cons, List.tail_cons, (by decide : ('?' == '*') = false), (by decide : ('?' == NUL) = false),
    beq_self_eq_true, bne_self_eq_false, Bool.true_and, Bool.false_and, Bool.false_eq_true, if_false]

theorem matchLoopF_nulc (fx : Bool) (fuel : Nat) (real : Bool) (p s' t q : Str) (b : Stack) :
    matchLoopF fx (fuel + 1) real p (NUL :: s') t q b =
      if (hd t == NUL || (hd t == '/' && !real)) = true then some true else failK fx fuel real p q b := by
  rw [matchLoopF_succ]
  simp only [hd_cons, (by decide : (NUL == '*') = false), (by decide : (NUL == '?') = false), beq_self_eq_true,
    bne_self_eq_false, Bool.true_and, Bool.false_and, Bool.and_false, Bool.false_eq_true, if_false]

theorem matchLoopF_lit (fx : Bool) (fuel : Nat) (real : Bool) (p : Str) (c : Char) (s' t q : Str) (b : Stack)
    (h1 : c ≠ '*') (h2 : c ≠ '?') (h3 : c ≠ NUL) :
    matchLoopF fx (fuel + 1) real p (c :: s') t q b =
      if (c == hd t) = true then matchLoopF fx fuel real p s' t.tail q b else failK fx fuel real p q b := by
  rw [matchLoopF_succ]
  simp only [hd_cons, List.tail_cons, beq_eq_false_iff_ne.2 h1, beq_eq_false_iff_ne.2 h2, beq_eq_false_iff_ne.2 h3,
    bne_iff_ne.2 h2, bne_iff_ne.2 h3, Bool.true_and, Bool.false_and, Bool.false_eq_true, if_false]

theorem matchLoopF_eq (fx real : Bool) (p : Str) : ∀ (fuel : Nat) (s t q : Str) (b : Stack), NUL ∉ q →
    costC fx s t + stackCost fx b + restCost fx p q ≤ fuel →
    matchLoopF fx fuel real p s t q b = some (mC fx real s t || stackAny fx real b || restAny fx real p q) := by
  intro fuel
  induction fuel with
  | zero =>
    intro s t q b _ hf
    have := costC_pos fx s t
    omega
  | succ fuel ih =>
    intro s t q b hq hf
    have hpos := costC_pos fx s t
    have hfail : mC fx real s t = false →
        failK fx fuel real p q b = some (mC fx real s t || stackAny fx real b || restAny fx real p q) := by
      intro hm
      rw [failK_eq fx real p fuel ih q b hq (by omega), hm, Bool.false_or]
    have hstep : ∀ (cond : Bool) (s' : Str), mC fx real s t = (cond && mC fx real s' t.tail) →
        costC fx s t = (if cond = true then 1 + costC fx s' t.tail else 1) →
        (if cond = true then matchLoopF fx fuel real p s' t.tail q b else failK fx fuel real p q b) =
          some (mC fx real s t || stackAny fx real b || restAny fx real p q) := by
      intro cond s' hm hc
      cases cond
      · exact hfail (by rw [hm, Bool.false_and])
      · rw [if_pos rfl] at hc ⊢
        rw [ih _ _ q _ hq (by omega), hm, Bool.true_and]
    have hend : mC fx real s t = (hd t == NUL || (hd t == '/' && !real)) →
        (if (hd t == NUL || (hd t == '/' && !real)) = true then some true else failK fx fuel real p q b) =
          some (mC fx real s t || stackAny fx real b || restAny fx real p q) := by
      intro hm
      split
      · next hc => rw [hm, hc, Bool.true_or, Bool.true_or]
      · next hc => exact hfail (by rw [hm]; exact Bool.eq_false_iff.2 hc)
    cases s with
    | nil =>
      -- the loop reads the end of the pattern as the terminator
      have e : matchLoopF fx (fuel + 1) real p [] t q b = matchLoopF fx (fuel + 1) real p [NUL] t q b := rfl
      rw [e, matchLoopF_nulc]
      exact hend (by rw [mC])
    | cons c s' =>
      by_cases hstar : c = '*'
      · subst hstar
        have hsp := starScan_spec fx real (hd s' == '*') (afterStar s') t b
        rw [costC_star] at hf
        rw [matchLoopF_star, ih _ _ q _ hq (by have := hsp.2; omega), mC_star, hsp.1]
      · by_cases hq1 : c = '?'
        · subst hq1
          rw [matchLoopF_qm]
          exact hstep _ s' (mC_qm fx real s' t) (costC_qm fx s' t)
        · by_cases hn : c = NUL
          · subst hn
            rw [matchLoopF_nulc]
            exact hend (mC_nulc fx real s' t)
          · rw [matchLoopF_lit fx fuel real p c s' t q b hstar hq1 hn]
            exact hstep _ s' (mC_lit fx real c s' t hstar hq1 hn) (costC_lit fx c s' t hstar hq1 hn)

/-- the loop terminates within `matchFuel` iterations and computes the recursive search from every restart position -/
theorem matchStreams_eq (fx real : Bool) (s t : Str) (ht : NUL ∉ t) :
    matchStreams fx real s t = some (mC fx real s t || restAny fx real s t) := by
  unfold matchStreams
  rw [matchLoopF_eq fx real s (matchFuel fx s t) s t t [] ht (by simp [matchFuel, stackCost, restCost])]
  simp [stackAny]

/-- the loop's test at the end of the pattern -/
def endOk (real : Bool) (t2 : Str) : Prop := t2 = [] ∨ (t2.head? = some '/' ∧ real = false)

theorem hd_eq_nul_iff (t : Str) (ht : NUL ∉ t) : hd t = NUL ↔ t = [] := by
  cases t with
  | nil => simp [hd]
  | cons c r =>
    simp only [hd, List.headD_cons, reduceCtorEq, iff_false]
    intro h; exact ht (by simp [h])

theorem eq_hd_cons_tail {t : Str} (h : hd t ≠ NUL) : t = hd t :: t.tail := by
  cases t with
  | nil => exact absurd rfl h
  | cons c r => rfl

theorem mC_nil_iff (fx real : Bool) (t : Str) (ht : NUL ∉ t) : mC fx real [] t = true ↔ endOk real t := by
  cases t with
  | nil => simp [mC, hd, endOk]
  | cons c r =>
    have hc : c ≠ NUL := fun h => ht (by simp [h])
    simp [mC, hd, endOk, hc]

theorem exists_split_cons {α : Type} (P : List α → List α → Prop) (c : α) (w : List α) :
    (∃ u v, c :: w = u ++ v ∧ P u v) ↔ P [] (c :: w) ∨ ∃ u v, w = u ++ v ∧ P (c :: u) v := by
  constructor
  · rintro ⟨_ | ⟨d, u⟩, v, e, h⟩
    · exact Or.inl (e ▸ h)
    · obtain ⟨rfl, rfl⟩ := List.cons.inj e
      exact Or.inr ⟨u, v, rfl, h⟩
  · rintro (h | ⟨u, v, rfl, h⟩)
    · exact ⟨[], _, rfl, h⟩
    · exact ⟨c :: u, v, rfl, h⟩

theorem exists_split_nil {α : Type} (P : List α → List α → Prop) :
    (∃ u v, ([] : List α) = u ++ v ∧ P u v) ↔ P [] [] :=
  ⟨fun ⟨u, v, e, h⟩ => by obtain ⟨rfl, rfl⟩ := List.nil_eq_append_iff.1 e; exact h, fun h => ⟨[], [], rfl, h⟩⟩

theorem starLoopB_iff (k : Str → Bool) (slash : Bool) (w : Str) :
    starLoopB k slash w = true ↔ ∃ u v, w = u ++ v ∧ (slash = true ∨ '/' ∉ u) ∧ k v = true := by
  induction w with
  | nil => rw [starLoopB, exists_split_nil]; simp only [List.not_mem_nil, not_false_eq_true, or_true, true_and]
  | cons c w ih =>
    rw [starLoopB, exists_split_cons, Bool.or_eq_true, Bool.and_eq_true, ih]
    -- left to do: `'/' ∉ c :: u` is `c ≠ '/'` and `'/' ∉ u`, and the test on `c` moves out of the existential
    simp only [List.not_mem_nil, not_false_eq_true, or_true, true_and, List.mem_cons, not_or, Bool.or_eq_true, bne_iff_ne, ne_eq,
      @eq_comm _ '/' c, or_and_left, and_assoc, and_left_comm (b := _ ∨ ¬ c = '/'), exists_and_left]

/-- the positions a star scan explores: where it stops (the end of the text; for `*` a separator) or has pushed a backtrack position -/
def explored (fx slash : Bool) (h : Char) (v : Str) : Bool := hd v == NUL || (!slash && hd v == '/') || pushOk fx h (hd v)

theorem scanC_eq (fx : Bool) (k : Str → Bool) (slash : Bool) (h : Char) : ∀ t : Str, NUL ∉ t →
    scanC fx k slash h t = starLoopB (fun v => explored fx slash h v && k v) slash t := by
  intro t
  induction t with
  | nil => intro _; simp [scanC, starLoopB, explored, hd]
  | cons c t ih =>
    intro ht
    have hc : (c == NUL) = false := beq_eq_false_iff_ne.2 fun e => ht (e ▸ List.mem_cons_self)
    rw [scanC, starLoopB, ← ih (fun e => ht (List.mem_cons_of_mem _ e))]
    simp only [explored, hd_cons, hc, bne, Bool.not_false, Bool.true_and, Bool.false_or]
    generalize (c == '/') = z
    cases slash <;> cases z <;> simp

/-- the repaired loop (`fx`), or no star of the pattern stands where the unrepaired loop loses backtrack positions -/
def StarOk (fx : Bool) (s : Str) : Prop := fx = true ∨ starOkR s = true

theorem StarOk_suffix {fx : Bool} {r s : Str} (hr : r <:+ s) (h : StarOk fx s) : StarOk fx r := by
  induction s with
  | nil => rwa [List.suffix_nil.1 hr]
  | cons c s ih =>
    rcases List.suffix_cons_iff.1 hr with rfl | hr
    · exact h
    · exact ih hr (h.imp id (fun h => by rw [starOkR, Bool.and_eq_true] at h; exact h.2))

/-- what the search accepts behind a star lies at an explored position -/
theorem mC_explored (fx real slash : Bool) (s2 v : Str) (hs2 : NUL ∉ s2) (hne : s2 = [] → slash = false)
    (hso : fx = true ∨ (hd s2 ≠ '?' ∧ hd s2 ≠ '*')) (hm : mC fx real s2 v = true) :
    explored fx slash (hd s2) v = true := by
  cases s2 with
  | nil =>
    rw [mC, Bool.or_eq_true, Bool.and_eq_true] at hm
    simp only [explored, hne rfl, Bool.not_false, Bool.true_and, Bool.or_eq_true]
    exact hm.elim (fun h => Or.inl (Or.inl h)) (fun h => Or.inl (Or.inr h.1))
  | cons c s3 =>
    rw [explored, Bool.or_eq_true]
    refine Or.inr ?_
    by_cases h1 : c = '*'
    · simp [pushOk, hd, h1, hso.resolve_right (fun h => h.2 h1)]
    · by_cases h2 : c = '?'
      · simp [pushOk, hd, h2, hso.resolve_right (fun h => h.1 h2)]
      · rw [mC_lit fx real c s3 v h1 h2 (fun h => hs2 (h ▸ List.mem_cons_self))] at hm
        rw [hd_cons, pushOk, (Bool.and_eq_true_iff.1 hm).1, Bool.true_or]

theorem glob_star_inv {p w : Str} (h : Glob ('*' :: p) w) : ∃ u w', w = u ++ w' ∧ Glob p w' := by
  cases h with
  | lit h1 _ _ => exact absurd rfl h1
  | star u _ hg => exact ⟨u, _, rfl, hg⟩
  | sstar u hg => exact ⟨u, _, rfl, Glob.star [] (List.not_mem_nil) hg⟩

theorem StarOk_star {fx : Bool} {p : Str} (h : StarOk fx ('*' :: p)) :
    fx = true ∨ (hd (afterStar p) ≠ '?' ∧ hd (afterStar p) ≠ '*') := by
  refine h.imp id (fun h => ?_)
  simp only [starOkR, beq_self_eq_true, if_true, Bool.and_eq_true] at h
  unfold afterStar
  by_cases h2 : (hd p == '*') = true
  · simp only [h2, if_true, Bool.and_eq_true, bne_iff_ne, ne_eq] at h ⊢
    exact ⟨h.1.2, h.1.1⟩
  · simp only [h2, Bool.false_eq_true, if_false, bne_iff_ne, ne_eq] at h ⊢
    exact ⟨h.1, by simpa using h2⟩

/-- what the search from pattern position `s`, path position `t` has to find -/
def PrefixMatch (real : Bool) (s t : Str) : Prop := ∃ t1 t2, t = t1 ++ t2 ∧ Glob s t1 ∧ endOk real t2

theorem prefixMatch_nil {real : Bool} {t : Str} : PrefixMatch real [] t ↔ endOk real t := by
  constructor
  · rintro ⟨t1, t2, rfl, hg, he⟩; cases hg; exact he
  · exact fun he => ⟨[], t, rfl, .nil, he⟩

theorem prefixMatch_lit {real : Bool} {c : Char} {s t : Str} (h1 : c ≠ '*') (h2 : c ≠ '?') :
    PrefixMatch real (c :: s) t ↔ ∃ t', t = c :: t' ∧ PrefixMatch real s t' := by
  constructor
  · rintro ⟨t1, t2, rfl, hg, he⟩
    cases hg with
    | lit _ _ hg => exact ⟨_, rfl, _, _, rfl, hg, he⟩
    | any1 _ _ => exact absurd rfl h2
    | star _ _ _ => exact absurd rfl h1
    | sstar _ _ => exact absurd rfl h1
  · rintro ⟨t', rfl, t1, t2, rfl, hg, he⟩
    exact ⟨c :: t1, t2, rfl, .lit h1 h2 hg, he⟩

theorem prefixMatch_qm {real : Bool} {s t : Str} :
    PrefixMatch real ('?' :: s) t ↔ ∃ d t', t = d :: t' ∧ d ≠ '/' ∧ PrefixMatch real s t' := by
  constructor
  · rintro ⟨t1, t2, rfl, hg, he⟩
    cases hg with
    | lit _ h2 _ => exact absurd rfl h2
    | any1 hd hg => exact ⟨_, _, rfl, hd, _, _, rfl, hg, he⟩
  · rintro ⟨d, t', rfl, hd, t1, t2, rfl, hg, he⟩
    exact ⟨d :: t1, t2, rfl, .any1 hd hg, he⟩

theorem eq_star_cons {p : Str} (h : (hd p == '*') = true) : ∃ p2, p = '*' :: p2 := by
  cases p with
  | nil => exact absurd h (by decide)
  | cons c2 p2 => exact ⟨p2, congrArg (· :: p2) (beq_iff_eq.1 h)⟩

/-- the loop's reading of a star: `**` if another `*` follows (then both are consumed), else `*`; a run of three or
    more stars read in another way matches no more than that -/
theorem prefixMatch_star {real : Bool} {p t : Str} :
    PrefixMatch real ('*' :: p) t ↔ ∃ u v, t = u ++ v ∧ ((hd p == '*') = true ∨ '/' ∉ u) ∧
      PrefixMatch real (afterStar p) v := by
  unfold afterStar
  constructor
  · rintro ⟨t1, t2, rfl, hg, he⟩
    cases hg with
    | lit h1 _ _ => exact absurd rfl h1
    | sstar u hg => exact ⟨u, _, List.append_assoc .., Or.inl rfl, _, _, rfl, hg, he⟩
    | star u hu hg =>
      by_cases h2 : (hd p == '*') = true
      · rw [if_pos h2]
        obtain ⟨p2, rfl⟩ := eq_star_cons h2
        obtain ⟨u', w', rfl, hg'⟩ := glob_star_inv hg
        exact ⟨u ++ u', w' ++ t2, by simp, Or.inl h2, _, _, rfl, hg', he⟩
      · rw [if_neg h2]
        exact ⟨u, _, List.append_assoc .., Or.inr hu, _, _, rfl, hg, he⟩
  · rintro ⟨u, v, rfl, hu, t1, t2, rfl, hg, he⟩
    refine ⟨u ++ t1, t2, (List.append_assoc ..).symm, ?_, he⟩
    by_cases h2 : (hd p == '*') = true
    · rw [if_pos h2] at hg
      obtain ⟨p2, rfl⟩ := eq_star_cons h2
      exact .sstar u hg
    · rw [if_neg h2] at hg
      exact .star u (hu.resolve_left h2) hg

/-- the search decides `PrefixMatch`: sound for any variant of the code; complete for the repaired loop (`fx`) always, before
    the repair on patterns where no star is followed by `?`/`*` -/
theorem mC_spec (fx real : Bool) (s : Str) : ∀ t : Str, NUL ∉ s → NUL ∉ t →
    (mC fx real s t = true → PrefixMatch real s t) ∧ (StarOk fx s → PrefixMatch real s t → mC fx real s t = true) := by
  induction s using suffix_induction with
  | nil =>
    intro t _ ht
    exact ⟨fun h => prefixMatch_nil.2 ((mC_nil_iff fx real t ht).1 h), fun _ h => (mC_nil_iff fx real t ht).2 (prefixMatch_nil.1 h)⟩
  | cons c p ih =>
    intro t hs ht
    have hc0 : c ≠ NUL := fun h => hs (by simp [h])
    have hp : NUL ∉ p := fun h => hs (by simp [h])
    by_cases hstar : c = '*'
    · subst hstar
      have hsuf := afterStar_suffix p
      have hn2 : NUL ∉ afterStar p := fun h => hp (hsuf.subset h)
      have ih2 : ∀ {u v : Str}, t = u ++ v → _ := fun {u v} e => ih _ hsuf v hn2 (fun h => ht (by simp [e, h]))
      rw [mC_star, scanC_eq _ _ _ _ t ht, starLoopB_iff, prefixMatch_star]
      constructor
      · rintro ⟨u, v, e, hu, hv⟩
        exact ⟨u, v, e, hu, (ih2 e).1 (Bool.and_eq_true_iff.1 hv).2⟩
      · rintro hso ⟨u, v, e, hu, hv⟩
        by_cases hend : afterStar p = [] ∧ (hd p == '*') = true
        · -- `**` at the end of the pattern: the scan runs to the end of the text, wherever the rule lets the match end
          exact ⟨t, [], (List.append_nil t).symm, Or.inl hend.2, by rw [hend.1]; rfl⟩
        · have hm := (ih2 e).2 (StarOk_suffix (hsuf.trans (List.suffix_cons _ _)) hso) hv
          exact ⟨u, v, e, hu, Bool.and_eq_true_iff.2 ⟨mC_explored fx real _ _ v hn2
            (fun e => Bool.eq_false_iff.2 (fun h => hend ⟨e, h⟩)) (StarOk_star hso) hm, hm⟩⟩
    · have ihp := ih p (List.suffix_refl _) t.tail hp (not_mem_tail ht)
      by_cases hq : c = '?'
      · subst hq
        rw [mC_qm]
        simp only [Bool.and_eq_true, bne_iff_ne, ne_eq]
        constructor
        · intro hm
          exact prefixMatch_qm.2 ⟨hd t, t.tail, eq_hd_cons_tail hm.1.1, hm.1.2, ihp.1 hm.2⟩
        · intro hso ha
          obtain ⟨d, t', rfl, hd', ha'⟩ := prefixMatch_qm.1 ha
          exact ⟨⟨fun h => ht (h ▸ List.mem_cons_self), hd'⟩, ihp.2 (StarOk_suffix (List.suffix_cons _ _) hso) ha'⟩
      · rw [mC_lit fx real c p t hstar hq hc0]
        simp only [Bool.and_eq_true, beq_iff_eq]
        constructor
        · intro hm
          exact (prefixMatch_lit hstar hq).2 ⟨t.tail, hm.1 ▸ eq_hd_cons_tail (hm.1 ▸ hc0), ihp.1 hm.2⟩
        · intro hso ha
          obtain ⟨t', rfl, ha'⟩ := (prefixMatch_lit hstar hq).1 ha
          exact ⟨rfl, ihp.2 (StarOk_suffix (List.suffix_cons _ _) hso) ha'⟩

theorem mC_sound (fx real : Bool) (s t : Str) (hs : NUL ∉ s) (ht : NUL ∉ t) (h : mC fx real s t = true) : PrefixMatch real s t :=
  (mC_spec fx real s t hs ht).1 h

theorem mC_complete (fx real : Bool) (s t : Str) (hs : NUL ∉ s) (ht : NUL ∉ t) (hso : StarOk fx s) (h : PrefixMatch real s t) :
    mC fx real s t = true :=
  (mC_spec fx real s t hs ht).2 hso h

theorem glob_append {p1 w1 p2 w2 : Str} (h1 : Glob p1 w1) (h2 : Glob p2 w2) : Glob (p1 ++ p2) (w1 ++ w2) := by
  induction h1 with
  | nil => simpa using h2
  | lit ha hb _ ih => exact .lit ha hb ih
  | any1 ha _ ih => exact .any1 ha ih
  | star u hu _ ih => rw [List.append_assoc]; exact .star u hu ih
  | sstar u _ ih => rw [List.append_assoc]; exact .sstar u ih

theorem glob_reverse {p w : Str} (h : Glob p w) : Glob p.reverse w.reverse := by
  induction h with
  | nil => exact .nil
  | lit ha hb _ ih =>
    simp only [List.reverse_cons]
    exact glob_append ih (.lit ha hb .nil)
  | any1 ha _ ih =>
    simp only [List.reverse_cons]
    exact glob_append ih (.any1 ha .nil)
  | star u hu _ ih =>
    simp only [List.reverse_cons, List.reverse_append]
    refine glob_append ih ?_
    have := Glob.star (p := []) (w := []) u.reverse (by simpa using hu) .nil
    simpa using this
  | sstar u _ ih =>
    simp only [List.reverse_cons, List.reverse_append, List.append_assoc]
    refine glob_append ih ?_
    have := Glob.sstar (p := []) (w := []) u.reverse .nil
    simpa using this

theorem glob_reverse_iff (p w : Str) : Glob p.reverse w.reverse ↔ Glob p w := by
  constructor
  · intro h; simpa using glob_reverse h
  · exact glob_reverse

theorem mem_afterSeps (t q : Str) : q ∈ afterSeps t ↔ '/' :: q <:+ t := by
  induction t with
  | nil => simp [afterSeps]
  | cons c t ih =>
    rw [afterSeps, List.suffix_cons_iff]
    by_cases hc : c = '/'
    · subst hc; simp [ih, @eq_comm _ q t]
    · simp [hc, ih, Ne.symm hc]

theorem endOk_reverse (real : Bool) (pre : Str) :
    endOk real pre.reverse ↔ (pre = [] ∨ (real = false ∧ pre.getLast? = some '/')) := by
  simp only [endOk, List.reverse_eq_nil_iff, List.head?_reverse, and_comm]

/-- the documented rule in the terms of the search, read backwards: `q` starts where the part `post` of the path ends, the
    end test holds where `pre` ends -/
theorem specMatch_iff_prefixMatch (real : Bool) (P Y : Str) :
    SpecMatch real P Y ↔ ∃ q, (q = Y.reverse ∨ q ∈ afterSeps Y.reverse) ∧ PrefixMatch real P.reverse q := by
  constructor
  · rintro ⟨pre, mid, post, rfl, hpost, hpre, hg⟩
    refine ⟨(pre ++ mid).reverse, ?_, mid.reverse, pre.reverse, List.reverse_append, glob_reverse hg,
      (endOk_reverse real pre).2 hpre⟩
    rcases hpost with rfl | hpost
    · exact Or.inl (by rw [List.append_nil])
    · obtain ⟨post', rfl⟩ := List.head?_eq_some_iff.1 hpost
      exact Or.inr ((mem_afterSeps _ _).2 ⟨post'.reverse, by simp⟩)
  · rintro ⟨q, hq, t1, t2, rfl, hg, he⟩
    have hpre := (endOk_reverse real t2.reverse).1 (by simpa using he)
    have hg' := (glob_reverse_iff P t1.reverse).1 (by simpa using hg)
    rcases hq with hq | hq
    · exact ⟨t2.reverse, t1.reverse, [], by rw [← List.reverse_reverse Y, ← hq]; simp, Or.inl rfl, hpre, hg'⟩
    · obtain ⟨a, ea⟩ := (mem_afterSeps _ _).1 hq
      exact ⟨t2.reverse, t1.reverse, '/' :: a.reverse, by rw [← List.reverse_reverse Y, ← ea]; simp, Or.inr rfl, hpre, hg'⟩

theorem search_iff (fx real : Bool) (s t : Str) :
    (mC fx real s t || restAny fx real s t) = true ↔ ∃ q, (q = t ∨ q ∈ afterSeps t) ∧ mC fx real s q = true := by
  simp only [restAny, Bool.or_eq_true, List.any_eq_true, or_and_right, exists_or, exists_eq_left]

theorem nul_not_mem_restart {t q : Str} (ht : NUL ∉ t) (hq : q = t ∨ q ∈ afterSeps t) : NUL ∉ q := by
  rcases hq with rfl | hq
  · exact ht
  · exact fun h => ht (((List.suffix_cons _ _).trans ((mem_afterSeps _ _).1 hq)).subset h)

theorem search_sound (fx real : Bool) (P Y : Str) (hP : NUL ∉ P) (hY : NUL ∉ Y)
    (h : (mC fx real P.reverse Y.reverse || restAny fx real P.reverse Y.reverse) = true) : SpecMatch real P Y := by
  obtain ⟨q, hq, hm⟩ := (search_iff ..).1 h
  exact (specMatch_iff_prefixMatch real P Y).2 ⟨q, hq, mC_sound fx real _ q (by simpa using hP)
    (nul_not_mem_restart (by simpa using hY) hq) hm⟩

theorem search_iff_spec (fx real : Bool) (P Y : Str) (hP : NUL ∉ P) (hY : NUL ∉ Y) (hso : StarOk fx P.reverse) :
    (mC fx real P.reverse Y.reverse || restAny fx real P.reverse Y.reverse) = true ↔ SpecMatch real P Y := by
  refine ⟨search_sound fx real P Y hP hY, fun h => ?_⟩
  obtain ⟨q, hq, ha⟩ := (specMatch_iff_prefixMatch real P Y).1 h
  exact (search_iff ..).2 ⟨q, hq, mC_complete fx real _ q (by simpa using hP)
    (nul_not_mem_restart (by simpa using hY) hq) hso ha⟩

/-- the loop in the form `pathMatch` calls it -/
theorem matchStreams_spec (fx real : Bool) (P Y : Str) (hP : NUL ∉ P) (hY : NUL ∉ Y) (hso : StarOk fx P.reverse) :
    (matchStreams fx real P.reverse Y.reverse).getD false = true ↔ SpecMatch real P Y := by
  rw [matchStreams_eq fx real _ _ (by simpa using hY), Option.getD_some]
  exact search_iff_spec fx real P Y hP hY hso

theorem globB_sound (p : Str) : ∀ w : Str, globB p w = true → Glob p w := by
  induction p using suffix_induction with
  | nil =>
    intro w h
    have : w = [] := by simpa [globB] using h
    subst this; exact .nil
  | cons c p' ih =>
    intro w h
    unfold globB at h
    by_cases hs : c = '*'
    · subst hs
      simp only [beq_self_eq_true, if_true, Bool.or_eq_true] at h
      rcases h with h | h
      · obtain ⟨u, v, e, hu, hk⟩ := (starLoopB_iff _ _ _).1 h
        subst e
        refine .star u ?_ (ih p' (List.suffix_refl _) v hk)
        rcases hu with hu | hu
        · cases hu
        · exact hu
      · cases p' with
        | nil => simp at h
        | cons c2 p2 =>
          simp only [Bool.and_eq_true, beq_iff_eq] at h
          obtain ⟨hc2, h⟩ := h
          subst hc2
          obtain ⟨u, v, e, _, hk⟩ := (starLoopB_iff _ _ _).1 h
          subst e
          exact .sstar u (ih p2 (List.suffix_cons _ _) v hk)
    · have hb : (c == '*') = false := by simp [hs]
      simp only [hb, Bool.false_eq_true, if_false] at h
      by_cases hq : c = '?'
      · subst hq
        simp only [beq_self_eq_true, if_true] at h
        cases w with
        | nil => simp at h
        | cons d w' =>
          simp only [Bool.and_eq_true, bne_iff_ne, ne_eq] at h
          exact .any1 h.1 (ih p' (List.suffix_refl _) w' h.2)
      · have hb2 : (c == '?') = false := by simp [hq]
        simp only [hb2, Bool.false_eq_true, if_false] at h
        cases w with
        | nil => simp at h
        | cons d w' =>
          simp only [Bool.and_eq_true, beq_iff_eq] at h
          obtain ⟨hcd, h⟩ := h
          subst hcd
          exact .lit hs hq (ih p' (List.suffix_refl _) w' h)

theorem globB_complete {p w : Str} (h : Glob p w) : globB p w = true := by
  induction h with
  | nil => simp [globB]
  | lit ha hb _ ih =>
    unfold globB
    simp [ha, hb, ih]
  | any1 ha _ ih =>
    unfold globB
    simp [ha, ih]
  | star u hu _ ih =>
    unfold globB
    simp only [beq_self_eq_true, if_true, Bool.or_eq_true]
    left
    exact (starLoopB_iff _ _ _).2 ⟨u, _, rfl, Or.inr hu, ih⟩
  | sstar u _ ih =>
    unfold globB
    simp only [beq_self_eq_true, if_true, Bool.or_eq_true, Bool.true_and]
    right
    exact (starLoopB_iff _ _ _).2 ⟨u, _, rfl, Or.inl rfl, ih⟩

theorem globB_iff (p w : Str) : globB p w = true ↔ Glob p w :=
  ⟨globB_sound p w, globB_complete⟩

theorem prefixB_iff (P : Str) : ∀ (w acc : Str),
    prefixB P acc w = true ↔
      ∃ w1 w2, w = w1 ++ w2 ∧ (w2 = [] ∨ w2.head? = some '/') ∧ Glob P (acc.reverse ++ w1) := by
  intro w
  induction w with
  | nil => intro acc; rw [prefixB, exists_split_nil, globB_iff]; simp only [List.append_nil, true_or, true_and]
  | cons c w ih =>
    intro acc
    rw [prefixB, exists_split_cons, Bool.or_eq_true, Bool.and_eq_true, ih, globB_iff]
    -- left to do: `c :: w` as second part is not empty and starts with `c`; as first part `c` joins the accumulator
    simp only [beq_iff_eq, @eq_comm _ c '/', List.reverse_cons, List.append_assoc, List.cons_append, List.nil_append,
      reduceCtorEq, List.head?_cons, Option.some.injEq, false_or, List.append_nil]

theorem specMatchB_iff (real : Bool) (P Y : Str) : specMatchB real P Y = true ↔ SpecMatch real P Y := by
  simp only [specMatchB, startsB, Bool.or_eq_true, Bool.and_eq_true, Bool.not_eq_true', List.any_eq_true,
    prefixB_iff, List.reverse_nil, List.nil_append]
  constructor
  · rintro (⟨w1, w2, e, hw2, hg⟩ | ⟨hr, q, hq, w1, w2, e, hw2, hg⟩)
    · exact ⟨[], w1, w2, by simp [e], hw2, Or.inl rfl, hg⟩
    · obtain ⟨a, ea⟩ := (mem_afterSeps _ _).1 hq
      refine ⟨a ++ ['/'], w1, w2, by simp [← ea, e], hw2, Or.inr ⟨hr, by simp⟩, hg⟩
  · rintro ⟨pre, mid, post, e, hpost, hpre, hg⟩
    rcases hpre with hpre | ⟨hr, hl⟩
    · subst hpre
      left
      exact ⟨mid, post, by simpa using e, hpost, hg⟩
    · right
      refine ⟨hr, mid ++ post, ?_, mid, post, rfl, hpost, hg⟩
      obtain ⟨a, ha⟩ := List.getLast?_eq_some_iff.1 hl
      exact (mem_afterSeps _ _).2 ⟨a, by rw [e, ha]; simp⟩

theorem streamF_no_nul (v : Variant) : ∀ (fuel root : Nat) (rem : Str), NUL ∉ streamF v fuel root rem := by
  intro fuel
  induction fuel with
  | zero => intro root rem; simp [streamF]
  | succ fuel ih =>
    intro root rem
    simp only [streamF]
    split
    · simp
    · rename_i h
      intro hm
      simp only [List.mem_cons] at hm
      rcases hm with hm | hm
      · simp [← hm] at h
      · exact ih root _ hm

theorem stream_no_nul (v : Variant) (it : Iter) : NUL ∉ it.stream v := streamF_no_nul v _ _ _

theorem split_first_comp : ∀ Y : Str, ∃ mid post, Y = mid ++ post ∧ '/' ∉ mid ∧ (post = [] ∨ post.head? = some '/')
  | [] => ⟨[], [], rfl, List.not_mem_nil, Or.inl rfl⟩
  | c :: Y => by
    by_cases hc : c = '/'
    · exact ⟨[], c :: Y, rfl, List.not_mem_nil, Or.inr (by rw [hc]; rfl)⟩
    · obtain ⟨mid, post, e, hm, hp⟩ := split_first_comp Y
      exact ⟨c :: mid, post, by rw [e]; rfl, fun h => (List.mem_cons.1 h).elim (fun e => hc e.symm) hm, hp⟩

theorem specMatch_of_glob_comp (real : Bool) (P Y : Str) (h : ∀ mid : Str, '/' ∉ mid → Glob P mid) : SpecMatch real P Y := by
  obtain ⟨mid, post, e, hm, hp⟩ := split_first_comp Y
  exact ⟨[], mid, post, e, hp, Or.inl rfl, h mid hm⟩

theorem skipLast_reverse (X : Str) (hX : NUL ∉ X) : skipLast true X.reverse = (parentOf X).reverse := by
  have hn : NUL ∉ X.reverse := by simpa using hX
  simp only [skipLast, parentOf, List.reverse_reverse]
  rcases skipToSep_cases X.reverse hn with h | ⟨q, h⟩
  · rw [h]; rfl
  · rw [h]; simp [hd]

theorem parentOf_no_nul (X : Str) (hX : NUL ∉ X) : NUL ∉ parentOf X := by
  have hn : NUL ∉ X.reverse := by simpa using hX
  have := nul_not_mem_skipToSep X.reverse hn
  simp only [parentOf, List.mem_reverse]
  exact fun h => this (List.mem_of_mem_tail h)

theorem fromPattern_stream (syn : Syntax) (pattern base : Str)
    (h : CanonDomain (rawPattern syn pattern base).1 (rawPattern syn pattern base).2 = true) :
    (fromPattern .fixed syn pattern base).stream .fixed = (canonPattern syn pattern base).reverse := by
  unfold fromPattern canonPattern
  unfold rawPattern at h
  split
  · rename_i hr; simp only [hr, if_true] at h; exact iter_stream_eq_canon syn base pattern h
  · rename_i hr; simp only [hr] at h; exact iter_stream_eq_canon syn pattern [] h

theorem fromPath_stream (syn : Syntax) (path base : Str)
    (h : CanonDomain (rawPath syn path base).1 (rawPath syn path base).2 = true) :
    (fromPath .fixed syn path base).stream .fixed = (canonPath syn path base).reverse := by
  unfold fromPath canonPath
  unfold rawPath at h
  split
  · rename_i hr; simp only [hr, if_true] at h; exact iter_stream_eq_canon syn path [] h
  · rename_i hr; simp only [hr] at h; exact iter_stream_eq_canon syn base path h

/-- the `*` / `**` fast path of the code is covered by the rule -/
theorem star_pattern_spec (syn : Syntax) (pattern base Y : Str) (h : pattern = ['*'] ∨ pattern = ['*', '*']) :
    SpecMatch (isReal pattern) (canonPattern syn pattern base) Y := by
  have hc : canonPattern syn pattern base = pattern := by rcases h with rfl | rfl <;> cases syn <;> rfl
  rw [hc]
  refine specMatch_of_glob_comp _ _ Y (fun mid hm => ?_)
  rcases h with rfl | rfl
  · simpa using Glob.star (p := []) (w := []) mid hm .nil
  · simpa using Glob.sstar (p := []) (w := []) mid .nil

theorem glob_self : ∀ p : Str, Glob p p
  | [] => .nil
  | c :: p => by
    by_cases h1 : c = '*'
    · subst h1
      have := Glob.star (p := p) (w := p) ['*'] (by decide) (glob_self p)
      simpa using this
    · by_cases h2 : c = '?'
      · subst h2; exact .any1 (by decide) (glob_self p)
      · exact .lit h1 h2 (glob_self p)

theorem specMatch_self (real : Bool) (P : Str) : SpecMatch real P P :=
  ⟨[], P, [], by simp, Or.inl rfl, Or.inl rfl, glob_self P⟩

theorem not_abs_of_rel {p : Str} (h : isRelativePattern p = true) : isAbsolute p = false := by
  cases p with
  | nil => rfl
  | cons c r =>
    by_cases hc : c = '/'
    · subst hc; simp [isRelativePattern, cat] at h
    · simp [isAbsolute, hc]

/-- **the `pattern == path` shortcut is covered by the rule**: a pattern always matches the path that is spelled
    exactly like it (inside the documented domain; `FastPathOk`: not for a free pattern with a relative base path) -/
theorem fast_path_spec (syn : Syntax) (pattern base : Str)
    (hp : CanonDomain (rawPattern syn pattern base).1 (rawPattern syn pattern base).2 = true)
    (hx : CanonDomain (rawPath syn pattern base).1 (rawPath syn pattern base).2 = true)
    (hf : FastPathOk syn pattern base = true) :
    SpecMatch (isReal pattern) (canonPattern syn pattern base) (canonPath syn pattern base) := by
  unfold canonPattern canonPath
  unfold rawPattern at hp
  unfold rawPath at hx
  by_cases hrel : isRelativePattern pattern = true
  · have ha := not_abs_of_rel hrel
    simp only [hrel, ha, if_true, Bool.false_eq_true, if_false]
    exact specMatch_self _ _
  · have hrel' : isRelativePattern pattern = false := by simpa using hrel
    by_cases habs : isAbsolute pattern = true
    · simp only [hrel', habs, if_true, Bool.false_eq_true, if_false]
      exact specMatch_self _ _
    · have habs' : isAbsolute pattern = false := by simpa using habs
      simp only [hrel', habs', Bool.false_eq_true, if_false] at hp hx ⊢
      have hreal : isReal pattern = false := by simp [isReal, hrel', habs']
      rw [hreal]
      simp only [FastPathOk, hreal, Bool.false_or, Bool.or_eq_true, Bool.and_eq_true, beq_iff_eq] at hf
      rcases hf with he | ⟨hb, hr⟩
      · have : base = [] := by cases base <;> simp_all
        subst this
        rw [canonOf_nil_left]
        exact specMatch_self _ _
      · obtain ⟨pre, e, hpre⟩ := canonOf_join syn base pattern hb hr hp hx
        rcases hpre with h | ⟨hP, hY⟩
        · exact ⟨pre, canonOf syn pattern [], [], by simp [e], Or.inl rfl, Or.inr ⟨rfl, h⟩, glob_self _⟩
        · rw [hP] at *
          exact ⟨[], [], canonOf syn base pattern, by simp, Or.inr hY, Or.inl rfl, .nil⟩

theorem rootLen_unix_zero (p : Str) (h : isAbsolute p = false) : rootLen .unix (cstr p) = 0 := by
  cases p with
  | nil => rfl
  | cons c r =>
    have hc : c ≠ '/' := by intro e; subst e; simp [isAbsolute] at h
    by_cases hn : c = NUL
    · subst hn; simp [cstr, rootLen, cat, issep, NUL]
    · have : cstr (c :: r) = c :: cstr r := by simp [cstr, hn]
      rw [this]
      simp [rootLen, cat, issep, hc]

/-- unix syntax with an absolute (or empty) base path: the shortcut is always covered -/
theorem fastPathOk_unix (p base : Str) (hb : isAbsolute base = true ∨ base = []) : FastPathOk .unix p base = true := by
  simp only [FastPathOk, Bool.or_eq_true, Bool.and_eq_true, beq_iff_eq]
  rcases hb with hb | hb
  · by_cases hr : isReal p = true
    · exact Or.inl (Or.inl hr)
    · right
      refine ⟨hb, rootLen_unix_zero p ?_⟩
      simp only [isReal, Bool.or_eq_true, not_or, Bool.not_eq_true] at hr
      exact hr.1
  · subst hb; exact Or.inl (Or.inr rfl)

end Cppcheck.PathMatch
