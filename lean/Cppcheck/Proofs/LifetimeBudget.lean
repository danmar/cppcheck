import Cppcheck.Model.LifetimeBudget
/-
C13 — cost of the reference-following recursion under the two ways of charging the budget.
-/
namespace Cppcheck.LifetimeBudget

theorem calls_zero (c : Charge) (r : Nat) : calls c r 0 = 1 := by
  rw [calls]

theorem calls_succ (c : Charge) (r n : Nat) : calls c r (n + 1) = 1 + r * calls c r (n + 1 - c.cost r) := by
  rw [calls]; split
  · simp [*]
  · rfl

theorem calls_r0 (c : Charge) (n : Nat) : calls c 0 n = 1 := by
  cases n with
  | zero => rw [calls]
  | succ n => rw [calls]; simp

/-- for the fixed budget `n` of the code the bound is *linear* in the number `r` of return statements of the callee -/
theorem calls_perReturns_le (r : Nat) : ∀ n, calls .perReturns r n ≤ (r + 1) * 2 ^ n := by
  intro n
  induction n using Nat.strongRecOn with
  | _ n ih =>
    cases n with
    | zero => rw [calls_zero]; simp
    | succ m =>
      by_cases hr : r = 0
      · subst hr; rw [calls_r0]; simp; exact Nat.one_le_two_pow
      · rw [calls_succ]
        simp only [Charge.cost]
        by_cases hle : m + 1 ≤ r
        · -- the budget is used up at once: 1 + r invocations
          rw [Nat.sub_eq_zero_of_le hle, calls_zero, Nat.mul_one, Nat.add_comm]
          exact Nat.le_mul_of_pos_right _ (Nat.two_pow_pos _)
        · -- with `P` the bound for the remaining budget: 1 + r * P ≤ (r + 1) * P ≤ 2 ^ r * P
          have hP : 1 ≤ (r + 1) * 2 ^ (m + 1 - r) := Nat.mul_pos (Nat.succ_pos r) (Nat.two_pow_pos _)
          calc 1 + r * calls .perReturns r (m + 1 - r)
              ≤ (r + 1) * 2 ^ (m + 1 - r) + r * ((r + 1) * 2 ^ (m + 1 - r)) :=
                Nat.add_le_add hP (Nat.mul_le_mul_left _ (ih (m + 1 - r) (by omega)))
            _ = (r + 1) * ((r + 1) * 2 ^ (m + 1 - r)) := (Nat.add_comm _ _).trans (Nat.succ_mul r _).symm
            _ ≤ 2 ^ r * ((r + 1) * 2 ^ (m + 1 - r)) := Nat.mul_le_mul_right _ Nat.lt_two_pow_self
            _ = (r + 1) * 2 ^ (m + 1) := by rw [Nat.mul_left_comm, ← Nat.pow_add, Nat.add_sub_cancel' (by omega)]

theorem calls_perCall_ge (r : Nat) : ∀ n, r ^ n ≤ calls .perCall r n := by
  intro n
  induction n with
  | zero => rw [calls_zero]; simp
  | succ m ih =>
    rw [calls_succ]
    simp only [Charge.cost, Nat.add_sub_cancel]
    rw [Nat.pow_succ, Nat.mul_comm]
    exact Nat.le_trans (Nat.mul_le_mul_left _ ih) (Nat.le_add_left _ _)

end Cppcheck.LifetimeBudget
