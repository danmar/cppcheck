import Cppcheck.Model.SevGate
/-
Soundness of the decision procedures of Model/SevGate.lean, for every formula, option set and environment: `eval` through the
disjunctive normal form, then `dead`, `entails`, `entailsCli` and `possible`; the per-row checks (`gateOk`, `gateOkCli`, `incOk`,
`posOk`) follow.  At the end (`Select`): any selector of a value followed by the gate.
`D` is the number of Settings flags whose default is false (the literals `0 … D-1`); Props/C27 puts in `nFlags` of the generated table.
-/
namespace Cppcheck.SevGate

theorem evalAtom_mono {o o' : Opts} (h : o ≤ o') (env : Env) (a : OptAtom) :
    evalAtom o env a = true → evalAtom o' env a = true := by
  cases a with
  | enabled e => exact h.1 _
  | inconclusive => exact h.2

theorem evalDnf_append (o : Opts) (env : Env) (xs ys : List Conj) :
    evalDnf o env (xs ++ ys) = (evalDnf o env xs || evalDnf o env ys) := by
  simp [evalDnf, List.any_append]

theorem evalDnf_prefix (o : Opts) (env : Env) (c : Conj) (ys : List Conj) :
    evalDnf o env (ys.map (fun d => c ++ d)) = (c.all (evalLit o env) && evalDnf o env ys) := by
  simp only [evalDnf, List.any_map, Function.comp_def, List.all_append, List.and_any_distrib_left]

theorem evalDnf_product (o : Opts) (env : Env) (xs ys : List Conj) :
    evalDnf o env (xs.flatMap (fun c => ys.map (fun d => c ++ d))) = (evalDnf o env xs && evalDnf o env ys) := by
  simp only [evalDnf, List.any_flatMap, List.any_map, Function.comp_def, List.all_append, ← List.and_any_distrib_left,
    ← List.and_any_distrib_right]

theorem eval_dnf (o : Opts) (env : Env) (f : Formula) : eval o env f = evalDnf o env (dnf f) := by
  induction f with
  | tt => simp [eval, dnf, evalDnf]
  | ff => simp [eval, dnf, evalDnf]
  | opt a => simp [eval, dnf, evalDnf, evalLit]
  | nopt a => simp [eval, dnf, evalDnf, evalLit]
  | lit k p => simp [eval, dnf, evalDnf, evalLit]
  | and a b iha ihb => simp only [eval, dnf, evalDnf_product, iha, ihb]
  | or a b iha ihb => simp only [eval, dnf, evalDnf_append, iha, ihb]

theorem SevExpr.beq_eq {a b : SevExpr} (h : a.beq b = true) : a = b := by
  cases a <;> cases b <;> simp [SevExpr.beq] at h <;> simp [h]

theorem OptAtom.beq_eq {a b : OptAtom} (h : a.beq b = true) : a = b := by
  cases a <;> cases b <;> simp [OptAtom.beq] at h
  · rw [SevExpr.beq_eq h]
  · rfl

theorem hasOpt_mem {c : Conj} {a : OptAtom} (h : hasOpt c a = true) : Literal.opt a ∈ c := by
  simp only [hasOpt, List.any_eq_true] at h
  obtain ⟨l, hl, hb⟩ := h
  cases l with
  | lit k p => cases hb
  | nopt b => cases hb
  | opt b => rw [← OptAtom.beq_eq hb]; exact hl

theorem hasLit_mem {c : Conj} {k : Nat} {p : Bool} (h : hasLit c k p = true) : Literal.lit k p ∈ c := by
  simp only [hasLit, List.any_eq_true] at h
  obtain ⟨l, hl, hb⟩ := h
  cases l with
  | opt b => cases hb
  | nopt b => cases hb
  | lit k' p' =>
    simp only [Bool.and_eq_true, beq_iff_eq] at hb
    rw [← hb.1, ← hb.2]; exact hl

theorem eval_iff_conj {o : Opts} {env : Env} {f : Formula} :
    eval o env f = true ↔ ∃ c ∈ dnf f, ∀ l ∈ c, evalLit o env l = true := by
  simp only [eval_dnf, evalDnf, List.any_eq_true, List.all_eq_true]

theorem dead_sound {D : Nat} {env : Env} (hD : defaultsHold D env) {o : Opts} {c : Conj}
    (hall : ∀ l ∈ c, evalLit o env l = true) : dead D c = false := by
  rw [Bool.eq_false_iff]
  intro hd
  simp only [dead, List.any_eq_true] at hd
  obtain ⟨l, hl, hcase⟩ := hd
  have h1 := hall _ hl
  cases l with
  | opt a => cases hcase
  | nopt a =>
    have h2 := hall _ (hasOpt_mem hcase)
    simp only [evalLit] at h1 h2
    rw [h2] at h1
    cases h1
  | lit k p =>
    simp only [Bool.or_eq_true, Bool.and_eq_true, decide_eq_true_eq] at hcase
    simp only [evalLit, beq_iff_eq] at h1
    cases hcase with
    | inl hdflt =>
      have := hD k hdflt.2
      rw [h1, hdflt.1] at this
      cases this
    | inr hc =>
      have h2 := hall _ (hasLit_mem hc)
      simp only [evalLit, beq_iff_eq] at h2
      rw [h1] at h2
      cases p <;> simp at h2

theorem entails_sound {D : Nat} {f : Formula} {a : OptAtom} (h : entails D f a = true)
    {env : Env} (hD : defaultsHold D env) (o : Opts) (he : eval o env f = true) : evalAtom o env a = true := by
  obtain ⟨c, hc, hall⟩ := eval_iff_conj.mp he
  have hmem := List.all_eq_true.mp h c hc
  rw [dead_sound hD hall, Bool.false_or] at hmem
  exact hall _ (hasOpt_mem hmem)

theorem entailsCli_sound {D : Nat} {f : Formula} {a : OptAtom} (h : entailsCli D f a = true)
    {env : Env} (hD : defaultsHold D env) (o : Opts) (hcli : o.cliClosed) (he : eval o env f = true) :
    evalAtom o env a = true := by
  obtain ⟨c, hc, hall⟩ := eval_iff_conj.mp he
  have hc' := List.all_eq_true.mp h c hc
  simp only [dead_sound hD hall, Bool.false_or, Bool.or_eq_true, Bool.and_eq_true] at hc'
  rcases hc' with hmem | ⟨himp, hstyle⟩
  · exact hall _ (hasOpt_mem hmem)
  · obtain ⟨hw, hp, hq⟩ := hcli (hall _ (hasOpt_mem hstyle))
    cases a with
    | inconclusive => simp [impliedByStyle] at himp
    | enabled e =>
      cases e with
      | sym k => simp [impliedByStyle] at himp
      | const s =>
        cases s <;> simp [impliedByStyle] at himp <;> simp [evalAtom, SevExpr.eval, hw, hp, hq]

theorem possible_complete {D : Nat} (f : Formula) (o : Opts) (env : Env) (hD : defaultsHold D env)
    (he : eval o env f = true) : possible D f o = true := by
  obtain ⟨c, hc, hall⟩ := eval_iff_conj.mp he
  simp only [possible, List.any_eq_true]
  refine ⟨c, hc, ?_⟩
  simp only [dead_sound hD hall, Bool.not_false, Bool.true_and, List.all_eq_true]
  intro l hl
  have hv := hall l hl
  cases l with
  | lit k p => rfl
  | opt a =>
    cases a with
    | inconclusive => simpa [evalLit, evalAtom] using hv
    | enabled e =>
      cases e with
      | sym k => rfl
      | const s => simpa [evalLit, evalAtom, SevExpr.eval] using hv
  | nopt a =>
    cases a with
    | inconclusive => simpa [evalLit, evalAtom] using hv
    | enabled e =>
      cases e with
      | sym k => rfl
      | const s => simpa [evalLit, evalAtom, SevExpr.eval] using hv

theorem of_all_exempt {l : List Row} {ex : List Nat} {ok : Row → Bool}
    (h : l.all (fun r => ok r || ex.contains r.idx) = true) : ∀ r ∈ l, r.idx ∉ ex → ok r = true := by
  intro r hr hex
  have h := List.all_eq_true.mp h r hr
  rw [Bool.or_eq_true, List.contains_iff_mem] at h
  exact h.resolve_right hex

theorem needsGate_of_gated {r : Row} {env : Env} (hg : gatedSev (r.sev.eval env) = true) : r.needsGate = true := by
  unfold Row.needsGate
  cases hs : r.sev with
  | sym k => rfl
  | const s => rw [hs] at hg; exact hg

theorem gateOk_sound {D : Nat} {r : Row} (h : r.gateOk D = true) (o : Opts) (env : Env) (hD : defaultsHold D env)
    (hm : mayReport r o env = true) (hg : gatedSev (r.sev.eval env) = true) : o.sev (r.sev.eval env) = true := by
  rw [Row.gateOk, needsGate_of_gated hg] at h
  exact entails_sound h hD o hm

theorem gateOkCli_sound {D : Nat} {r : Row} (h : r.gateOkCli D = true) (o : Opts) (env : Env) (hcli : o.cliClosed)
    (hD : defaultsHold D env) (hm : mayReport r o env = true) (hg : gatedSev (r.sev.eval env) = true) :
    o.sev (r.sev.eval env) = true := by
  rw [Row.gateOkCli, needsGate_of_gated hg] at h
  exact entailsCli_sound h hD o hcli hm

theorem incOk_sound {D : Nat} {r : Row} (h : r.incOk D = true) (hc : r.cert = .inconclusive) (o : Opts) (env : Env)
    (hD : defaultsHold D env) (hm : mayReport r o env = true) : o.inconclusive = true := by
  simp only [Row.incOk, Bool.or_eq_true, bne_iff_ne, ne_eq] at h
  cases h with
  | inl hn => exact absurd hc hn
  | inr he => exact entails_sound he hD o hm

theorem hasNopt_of_mem {c : Conj} {a : OptAtom} (hl : Literal.nopt a ∈ c) : hasNopt c = true :=
  List.any_eq_true.mpr ⟨_, hl, rfl⟩

/-- a row whose guard has no live conjunction with a disabled-option test is monotone in the options -/
theorem posOk_sound {D : Nat} {r : Row} (h : r.posOk D = true) (o o' : Opts) (env : Env) (hD : defaultsHold D env) (hle : o ≤ o')
    (hm : mayReport r o env = true) : mayReport r o' env = true := by
  obtain ⟨c, hc, hall⟩ := eval_iff_conj.mp hm
  have hnn := List.all_eq_true.mp h c hc
  rw [dead_sound hD hall, Bool.false_or, Bool.not_eq_true'] at hnn
  refine eval_iff_conj.mpr ⟨c, hc, fun l hl => ?_⟩
  have hv := hall l hl
  cases l with
  | lit k p => exact hv
  | opt a => exact evalAtom_mono hle env a hv
  | nopt a => rw [hasNopt_of_mem hl] at hnn; cases hnn

theorem defaultsHold_env0 (D : Nat) : defaultsHold D env0 := fun _ _ => rfl

namespace Select

theorem gateVal_iff {o : Opts} {v : Val} :
    gateVal o v = true ↔ (v.inconclusive = true → o.inconclusive = true) ∧ (v.condition = true → o.sev .warning = true) := by
  cases hi : v.inconclusive <;> cases hc : v.condition <;> simp [gateVal, hi, hc]

theorem gateVal_mono {o o' : Opts} (h : o ≤ o') (v : Val) : gateVal o v = true → gateVal o' v = true := by
  rw [gateVal_iff, gateVal_iff]
  exact fun hh => ⟨fun hi => h.2 (hh.1 hi), fun hc => h.1 _ (hh.2 hc)⟩

/-- ANY selector that does not look at the options, followed by the gate, is monotone: the value reported under the smaller
option set is reported, unchanged, under the larger one -/
theorem select_then_gate_monotone (sel : List Val → Option Val) {o o' : Opts} (h : o ≤ o') (vs : List Val) (v : Val)
    (hv : (sel vs).filter (gateVal o) = some v) : (sel vs).filter (gateVal o') = some v := by
  rw [Option.filter_eq_some_iff] at hv ⊢
  exact ⟨hv.1, gateVal_mono h v hv.2⟩

end Select

end Cppcheck.SevGate
