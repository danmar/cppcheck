import Cppcheck.Model.AliasScope
import Cppcheck.Proofs.VarMap
/-
helper lemmas for C06: the events of a program contain neither `::x` nor enumerator events
-/
namespace Cppcheck.AliasScope
open Cppcheck.VarMap

def plainOp : Op → Bool
  | .enter | .leave | .decl _ _ | .use _ => true
  | _ => false

def Plain (ops : List Op) : Prop := ops.all plainOp = true

theorem plain_append {a b : List Op} (ha : Plain a) (hb : Plain b) : Plain (a ++ b) := by
  rw [Plain, List.all_append, ha, hb]; rfl

theorem plain_tyEvents : ∀ t : Ty, Plain (tyEvents t)
  | .base _ => rfl
  | .ptr t => plain_tyEvents t
  | .name _ => rfl

theorem plain_exEvents : ∀ e : Ex, Plain (exEvents e)
  | .num _ => rfl
  | .var _ => rfl
  | .add a b => plain_append (plain_exEvents a) (plain_exEvents b)

theorem plain_itemEvents (d : Nat) : ∀ it : Item, Plain (itemEvents d it)
  | .opn => rfl
  | .cls => rfl
  | .fopen _ none => rfl
  | .fopen _ (some (x, t)) => plain_append (a := [.enter]) rfl (plain_append (plain_tyEvents t) (b := [.decl x false]) rfl)
  | .tdef _ x t => plain_append (plain_tyEvents t) (b := [.decl x (d == 0)]) rfl
  | .vdecl x t none => plain_append (plain_append (plain_tyEvents t) (b := [.decl x (d == 0)]) rfl) (b := []) rfl
  | .vdecl x t (some e) => plain_append (plain_append (plain_tyEvents t) (b := [.decl x (d == 0)]) rfl) (plain_exEvents e)
  | .assign x e => plain_append (a := [.use x]) rfl (plain_exEvents e)

theorem plain_events : ∀ (p : List Item) (d : Nat), Plain (events d p)
  | [], _ => rfl
  | it :: r, d => plain_append (plain_itemEvents d it) (plain_events r _)

theorem noGuse_noHide_of_plain : ∀ {ops : List Op}, Plain ops → noGuse ops = true ∧ noHide ops = true
  | [], _ => ⟨rfl, rfl⟩
  | o :: r, h => by
    rw [Plain, List.all_cons, Bool.and_eq_true] at h
    have hr := noGuse_noHide_of_plain h.2
    cases o with
    | guse x => cases h.1
    | skip => cases h.1
    | hide x => cases h.1
    | _ => exact hr

end Cppcheck.AliasScope
