import Cppcheck.Model.Sarif
import Cppcheck.Proofs.XmlEsc
import Cppcheck.Proofs.TextLemmas
import Cppcheck.Proofs.FirstOfKey
/-
C26, SARIF: picojson's string escaping and prettified serialisation read back by a strict JSON reader
(`jsonStrDecode`, `jsonParse`); the hand-spliced `"version"` member; the fields of a result read back from the tree
`SarifReport` builds, its level being the documented table; the rule list as a duplicate filter on the ids.
-/
namespace Cppcheck.Sarif
open Cppcheck.XmlEsc

theorem hexVal_hexLow (n : Nat) : hexVal (hexLow n) = some (n % 16) := by
  have h : n % 16 < 16 := Nat.mod_lt n (by decide)
  unfold hexLow
  generalize n % 16 = k at h ⊢
  revert k; decide

theorem decode_escape (e c : Char) (r ds rest : Str) (he : unescape1 e = some c) (h : jsonStrDecode r = some (ds, rest)) :
    jsonStrDecode ('\\' :: e :: r) = some (c :: ds, rest) := by
  rw [jsonStrDecode]
  · simp only [he, h]
  · intro a b c' d r' heq
    subst heq
    simp [unescape1] at he

theorem jsonChar_decode (c : Char) (r ds rest : Str) (h : jsonStrDecode r = some (ds, rest)) :
    jsonStrDecode (jsonChar c ++ r) = some (c :: ds, rest) := by
  by_cases h1 : c = '"'
  · subst h1; exact decode_escape '"' _ r ds rest (by decide) h
  by_cases h2 : c = '\\'
  · subst h2; exact decode_escape '\\' _ r ds rest (by decide) h
  by_cases h3 : c = '/'
  · subst h3; exact decode_escape '/' _ r ds rest (by decide) h
  by_cases h4 : c.toNat = 8
  · have : c = Char.ofNat 8 := by rw [← h4, Char.ofNat_toNat]
    subst this; exact decode_escape 'b' _ r ds rest (by decide) h
  by_cases h5 : c.toNat = 12
  · have : c = Char.ofNat 12 := by rw [← h5, Char.ofNat_toNat]
    subst this; exact decode_escape 'f' _ r ds rest (by decide) h
  by_cases h6 : c = '\n'
  · subst h6; exact decode_escape 'n' _ r ds rest (by decide) h
  by_cases h7 : c = '\r'
  · subst h7; exact decode_escape 'r' _ r ds rest (by decide) h
  by_cases h8 : c = '\t'
  · subst h8; exact decode_escape 't' _ r ds rest (by decide) h
  unfold jsonChar
  simp only [h1, h2, h3, h4, h5, h6, h7, h8, if_false]
  by_cases h9 : c.toNat < 0x20 ∨ c.toNat = 0x7f
  · rw [if_pos h9]
    have hn : c.toNat < 256 := by omega
    have e0 : hexVal '0' = some 0 := by decide
    have hcode : ((0 * 16 + 0) * 16 + c.toNat / 16 % 16) * 16 + c.toNat % 16 = c.toNat := by omega
    simp only [List.cons_append, List.nil_append, jsonStrDecode, e0, hexVal_hexLow, h, hcode, hn, if_true, Char.ofNat_toNat]
  · rw [if_neg h9]
    have hge : ¬ c.toNat < 0x20 := fun hh => h9 (Or.inl hh)
    simp only [List.cons_append, List.nil_append]
    rw [jsonStrDecode]
    · simp [hge, h]
    · intro he; exact h1 he
    · intro a b c' d r' he; exact absurd he h2
    · intro e r' he; exact absurd he h2

theorem jsonChars_decode (rest : Str) : ∀ s : Str, jsonStrDecode (s.flatMap jsonChar ++ ('"' :: rest)) = some (s, rest) := by
  intro s
  induction s with
  | nil => simp [jsonStrDecode]
  | cons c r ih =>
    rw [List.flatMap_cons, List.append_assoc]
    exact jsonChar_decode c _ r rest ih

theorem natDec_spec (n : Nat) : natDec n ≠ [] ∧ (∀ c ∈ natDec n, isDigit c = true) ∧ natOfDigits (natDec n) = n := by
  rw [natDec_eq]
  exact ⟨Nat.toDigits_ne_nil, Decimal.toDigits_all (by decide) n, Decimal.foldl_toDigits' n⟩

def noDigitHead (s : Str) : Prop := ∀ c r, s = c :: r → isDigit c = false

theorem takeWhile_digits (ds rest : Str) (hd : ∀ c ∈ ds, isDigit c = true) (hr : noDigitHead rest) :
    (ds ++ rest).takeWhile isDigit = ds ∧ (ds ++ rest).dropWhile isDigit = rest :=
  have hs : Text.Stops isDigit rest := fun a ha => by
    cases rest with
    | nil => cases ha
    | cons c r => cases ha; exact hr _ r rfl
  ⟨Text.takeWhile_append_stop hd hs, Text.dropWhile_append_stop hd hs⟩

theorem parseNum_intDec (n : Int) (rest : Str) (hr : noDigitHead rest) : parseNum (intDec n ++ rest) = some (n, rest) := by
  cases n with
  | ofNat m =>
    obtain ⟨hne, hdig, hval⟩ := natDec_spec m
    obtain ⟨ht, hdr⟩ := takeWhile_digits (natDec m) rest hdig hr
    simp only [intDec]
    cases hnd : natDec m with
    | nil => exact absurd hnd hne
    | cons d ds =>
      have hd1 : isDigit d = true := hdig d (by rw [hnd]; simp)
      have hdm : d ≠ '-' := by intro h; subst h; revert hd1; decide
      rw [hnd] at ht hdr hval
      unfold parseNum
      split
      · rename_i r heq; simp at heq; exact absurd heq.1 hdm
      · rw [ht, hdr, hval]; simp
  | negSucc m =>
    obtain ⟨hne, hdig, hval⟩ := natDec_spec (m + 1)
    obtain ⟨ht, hdr⟩ := takeWhile_digits (natDec (m + 1)) rest hdig hr
    simp only [intDec, List.cons_append]
    unfold parseNum
    simp only [ht, hdr, hval, hne, if_false]
    rfl

def allWs (w : Str) : Prop := ∀ c ∈ w, isJWs c = true

theorem skipWs_eq : ∀ s : Str, skipWs s = s.dropWhile isJWs
  | [] => rfl
  | c :: r => by rw [skipWs, List.dropWhile_cons, skipWs_eq r]

theorem skipWs_append (w : Str) (c : Char) (t : Str) (hw : allWs w) (hc : isJWs c = false) :
    skipWs (w ++ c :: t) = c :: t :=
  skipWs_eq _ ▸ Text.dropWhile_append_stop hw (.cons hc t)

theorem skipWs_cons (c : Char) (t : Str) (hc : isJWs c = false) : skipWs (c :: t) = c :: t := by
  simp [skipWs, hc]

theorem allWs_indentNl (n : Nat) : allWs (indentNl n) := by
  intro c hc
  simp only [indentNl, spaces, List.mem_cons, List.mem_replicate] at hc
  rcases hc with rfl | ⟨_, rfl⟩ <;> decide

theorem digit_facts (c : Char) (hc : c = '-' ∨ isDigit c = true) :
    isJWs c = false ∧ c ≠ ']' ∧ c ≠ '"' ∧ c ≠ '[' ∧ c ≠ '{' := by
  rcases hc with rfl | hd
  · decide
  · refine ⟨?_, Text.ne_of_pred hd, Text.ne_of_pred hd, Text.ne_of_pred hd, Text.ne_of_pred hd⟩
    simp [isJWs, Text.ne_of_pred hd (b := ' '), Text.ne_of_pred hd (b := '\n'), Text.ne_of_pred hd (b := '\t'),
      Text.ne_of_pred hd (b := '\r')]

theorem intDec_head (n : Int) : ∃ c t, intDec n = c :: t ∧ (c = '-' ∨ isDigit c = true) := by
  cases n with
  | ofNat m =>
    obtain ⟨hne, hdig, _⟩ := natDec_spec m
    cases hnd : natDec m with
    | nil => exact absurd hnd hne
    | cons d ds => exact ⟨d, ds, by simp [intDec, hnd], Or.inr (hdig d (by rw [hnd]; simp))⟩
  | negSucc m => exact ⟨'-', natDec (m + 1), by simp [intDec], Or.inl rfl⟩

/-- `≠ ']'`: behind `[` the reader takes a `]` for the end of an empty array -/
theorem ser_head (v : Json) (ind : Nat) : ∃ c t, ser v ind = c :: t ∧ isJWs c = false ∧ c ≠ ']' := by
  cases v with
  | str s => exact ⟨'"', s.flatMap jsonChar ++ ['"'], by simp [ser, jsonStr], by decide⟩
  | int n =>
    obtain ⟨c, t, he, hc⟩ := intDec_head n
    exact ⟨c, t, by simp only [ser, he], (digit_facts c hc).1, (digit_facts c hc).2.1⟩
  | arr xs => exact ⟨'[', serArr xs (ind + 1) true ++ (if xs.isEmpty then [] else indentNl ind) ++ [']'], by simp [ser], by decide⟩
  | obj kvs => exact ⟨'{', serObj kvs (ind + 1) true ++ (if kvs.isEmpty then [] else indentNl ind) ++ ['}'], by simp [ser], by decide⟩

theorem indentNl_ne (n : Nat) : indentNl n = '\n' :: spaces (2 * n) := rfl

theorem noDigitHead_of_start (c : Char) (t : Str) (h : isDigit c = false) : noDigitHead (c :: t) := by
  intro c' r he; simp at he; rw [← he.1]; exact h

theorem noDigitHead_ws_append (w : Str) (c : Char) (t : Str) (hw : allWs w) (hc : isDigit c = false) : noDigitHead (w ++ c :: t) := by
  cases w with
  | nil => exact noDigitHead_of_start c t hc
  | cons a w' =>
    have ha := hw a (by simp)
    apply noDigitHead_of_start
    cases hd : isDigit a with
    | false => rfl
    | true =>
      simp only [isJWs, Bool.or_eq_true, decide_eq_true_eq] at ha
      rcases ha with ((h | h) | h) | h <;> (subst h; revert hd; decide)

theorem startOK_noDigit_sep : isDigit ',' = false ∧ isDigit ']' = false ∧ isDigit '}' = false := by decide

theorem ser_arr_cons (x : Json) (xr : List Json) (ind : Nat) : ser (.arr (x :: xr)) ind =
    '[' :: (indentNl (ind + 1) ++ ser x (ind + 1) ++ serArr xr (ind + 1) false ++ indentNl ind ++ [']']) := by
  simp [ser, serArr]

theorem serArr_cons (y : Json) (yr : List Json) (ind : Nat) :
    serArr (y :: yr) ind false = ',' :: (indentNl ind ++ ser y ind ++ serArr yr ind false) := by
  simp [serArr]

theorem ser_obj_cons (k : Str) (v : Json) (r : List (Str × Json)) (ind : Nat) : ser (.obj ((k, v) :: r)) ind =
    '{' :: (indentNl (ind + 1) ++ jsonStr k ++ [':', ' '] ++ ser v (ind + 1) ++ serObj r (ind + 1) false ++
      indentNl ind ++ ['}']) := by
  simp [ser, serObj]

theorem serObj_cons (k : Str) (v : Json) (r : List (Str × Json)) (ind : Nat) :
    serObj ((k, v) :: r) ind false = ',' :: (indentNl ind ++ jsonStr k ++ [':', ' '] ++ ser v ind ++ serObj r ind false) := by
  simp [serObj]

theorem parseVal_arr (f : Nat) (w r : Str) (c : Char) (t : Str) (xs : List Json) (rest : Str) (hw : allWs w)
    (hr : skipWs r = c :: t) (hc : c ≠ ']') (he : parseElems f (c :: t) = some (xs, rest)) :
    parseVal (f + 1) (w ++ '[' :: r) = some (.arr xs, rest) := by
  rw [parseVal, skipWs_append w '[' _ hw (by decide)]
  have h1 : ('[' = '"') = False := by decide
  simp only [h1, if_false, if_true, hr]
  split
  · rename_i t' heq; exact absurd (List.cons.inj heq).1 hc
  · rw [he]

theorem parseVal_obj (f : Nat) (w r : Str) (c : Char) (t : Str) (kvs : List (Str × Json)) (rest : Str) (hw : allWs w)
    (hr : skipWs r = c :: t) (hc : c ≠ '}') (hm : parseMembers f (c :: t) = some (kvs, rest)) :
    parseVal (f + 1) (w ++ '{' :: r) = some (.obj kvs, rest) := by
  rw [parseVal, skipWs_append w '{' _ hw (by decide)]
  have h1 : ('{' = '"') = False := by decide
  have h2 : ('{' = '[') = False := by decide
  simp only [h1, h2, if_false, if_true, hr]
  split
  · rename_i t' heq; exact absurd (List.cons.inj heq).1 hc
  · rw [hm]

theorem parseElems_last (f : Nat) (s r : Str) (v : Json) (rest : Str) (hv : parseVal f s = some (v, r))
    (h : skipWs r = ']' :: rest) : parseElems (f + 1) s = some ([v], rest) := by
  rw [parseElems, hv]
  simp only [h]

theorem parseElems_more (f : Nat) (s r r' : Str) (v : Json) (vs : List Json) (rest : Str)
    (hv : parseVal f s = some (v, r)) (h : skipWs r = ',' :: r') (he : parseElems f r' = some (vs, rest)) :
    parseElems (f + 1) s = some (v :: vs, rest) := by
  rw [parseElems, hv]
  simp only [h, he]

theorem parseMembers_last (f : Nat) (w k r2 r3 : Str) (v : Json) (rest : Str) (hw : allWs w)
    (hv : parseVal f r2 = some (v, r3)) (h : skipWs r3 = '}' :: rest) :
    parseMembers (f + 1) (w ++ (jsonStr k ++ ':' :: r2)) = some ([(k, v)], rest) := by
  simp only [jsonStr, List.cons_append, List.append_assoc, List.nil_append]
  rw [parseMembers, skipWs_append w '"' _ hw (by decide)]
  simp only []  -- reduces the `match` on what was just rewritten (here and below)
  rw [jsonChars_decode]
  simp only []
  rw [skipWs_cons ':' _ (by decide)]
  simp only [hv, h]

theorem parseMembers_more (f : Nat) (w k r2 r3 r4 : Str) (v : Json) (kvs : List (Str × Json)) (rest : Str) (hw : allWs w)
    (hv : parseVal f r2 = some (v, r3)) (h : skipWs r3 = ',' :: r4) (hm : parseMembers f r4 = some (kvs, rest)) :
    parseMembers (f + 1) (w ++ (jsonStr k ++ ':' :: r2)) = some ((k, v) :: kvs, rest) := by
  simp only [jsonStr, List.cons_append, List.append_assoc, List.nil_append]
  rw [parseMembers, skipWs_append w '"' _ hw (by decide)]
  simp only []
  rw [jsonChars_decode]
  simp only []
  rw [skipWs_cons ':' _ (by decide)]
  simp only [hv, h, hm]

theorem allWs_blank : allWs [' '] := fun c hc => by simp at hc; subst hc; decide

-- By induction on the value, for every indentation.  A number is read by `takeWhile isDigit`, so what follows a value must not
-- start with a digit (`noDigitHead`; inside arrays and objects the separators see to it).  Every recursive call of the parser costs one unit of
-- fuel and reads at least one character, so fuel ≥ the length of the text is enough.
mutual
theorem parse_ser : (v : Json) → ∀ (ind fuel : Nat) (w rest : Str), (ser v ind).length ≤ fuel → allWs w → noDigitHead rest →
    parseVal fuel (w ++ (ser v ind ++ rest)) = some (v, rest)
  | .str s, ind, fuel, w, rest, hf, hw, hr => by
    cases fuel with
    | zero => simp [ser, jsonStr] at hf
    | succ f =>
      have e : ser (.str s) ind ++ rest = '"' :: (s.flatMap jsonChar ++ '"' :: rest) := by simp [ser, jsonStr]
      rw [e, parseVal, skipWs_append w '"' _ hw (by decide)]
      simp only [if_true]
      rw [jsonChars_decode]
  | .int n, ind, fuel, w, rest, hf, hw, hr => by
    have hi : ser (.int n) ind = intDec n := by simp [ser]
    obtain ⟨c, t, hct, hd⟩ := intDec_head n
    obtain ⟨hws, _, h1, h2, h3⟩ := digit_facts c hd
    cases fuel with
    | zero => rw [hi, hct] at hf; simp at hf
    | succ f =>
      rw [hi, hct, List.cons_append, parseVal, skipWs_append w c _ hw hws]
      simp only [h1, h2, h3, if_false]
      have hcd : (c = '-' || isDigit c) = true := by
        rcases hd with h | h
        · simp [h]
        · simp [h]
      rw [if_pos hcd, ← List.cons_append, ← hct, parseNum_intDec n rest hr]
  | .arr [], ind, fuel, w, rest, hf, hw, hr => by
    cases fuel with
    | zero => simp [ser] at hf
    | succ f =>
      have e : ser (.arr []) ind ++ rest = '[' :: ']' :: rest := by simp [ser, serArr]
      rw [e, parseVal, skipWs_append w '[' _ hw (by decide)]
      have h1 : ('[' = '"') = False := by decide
      simp only [h1, if_false, if_true]
      rw [skipWs_cons ']' rest (by decide)]
      rfl
  | .arr (x :: xr), ind, fuel, w, rest, hf, hw, hr => by
    cases fuel with
    | zero => simp [ser] at hf
    | succ f =>
      obtain ⟨c, t, hct, hs⟩ := ser_head x (ind + 1)
      simp only [ser_arr_cons, List.length_cons, List.length_append] at hf
      have hel := parse_elems xr x (ind + 1) f [] (indentNl ind) rest
        (parse_ser x (ind + 1)) (by omega) (fun _ h => by simp at h)
        (allWs_indentNl ind)
      simp only [ser_arr_cons, hct, List.cons_append, List.append_assoc, List.nil_append] at hel ⊢
      exact parseVal_arr f w _ c _ _ rest hw (skipWs_append _ c _ (allWs_indentNl _) hs.1) hs.2 hel
  | .obj [], ind, fuel, w, rest, hf, hw, hr => by
    cases fuel with
    | zero => simp [ser] at hf
    | succ f =>
      have e : ser (.obj []) ind ++ rest = '{' :: '}' :: rest := by simp [ser, serObj]
      rw [e, parseVal, skipWs_append w '{' _ hw (by decide)]
      have h1 : ('{' = '"') = False := by decide
      have h2 : ('{' = '[') = False := by decide
      simp only [h1, h2, if_false, if_true]
      rw [skipWs_cons '}' rest (by decide)]
      rfl
  | .obj ((k, v) :: r), ind, fuel, w, rest, hf, hw, hr => by
    cases fuel with
    | zero => simp [ser] at hf
    | succ f =>
      simp only [ser_obj_cons, List.length_cons, List.length_append, List.length_nil] at hf
      have hm := parse_members r k v (ind + 1) f [] (indentNl ind) rest
        (parse_ser v (ind + 1)) (by omega) (fun _ h => by simp at h)
        (allWs_indentNl ind)
      have hq : jsonStr k = '"' :: (k.flatMap jsonChar ++ ['"']) := rfl
      simp only [ser_obj_cons, hq, List.cons_append, List.append_assoc, List.nil_append] at hm ⊢
      exact parseVal_obj f w _ '"' _ _ rest hw (skipWs_append _ '"' _ (allWs_indentNl _) (by decide)) (by decide) hm
theorem parse_elems : (xr : List Json) → ∀ (x : Json) (ind fuel : Nat) (w w2 rest : Str),
    (∀ (fuel : Nat) (w rest : Str), (ser x ind).length ≤ fuel → allWs w → noDigitHead rest →
        parseVal fuel (w ++ (ser x ind ++ rest)) = some (x, rest)) →
    (ser x ind).length + (serArr xr ind false).length + 1 ≤ fuel → allWs w → allWs w2 →
    parseElems fuel (w ++ (ser x ind ++ (serArr xr ind false ++ (w2 ++ ']' :: rest)))) = some (x :: xr, rest)
  | [], x, ind, fuel, w, w2, rest, hx, hf, hw, hw2 => by
    cases fuel with
    | zero => omega
    | succ f =>
      simp only [serArr, List.nil_append] at hf ⊢
      exact parseElems_last f _ _ x rest (hx f w _ (by omega) hw (noDigitHead_ws_append w2 ']' rest hw2 (by decide)))
        (skipWs_append w2 ']' rest hw2 (by decide))
  | y :: yr, x, ind, fuel, w, w2, rest, hx, hf, hw, hw2 => by
    cases fuel with
    | zero => omega
    | succ f =>
      simp only [serArr_cons, List.length_cons, List.length_append] at hf
      simp only [serArr_cons, List.cons_append, List.append_assoc]
      exact parseElems_more f _ _ _ x (y :: yr) rest (hx f w _ (by omega) hw (noDigitHead_of_start ',' _ (by decide)))
        (skipWs_cons ',' _ (by decide))
        (parse_elems yr y ind f (indentNl ind) w2 rest (parse_ser y ind)
          (by omega) (allWs_indentNl ind) hw2)
theorem parse_members : (r : List (Str × Json)) → ∀ (k : Str) (v : Json) (ind fuel : Nat) (w w2 rest : Str),
    (∀ (fuel : Nat) (w rest : Str), (ser v ind).length ≤ fuel → allWs w → noDigitHead rest →
        parseVal fuel (w ++ (ser v ind ++ rest)) = some (v, rest)) →
    (jsonStr k).length + (ser v ind).length + (serObj r ind false).length + 1 ≤ fuel → allWs w → allWs w2 →
    parseMembers fuel (w ++ (jsonStr k ++ (':' :: ' ' :: (ser v ind ++ (serObj r ind false ++ (w2 ++ '}' :: rest)))))) =
      some ((k, v) :: r, rest)
  | [], k, v, ind, fuel, w, w2, rest, hv, hf, hw, hw2 => by
    cases fuel with
    | zero => omega
    | succ f =>
      simp only [serObj, List.nil_append] at hf ⊢
      exact parseMembers_last f w k _ _ v rest hw
        (hv f [' '] _ (by omega) allWs_blank (noDigitHead_ws_append w2 '}' rest hw2 (by decide)))
        (skipWs_append w2 '}' rest hw2 (by decide))
  | (k2, v2) :: r2, k, v, ind, fuel, w, w2, rest, hv, hf, hw, hw2 => by
    cases fuel with
    | zero => omega
    | succ f =>
      simp only [serObj_cons, List.length_cons, List.length_append, List.length_nil] at hf
      simp only [serObj_cons, List.cons_append, List.append_assoc, List.nil_append]
      exact parseMembers_more f w k _ _ _ v ((k2, v2) :: r2) rest hw
        (hv f [' '] _ (by omega) allWs_blank (noDigitHead_of_start ',' _ (by decide)))
        (skipWs_cons ',' _ (by decide))
        (parse_members r2 k2 v2 ind f (indentNl ind) w2 rest (parse_ser v2 ind)
          (by omega) (allWs_indentNl ind) hw2)
end

theorem serObj_false (kvs : List (Str × Json)) (ind : Nat) (h : kvs ≠ []) :
    serObj kvs ind false = ',' :: serObj kvs ind true := by
  cases kvs with
  | nil => exact absurd rfl h
  | cons kv r => obtain ⟨k, v⟩ := kv; simp [serObj]

theorem serialize_withVersion (kvs : List (Str × Json)) (h : kvs ≠ []) :
    "{\n  \"version\": \"2.1.0\",".toList ++ (serialize (.obj kvs)).drop 1 = serialize (withVersion (.obj kvs)) := by
  have hv : "{\n  \"version\": \"2.1.0\",".toList =
      '{' :: (indentNl 1 ++ (jsonStr "version".toList ++ ([':', ' '] ++ (jsonStr "2.1.0".toList ++ [','])))) := by
    decide +kernel
  have he : kvs.isEmpty = false := by
    cases kvs with
    | nil => exact absurd rfl h
    | cons _ _ => rfl
  rw [hv, withVersion, serialize, serialize, ser_obj_cons, serObj_false kvs 1 h, ser, he]
  simp [S, ser]

/-- the text `SarifReport::serialize` returns is the serialisation of the document object with
    `"version": "2.1.0"` as its first member -/
theorem serializeSarif_eq (name version : Str) (fs : List Finding) :
    serializeSarif name version fs = serialize (withVersion (doc name version fs)) :=
  serialize_withVersion _ (by simp)

/-- on literal keys the test is decided on the `String`s; the character lists are never compared -/
theorem get_cons (k k' : String) (v : Json) (r : List (Str × Json)) :
    (Json.obj ((k'.toList, v) :: r)).get k = if k = k' then some v else (Json.obj r).get k := by
  by_cases h : k = k'
  · subst h; simp [Json.get, List.lookup]
  · have : (k.toList == k'.toList) = false := by simpa using fun e => h (String.toList_inj.mp e)
    simp [Json.get, List.lookup, this, h]

theorem readLoc_locJson (l : Loc) : readLoc (locJson l) =
    some (l.file, (if l.line < 1 then 1 else l.line), (if l.column < 1 then (1 : Int) else (l.column : Int))) := by
  simp only [readLoc, locJson, get_cons, String.reduceEq, if_true, if_false, Option.bind_some, Json.strVal]

theorem readLocs (st : List Loc) : ((st.map locJson).map readLoc).all Option.isSome = true ∧
    (st.map locJson).filterMap readLoc =
      st.map (fun l => (l.file, (if l.line < 1 then 1 else l.line), (if l.column < 1 then (1 : Int) else (l.column : Int)))) := by
  simp [List.filterMap_map, Function.comp_def, readLoc_locJson]

theorem sarifSeverity_eq_spec (f : Finding) : sarifSeverity f = Spec.level f := by
  unfold sarifSeverity Spec.level
  split
  · rfl
  · rcases f.severity with _ | _ | _ | _ | _ | _ | _ | _ | _ | n <;> simp [levelTable, List.lookup]

theorem readResult_resultJson (f : Finding) : readResult (resultJson f) = some (expectedResult f) := by
  have hl := readLocs f.stack
  unfold resultJson
  split <;> simp only [readResult, List.cons_append, List.nil_append, List.append_nil, get_cons, String.reduceEq, if_true,
    if_false, Option.bind_some, Json.strVal, S, hl.1, hl.2, expectedResult, sarifSeverity_eq_spec]

theorem ruleJson_id (f : Finding) : ((ruleJson f).get "id").bind Json.strVal = some f.id := by
  simp only [ruleJson, get_cons, String.reduceEq, if_true, if_false, Option.bind_some, Json.strVal]

theorem firstOfId_eq (l : List Finding) (seen : List Str) : firstOfId l seen = FirstOfKey.firsts (·.id) seen l :=
  FirstOfKey.eq_firsts (f := fun s l => firstOfId l s) (fun _ => rfl) (fun s x r h => by simp [firstOfId, h])
    (fun s x r h => by simp [firstOfId, h]) seen l

end Cppcheck.Sarif
