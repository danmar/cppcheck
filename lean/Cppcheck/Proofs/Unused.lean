import Cppcheck.Proofs.TextLemmas
import Cppcheck.Model.Unused
/-
C22 — unused-function analysis: the two algorithms agree (under explicit hypotheses).
-/
namespace Cppcheck.Unused
open Cppcheck.Wire Cppcheck.Ctu

section AMap
variable {β : Type}

theorem amGet?_cons (a : Str × β) (r : List (Str × β)) (x : Str) : amGet? (a :: r) x = if a.1 = x then some a.2 else amGet? r x := by
  unfold amGet?
  rw [List.find?_cons]
  by_cases h : a.1 = x
  · simp [h]
  · have : (a.1 == x) = false := by simpa using h
    simp [this, h]

theorem amGet?_nil (x : Str) : amGet? ([] : List (Str × β)) x = none := rfl

theorem amGet?_append_single (m : List (Str × β)) (k x : Str) (v : β) (h : k ∉ amKeys m) :
    amGet? (m ++ [(k, v)]) x = if x = k then some v else amGet? m x := by
  induction m with
  | nil =>
    simp only [List.nil_append, amGet?_cons, amGet?_nil]
    by_cases hx : x = k
    · simp [hx]
    · have : ¬ k = x := fun e => hx e.symm
      simp [hx, this]
  | cons a r ih =>
    have hak : a.1 ≠ k := fun e => h (by simp [amKeys, e])
    have hr : k ∉ amKeys r := fun e => h (by simp only [amKeys, List.map_cons, List.mem_cons]; exact Or.inr e)
    rw [List.cons_append, amGet?_cons, amGet?_cons, ih hr]
    by_cases hax : a.1 = x
    · have : x ≠ k := fun e => hak (hax.trans e)
      simp [hax, this]
    · simp [hax]

theorem amGet?_map_set (m : List (Str × β)) (k x : Str) (v : β) :
    amGet? (m.map fun e => if e.1 == k then (k, v) else e) x = if x = k then (if k ∈ amKeys m then some v else none) else amGet? m x := by
  induction m with
  | nil => simp [amGet?_nil, amKeys]
  | cons a r ih =>
    rw [List.map_cons, amGet?_cons, amGet?_cons, ih]
    by_cases hak : a.1 = k
    · have hb : (a.1 == k) = true := by simpa using hak
      simp only [if_true, amKeys, List.map_cons, List.mem_cons, hak, true_or]
      by_cases hx : x = k
      · simp [hx]
      · have : ¬ k = x := fun e => hx e.symm
        simp [hx, this]
    · have hb : (a.1 == k) = false := by simpa using hak
      simp only [hb, Bool.false_eq_true, if_false, amKeys, List.map_cons, List.mem_cons]
      by_cases hax : a.1 = x
      · have : x ≠ k := fun e => hak (hax.trans e)
        simp [hax, this]
      · have hk : ¬ k = a.1 := fun e => hak e.symm
        simp only [hax, if_false, hk, false_or]
        rfl

theorem any_key_iff (m : List (Str × β)) (k : Str) : (m.any fun e => e.1 == k) = true ↔ k ∈ amKeys m := by
  simp only [amKeys, List.any_eq_true, List.mem_map, beq_iff_eq]

theorem amSet_eq (m : List (Str × β)) (k : Str) (v : β) :
    amSet m k v = if k ∈ amKeys m then m.map (fun e => if e.1 == k then (k, v) else e) else m ++ [(k, v)] := by
  unfold amSet
  by_cases h : k ∈ amKeys m
  · simp [h, (any_key_iff m k).mpr h]
  · have : (m.any fun e => e.1 == k) = false := by
      cases hb : (m.any fun e => e.1 == k) with
      | true => exact absurd ((any_key_iff m k).mp hb) h
      | false => rfl
    simp [h, this]

theorem amGet?_set (m : List (Str × β)) (k x : Str) (v : β) : amGet? (amSet m k v) x = if x = k then some v else amGet? m x := by
  rw [amSet_eq]
  by_cases h : k ∈ amKeys m
  · simp only [h, if_true]; rw [amGet?_map_set]; simp [h]
  · simp only [h, if_false]; exact amGet?_append_single m k x v h

theorem amKeys_set (m : List (Str × β)) (k : Str) (v : β) :
    amKeys (amSet m k v) = if k ∈ amKeys m then amKeys m else amKeys m ++ [k] := by
  rw [amSet_eq]
  by_cases h : k ∈ amKeys m
  · simp only [h, if_true]
    unfold amKeys
    rw [List.map_map]
    apply List.map_congr_left
    intro a _
    simp only [Function.comp]
    by_cases hak : a.1 = k
    · simp [hak]
    · have : (a.1 == k) = false := by simpa using hak
      simp [this]
  · simp only [h, if_false]
    simp [amKeys]

theorem mem_amKeys_set (m : List (Str × β)) (k : Str) (v : β) (x : Str) : x ∈ amKeys (amSet m k v) ↔ x ∈ amKeys m ∨ x = k := by
  rw [amKeys_set]
  split
  · rename_i h
    exact ⟨Or.inl, fun h1 => h1.elim id fun e => e ▸ h⟩
  · simp

theorem amKeys_set_nodup (m : List (Str × β)) (k : Str) (v : β) (h : (amKeys m).Nodup) : (amKeys (amSet m k v)).Nodup := by
  rw [amKeys_set]
  split
  · exact h
  · rename_i hk
    rw [List.nodup_append]
    refine ⟨h, by simp, ?_⟩
    intro a ha b hb
    simp only [List.mem_cons, List.mem_nil_iff, or_false] at hb
    subst hb
    exact fun e => hk (e ▸ ha)

theorem mem_keys_iff_get (m : List (Str × β)) (k : Str) : k ∈ amKeys m ↔ (amGet? m k).isSome = true := by
  simp [amKeys, amGet?, List.find?_isSome]

theorem mem_of_get (m : List (Str × β)) (k : Str) (v : β) (h : amGet? m k = some v) : (k, v) ∈ m := by
  obtain ⟨e, he, rfl⟩ := Option.map_eq_some_iff.mp h
  cases eq_of_beq (List.find?_some (p := fun e : Str × β => e.1 == k) he)
  exact List.mem_of_find?_eq_some he

theorem get_of_mem (m : List (Str × β)) (k : Str) (v : β) (hn : (amKeys m).Nodup) (h : (k, v) ∈ m) : amGet? m k = some v := by
  induction m with
  | nil => simp at h
  | cons a r ih =>
    simp only [amKeys, List.map_cons, List.nodup_cons] at hn
    rw [amGet?_cons]
    rcases List.mem_cons.mp h with e | e
    · subst e; simp
    · have : a.1 ≠ k := by
        intro e2
        exact hn.1 (by rw [e2]; exact List.mem_map.mpr ⟨(k, v), e, rfl⟩)
      simp only [this, if_false]
      exact ih hn.2 e

end AMap

theorem mem_setInsert (s : List Str) (x y : Str) : x ∈ setInsert s y ↔ x ∈ s ∨ x = y := by
  induction s with
  | nil => simp [setInsert]
  | cons a r ih =>
    simp only [setInsert]
    by_cases h1 : y = a
    · subst h1
      simp only [if_true, List.mem_cons]
      exact ⟨Or.inl, fun h => h.elim id Or.inl⟩
    · simp only [h1, if_false]
      cases h2 : strLt y a with
      | true => simp only [if_true, List.mem_cons]; exact or_comm
      | false => simp only [Bool.false_eq_true, if_false, List.mem_cons, ih]; exact or_assoc.symm

theorem mem_foldl_setInsert (l s : List Str) (x : Str) : x ∈ l.foldl setInsert s ↔ x ∈ s ∨ x ∈ l := by
  induction l generalizing s with
  | nil => simp
  | cons a r ih => simp only [List.foldl_cons, ih, mem_setInsert, List.mem_cons]; exact or_assoc

theorem mem_callSet (t : TU) (x : Str) : x ∈ callSet t ↔ x ∈ t.calls.map (·.name) := by
  unfold callSet
  rw [← List.foldl_map, mem_foldl_setInsert]
  simp

theorem strip_id (n : Str) (h : n.contains '<' = false) : strip n = n := by
  unfold strip
  have : n.takeWhile (· ≠ '<') = n := Text.takeWhile_eq_self fun c hc => decide_eq_true fun e =>
    absurd (List.contains_iff_mem.2 (e ▸ hc)) (by rw [h]; decide)
  rw [this]
  simp

theorem lookup_update (m : FMap) (k x : Str) (u : Usage) : lookup (update m k u) x = if x = k then u else lookup m x := by
  unfold lookup update
  rw [amGet?_set]
  split <;> rfl

theorem amGet?_lookup (m : FMap) (k : Str) (h : k ∈ amKeys m) : amGet? m k = some (lookup m k) := by
  unfold lookup
  cases hg : amGet? m k with
  | none => rw [mem_keys_iff_get, hg] at h; cases h
  | some u => rfl

theorem lookup_absent (m : FMap) (k : Str) (h : k ∉ amKeys m) : lookup m k = {} := by
  unfold lookup
  cases hg : amGet? m k with
  | none => rfl
  | some v =>
    exfalso
    apply h
    rw [mem_keys_iff_get, hg]; rfl


def declLoc (d : Decl) : Str × Int × Int := (d.file, d.line, d.col)

def allDecls (tus : List TU) : List Decl := tus.flatMap (·.decls)

/-- hypotheses of the equivalence theorem, all decidable:
    * declared names contain no '<' (so `stripTemplateParameters` is the identity on them),
    * no definition has the `unused` attribute on its return type token,
    * locations are real (line ≠ 0, file name neither empty nor "+"),
    * all definitions of one name are at one location -/
def UnusedHyp (tus : List TU) : Bool :=
  (allDecls tus).all (fun d => !(d.name.contains '<') && !d.retUnused && decide (d.line ≠ 0) && decide (d.file ≠ []) && decide (d.file ≠ ['+']))
  && (allDecls tus).all (fun d => (allDecls tus).all fun d' => decide (d.name = d'.name → declLoc d = declLoc d'))

theorem applyDecl_spec (m : FMap) (d : Decl) (hk : strip d.name = d.name) (hret : d.retUnused = false) :
    ∃ u1 : Usage, applyDecl m d = update m d.name u1
      ∧ (u1.usedSameFile || u1.usedOtherFile) = ((lookup m d.name).usedSameFile || (lookup m d.name).usedOtherFile)
      ∧ u1.line = (if (lookup m d.name).line = 0 then d.line else (lookup m d.name).line)
      ∧ u1.col = (if (lookup m d.name).line = 0 then d.col else (lookup m d.name).col)
      ∧ u1.filename = (if (lookup m d.name).filename = [] then d.file else (lookup m d.name).filename) := by
  unfold applyDecl
  simp only [hk, hret, Bool.or_false]
  refine ⟨_, rfl, ?_, rfl, rfl, rfl⟩
  simp only
  split <;> cases (lookup m d.name).usedSameFile <;> cases (lookup m d.name).usedOtherFile <;> rfl

theorem applyCall_spec (m : FMap) (ev : CallEv) :
    ∃ u1 : Usage, applyCall m ev = update m ev.name u1
      ∧ (u1.usedSameFile || u1.usedOtherFile) = true
      ∧ u1.line = (lookup m ev.name).line ∧ u1.col = (lookup m ev.name).col ∧ u1.filename = (lookup m ev.name).filename := by
  unfold applyCall
  generalize lookup m ev.name = u0
  simp only
  by_cases h : u0.filename = [] ∨ u0.filename = ['+'] ∨ u0.filename ≠ ev.fromFile
  · rw [if_pos h]; exact ⟨_, rfl, by simp, rfl, rfl, rfl⟩
  · rw [if_neg h]; exact ⟨_, rfl, by simp, rfl, rfl, rfl⟩

/-- `mFunctions` (`m`) and the build-dir data (`c`) after the same translation units -/
structure Inv (ds : List Decl) (m : FMap) (c : Collected) : Prop where
  mkeys : (amKeys m).Nodup
  dkeys : (amKeys c.decls).Nodup
  called : ∀ n, n ∈ c.calls ↔ (n ∈ amKeys m ∧ ((lookup m n).usedSameFile || (lookup m n).usedOtherFile) = true)
  declared : ∀ n, n ∈ amKeys c.decls ↔ (n ∈ amKeys m ∧ (lookup m n).filename ≠ [])
  loc : ∀ n, n ∈ amKeys c.decls → amGet? c.decls n = some ((lookup m n).filename, (lookup m n).line, (lookup m n).col)
  fromDecl : ∀ n, n ∈ amKeys c.decls → ∃ d ∈ ds, d.name = n ∧ amGet? c.decls n = some (declLoc d)
  line0 : ∀ n, (lookup m n).filename = [] → (lookup m n).line = 0
  notPlus : ∀ n, (lookup m n).filename ≠ ['+']

theorem inv_empty (ds : List Decl) : Inv ds [] ⟨[], []⟩ := by
  refine ⟨by simp [amKeys], by simp [amKeys], ?_, ?_, ?_, ?_, ?_, ?_⟩
  · intro n; simp [amKeys]
  · intro n; simp [amKeys]
  · intro n h; simp [amKeys] at h
  · intro n h; simp [amKeys] at h
  · intro n _; rfl
  · intro n; simp [lookup, amGet?]

/-- hypotheses on one definition, relative to the set `ds` of all definitions of the program -/
structure DeclOk (ds : List Decl) (d : Decl) : Prop where
  mem : d ∈ ds
  noLt : d.name.contains '<' = false
  noRet : d.retUnused = false
  line : d.line ≠ 0
  file : d.file ≠ []
  plus : d.file ≠ ['+']
  same : ∀ d' ∈ ds, d'.name = d.name → declLoc d' = declLoc d

theorem mem_keys_update (m : FMap) (k x : Str) (u : Usage) : x ∈ amKeys (update m k u) ↔ (x ∈ amKeys m ∨ x = k) :=
  mem_amKeys_set m k u x

theorem mem_keys_declInsert (m : List (Str × (Str × Int × Int))) (k x : Str) (v : Str × Int × Int) :
    x ∈ amKeys (declInsert m k v) ↔ (x ∈ amKeys m ∨ x = k) :=
  mem_amKeys_set m k v x

/-- `Inv` speaks of every name by itself: an update at `k` is checked at `k` only -/
theorem inv_update {ds : List Decl} {m : FMap} {c c' : Collected} (inv : Inv ds m c) (k : Str) (u : Usage)
    (hdk : (amKeys c'.decls).Nodup) (hd : ∀ n, n ≠ k → amGet? c'.decls n = amGet? c.decls n)
    (hc : ∀ n, n ≠ k → (n ∈ c'.calls ↔ n ∈ c.calls))
    (called : k ∈ c'.calls ↔ (u.usedSameFile || u.usedOtherFile) = true)
    (declared : k ∈ amKeys c'.decls ↔ u.filename ≠ [])
    (loc : k ∈ amKeys c'.decls → amGet? c'.decls k = some (u.filename, u.line, u.col))
    (fromDecl : k ∈ amKeys c'.decls → ∃ d ∈ ds, d.name = k ∧ amGet? c'.decls k = some (declLoc d))
    (line0 : u.filename = [] → u.line = 0) (notPlus : u.filename ≠ ['+']) : Inv ds (update m k u) c' := by
  have hk : ∀ n, n ≠ k → (n ∈ amKeys c'.decls ↔ n ∈ amKeys c.decls) := fun n hn => by
    rw [mem_keys_iff_get, mem_keys_iff_get, hd n hn]
  refine ⟨amKeys_set_nodup _ _ _ inv.mkeys, hdk, ?_, ?_, ?_, ?_, ?_, ?_⟩ <;> intro n <;> by_cases hn : n = k
  · subst hn; simpa [mem_keys_update, lookup_update] using called
  · simpa [mem_keys_update, lookup_update, hn, hc n hn] using inv.called n
  · subst hn; simpa [mem_keys_update, lookup_update] using declared
  · simpa [mem_keys_update, lookup_update, hn, hk n hn] using inv.declared n
  · subst hn; simpa [lookup_update] using loc
  · simpa [lookup_update, hn, hk n hn, hd n hn] using inv.loc n
  · subst hn; exact fromDecl
  · simpa [hk n hn, hd n hn] using inv.fromDecl n
  · subst hn; simpa [lookup_update] using line0
  · simpa [lookup_update, hn] using inv.line0 n
  · subst hn; simpa [lookup_update] using notPlus
  · simpa [lookup_update, hn] using inv.notPlus n

theorem mem_keys_of_ne_default (m : FMap) (n : Str) (h : lookup m n ≠ {}) : n ∈ amKeys m :=
  Classical.byContradiction fun hm => h (lookup_absent m n hm)

theorem inv_decl (ds : List Decl) (m : FMap) (c : Collected) (d : Decl) (hd : DeclOk ds d) (inv : Inv ds m c) :
    Inv ds (applyDecl m d) { c with decls := declInsert c.decls d.name (declLoc d) } := by
  obtain ⟨u1, happ, hflag, hline, hcol, hfile⟩ := applyDecl_spec m d (strip_id _ hd.noLt) hd.noRet
  rw [happ]
  have hgetd : ∀ x, amGet? (declInsert c.decls d.name (declLoc d)) x = if x = d.name then some (declLoc d) else amGet? c.decls x := by
    intro x; unfold declInsert; exact amGet?_set _ _ _ _
  -- the new record carries the location of `d`
  have hnew : u1.filename = d.file ∧ u1.line = d.line ∧ u1.col = d.col := by
    by_cases hdecl : d.name ∈ amKeys c.decls
    · have hm := (inv.declared d.name).mp hdecl
      have hloc := inv.loc d.name hdecl
      obtain ⟨d', hd'mem, hd'name, hd'loc⟩ := inv.fromDecl d.name hdecl
      rw [hd.same d' hd'mem hd'name, hloc] at hd'loc
      have heq := Option.some.inj hd'loc
      simp only [declLoc, Prod.mk.injEq] at heq
      have hl : (lookup m d.name).line ≠ 0 := by rw [heq.2.1]; exact hd.line
      rw [hfile, hline, hcol]
      simp only [hm.2, hl, if_false]
      exact heq
    · have hfn : (lookup m d.name).filename = [] := by
        by_cases hmem : d.name ∈ amKeys m
        · by_cases hf : (lookup m d.name).filename = []
          · exact hf
          · exact absurd ((inv.declared d.name).mpr ⟨hmem, hf⟩) hdecl
        · rw [lookup_absent m _ hmem]
      have hl0 := inv.line0 d.name hfn
      rw [hfile, hline, hcol]
      simp [hfn, hl0]
  refine inv_update inv d.name u1 (amKeys_set_nodup _ _ _ inv.dkeys) (fun n hn => by rw [hgetd, if_neg hn]) (fun _ _ => Iff.rfl)
    ?_ ?_ ?_ ?_ ?_ ?_
  · rw [inv.called, hflag]
    exact ⟨And.right, fun h => ⟨mem_keys_of_ne_default m _ (fun e => by rw [e] at h; cases h), h⟩⟩
  · simp [mem_keys_declInsert, hnew.1, hd.file]
  · intro _; rw [hgetd, if_pos rfl, hnew.1, hnew.2.1, hnew.2.2]; rfl
  · intro _; exact ⟨d, hd.mem, rfl, by rw [hgetd, if_pos rfl]⟩
  · rw [hnew.1]; exact fun h => absurd h hd.file
  · rw [hnew.1]; exact hd.plus

theorem inv_call (ds : List Decl) (m : FMap) (c : Collected) (ev : CallEv) (calls' : List Str)
    (hc : ∀ x, x ∈ calls' ↔ (x ∈ c.calls ∨ x = ev.name)) (inv : Inv ds m c) :
    Inv ds (applyCall m ev) { c with calls := calls' } := by
  obtain ⟨u1, happ, u1flag, u1l, u1c, u1f⟩ := applyCall_spec m ev
  rw [happ]
  refine inv_update inv ev.name u1 inv.dkeys (fun _ _ => rfl) (fun n hn => by simp [hc, hn]) ?_ ?_ ?_ ?_ ?_ ?_
  · simp [hc, u1flag]
  · rw [u1f, inv.declared]
    exact ⟨And.right, fun h => ⟨mem_keys_of_ne_default m _ (fun e => by rw [e] at h; exact h rfl), h⟩⟩
  · rw [u1f, u1l, u1c]; exact inv.loc _
  · exact inv.fromDecl _
  · rw [u1f, u1l]; exact inv.line0 _
  · rw [u1f]; exact inv.notPlus _

theorem inv_decls (ds : List Decl) : ∀ (l : List Decl) (m : FMap) (c : Collected), (∀ d ∈ l, DeclOk ds d) → Inv ds m c →
    Inv ds (l.foldl applyDecl m) { c with decls := l.foldl (fun mm d => declInsert mm d.name (d.file, d.line, d.col)) c.decls } :=
  fun _ _ c h inv => List.foldl_rel (r := fun m dd => Inv ds m { c with decls := dd }) inv
    fun d hd m dd inv => inv_decl ds m { c with decls := dd } d (h d hd) inv

theorem inv_calls (ds : List Decl) : ∀ (l : List CallEv) (m : FMap) (c : Collected) (calls' : List Str),
    (∀ x, x ∈ calls' ↔ (x ∈ c.calls ∨ x ∈ l.map (·.name))) → Inv ds m c →
    Inv ds (l.foldl applyCall m) { c with calls := calls' } := by
  intro l m c calls' hc inv
  have h := List.foldl_rel (l := l) (r := fun m cs => Inv ds m { c with calls := cs }) (g := fun s ev => setInsert s ev.name) inv
    fun ev _ m cs inv => inv_call ds m { c with calls := cs } ev _ (fun x => mem_setInsert _ _ _) inv
  refine ⟨h.mkeys, h.dkeys, fun n => ?_, h.declared, h.loc, h.fromDecl, h.line0, h.notPlus⟩
  rw [hc, ← h.called, ← mem_foldl_setInsert, List.foldl_map]

theorem inv_tus (ds : List Decl) : ∀ (tus : List TU) (m : FMap) (c : Collected), (∀ t ∈ tus, ∀ d ∈ t.decls, DeclOk ds d) → Inv ds m c →
    Inv ds (tus.foldl applyTU m) (tus.foldl collectTU c) :=
  fun tus _ _ h inv => List.foldl_rel (r := Inv ds) inv fun t ht m c inv =>
    inv_calls ds t.calls _ _ ((callSet t).foldl setInsert c.calls) (by intro x; rw [mem_foldl_setInsert, mem_callSet])
      (inv_decls ds t.decls m c (h t ht) inv)

theorem declOk_of_hyp (tus : List TU) (h : UnusedHyp tus = true) : ∀ t ∈ tus, ∀ d ∈ t.decls, DeclOk (allDecls tus) d := by
  simp only [UnusedHyp, Bool.and_eq_true] at h
  intro t ht d hd
  have hmem : d ∈ allDecls tus := List.mem_flatMap.mpr ⟨t, ht, hd⟩
  have h1 := List.all_eq_true.mp h.1 d hmem
  simp only [Bool.and_eq_true, Bool.not_eq_true', decide_eq_true_eq] at h1
  obtain ⟨⟨⟨⟨a, b⟩, c⟩, e⟩, f⟩ := h1
  refine ⟨hmem, a, b, c, e, f, ?_⟩
  intro d' hd' hname
  have := List.all_eq_true.mp (List.all_eq_true.mp h.2 d' hd') d hmem
  simp only [decide_eq_true_eq] at this
  exact this hname

theorem mem_unusedInMemory (entry : Str → Bool) (tus : List TU) (x : Finding) :
    x ∈ unusedInMemory entry tus ↔ ∃ e ∈ finalMap tus, (e.2.usedOtherFile = false ∧ e.2.filename ≠ [] ∧ entry e.1 = false ∧ e.2.usedSameFile = false
      ∧ isOperatorFunction e.1 = false) ∧ x = ⟨shownFile e.2.filename, e.2.line, e.2.col, e.1⟩ := by
  unfold unusedInMemory
  simp only [List.mem_filterMap, Option.ite_none_left_eq_some, Option.ite_none_right_eq_some, Option.some.injEq,
    Bool.or_eq_true, not_or, Bool.not_eq_true, Bool.not_eq_true', decide_eq_false_iff_not, and_assoc, eq_comm (b := x)]

theorem mem_checkCollected (entry : Str → Bool) (c : Collected) (x : Finding) :
    x ∈ checkCollected entry c ↔ ∃ e ∈ c.decls, (entry (strip e.1) = false ∧ strip e.1 ∉ c.calls ∧ isOperatorFunction (strip e.1) = false)
      ∧ x = ⟨e.2.1, e.2.2.1, e.2.2.2, strip e.1⟩ := by
  unfold checkCollected
  simp only [List.mem_filterMap, Option.ite_none_left_eq_some, Option.ite_none_right_eq_some, Option.some.injEq,
    Bool.not_eq_true, Bool.and_eq_true, Bool.not_eq_true', List.contains_eq_mem, decide_eq_false_iff_not, and_assoc, eq_comm (b := x)]

theorem nodup_filterMap_keys {β : Type} (m : List (Str × β)) (f : Str × β → Option Finding)
    (hn : (amKeys m).Nodup) (hf : ∀ e ∈ m, ∀ x, f e = some x → x.name = e.1) : (m.filterMap f).Nodup := by
  rw [amKeys, List.Nodup, List.pairwise_map] at hn
  rw [List.Nodup, List.pairwise_filterMap]
  refine hn.imp_of_mem fun {a a'} ha ha' hne x hx x' hx' e => hne ?_
  rw [← hf a ha x hx, e, hf a' ha' x' hx']

theorem findings_of_inv (entry : Str → Bool) (tus : List TU) {ds : List Decl} {c : Collected} (inv : Inv ds (finalMap tus) c)
    (hstrip : ∀ n, n ∈ amKeys c.decls → strip n = n) :
    (∀ x, x ∈ unusedInMemory entry tus ↔ x ∈ checkCollected entry c)
    ∧ (unusedInMemory entry tus).Nodup ∧ (checkCollected entry c).Nodup := by
  refine ⟨?_, ?_, ?_⟩
  · intro x
    rw [mem_unusedInMemory, mem_checkCollected]
    constructor
    · rintro ⟨e, he, ⟨h1, h2, h3, h4, h5⟩, rfl⟩
      have hget := get_of_mem _ _ _ inv.mkeys he
      have hkey : e.1 ∈ amKeys (finalMap tus) := List.mem_map.mpr ⟨e, he, rfl⟩
      have hlk : lookup (finalMap tus) e.1 = e.2 := Option.some.inj ((amGet?_lookup _ _ hkey).symm.trans hget)
      have hdecl : e.1 ∈ amKeys c.decls := (inv.declared e.1).mpr ⟨hkey, by rw [hlk]; exact h2⟩
      have hloc := inv.loc e.1 hdecl
      rw [hlk] at hloc
      have hs := hstrip e.1 hdecl
      refine ⟨(e.1, (e.2.filename, e.2.line, e.2.col)), mem_of_get _ _ _ hloc, ⟨by rw [hs]; exact h3, ?_, by rw [hs]; exact h5⟩, ?_⟩
      · rw [hs]
        intro hc
        have := ((inv.called e.1).mp hc).2
        rw [hlk, h1, h4] at this
        exact absurd this (by decide)
      · have hp := inv.notPlus e.1
        rw [hlk] at hp
        simp [shownFile, hp, hs]
    · rintro ⟨e, he, ⟨h1, h2, h3⟩, rfl⟩
      have hkey : e.1 ∈ amKeys c.decls := List.mem_map.mpr ⟨e, he, rfl⟩
      have hs := hstrip e.1 hkey
      rw [hs] at h1 h2 h3
      have hm := (inv.declared e.1).mp hkey
      have hloc := inv.loc e.1 hkey
      rw [get_of_mem _ _ _ inv.dkeys he] at hloc
      have heq := Option.some.inj hloc
      have hflags : (lookup (finalMap tus) e.1).usedSameFile = false ∧ (lookup (finalMap tus) e.1).usedOtherFile = false := by
        have hnc := fun hf => h2 ((inv.called e.1).mpr ⟨hm.1, hf⟩)
        simpa using hnc
      refine ⟨(e.1, lookup (finalMap tus) e.1), mem_of_get _ _ _ (amGet?_lookup _ _ hm.1), ⟨hflags.2, hm.2, h1, hflags.1, h3⟩, ?_⟩
      have hp := inv.notPlus e.1
      rw [heq]
      simp [shownFile, hp, hs]
  · unfold unusedInMemory
    apply nodup_filterMap_keys _ _ inv.mkeys
    intro e _ x hx
    simp only [Option.ite_none_left_eq_some, Option.ite_none_right_eq_some, Option.some.injEq] at hx
    obtain ⟨_, _, _, _, rfl⟩ := hx
    rfl
  · unfold checkCollected
    apply nodup_filterMap_keys _ _ inv.dkeys
    intro e he x hx
    have hs := hstrip e.1 (List.mem_map.mpr ⟨e, he, rfl⟩)
    simp only [Option.ite_none_left_eq_some, Option.ite_none_right_eq_some, Option.some.injEq] at hx
    obtain ⟨_, _, rfl⟩ := hx
    exact hs

end Cppcheck.Unused
