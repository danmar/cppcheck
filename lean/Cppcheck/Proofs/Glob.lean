import Cppcheck.Model.Glob
import Cppcheck.Proofs.TextLemmas
/-
The `matchglob` model, for the code before the repair (`fx = false`) and after it (`fx = true`): the explicit-stack machine
`run` terminates and returns the recursive search `dfs`; `Spec.matchesB` decides the documented language `Spec.Matches`;
`dfs` without case folding (`ci = false`: the documented language has none) is sound for it on every pattern, complete on
every pattern after the repair and on the `starOk` patterns before it.  Last, `cstr` is `takeWhile (· ≠ NUL)`.
-/
namespace Cppcheck.Glob
open Cppcheck.Wire

/-- restoring the top entry of the stack (`n++` included) -/
def popRun (fx ci : Bool) (fuel : Nat) : Stack → Option Bool
  | [] => some false
  | e :: r => run fx ci fuel e.1 e.2.tail r

theorem popRun_cons (fx ci : Bool) (fuel : Nat) (e : Str × Str) (r : Stack) :
    popRun fx ci fuel (e :: r) = run fx ci fuel e.1 e.2.tail r := rfl

theorem run_succ (fx ci : Bool) (fuel : Nat) (p n : Str) (st : Stack) :
    run fx ci (fuel + 1) p n st =
      if (scan fx ci p n st).1 then some true else popRun fx ci fuel (scan fx ci p n st).2 := by
  rw [run]
  rcases h : scan fx ci p n st with ⟨b, st'⟩
  cases b with
  | true => simp
  | false => cases st' with
    | nil => simp [popRun]
    | cons e r => simp [popRun]

theorem skipTo_tail_lt (stop : Char → Bool) : ∀ n : Str, ¬ (skipTo stop n).isEmpty = true →
    (skipTo stop n).tail.length < n.length
  | [], h => absurd rfl h
  | c :: r, h => by
    rw [skipTo] at h ⊢
    split
    · exact Nat.lt_succ_self _
    · next hc => rw [if_neg hc] at h; exact Nat.lt_succ_of_lt (skipTo_tail_lt stop r h)

theorem starAlt_skip (stop : Char → Bool) (k : Str → Bool) (n : Str) :
    starAlt stop k n =
      if (skipTo stop n).isEmpty then k [] else (k (skipTo stop n) || starAlt stop k (skipTo stop n).tail) := by
  induction n with
  | nil => simp [starAlt, skipTo]
  | cons c r ih =>
    by_cases hc : stop c = true
    · simp [starAlt, skipTo, hc]
    · simp only [starAlt, skipTo, hc]
      exact ih

theorem run_congr (fx ci : Bool) {p n p' n' : Str} {st st' : Stack} (h : scan fx ci p n st = scan fx ci p' n' st') (f : Nat) :
    run fx ci f p n st = run fx ci f p' n' st' := by
  cases f with
  | zero => rfl
  | succ f => rw [run_succ, run_succ, h]

/-- total correctness of the stack machine with an arbitrary stack underneath: by induction on the pattern, and at a `*`
    on the length of the name (the entry pushed there is resumed one character further) -/
theorem run_spec (fx ci : Bool) (p : Str) : ∀ (n : Str) (st : Stack), ∃ k, ∀ fuel,
    run fx ci (fuel + k) p n st = if dfs fx ci p n then some true else popRun fx ci fuel st := by
  induction p with
  | nil =>
    intro n st
    refine ⟨1, fun fuel => ?_⟩
    rw [run_succ]; rfl
  | cons c p ih =>
    by_cases hc : c = '*'
    · subst hc
      by_cases hfx : (fx && p.head? = some '*') = true
      · intro n st
        obtain ⟨k, hk⟩ := ih n st
        refine ⟨k, fun fuel => ?_⟩
        rw [run_congr fx ci (p' := p) (n' := n) (st' := st) (by simp [scan, hfx]), hk]
        simp [dfs, hfx]
      · intro n
        generalize hl : n.length = len
        induction len using Nat.strongRecOn generalizing n with
        | ind len ihn =>
          intro st
          subst hl
          by_cases he : (skipTo (stopAt fx p.head?) n).isEmpty = true
          · -- the skip loop ran to the end of the name: nothing is pushed
            obtain ⟨k, hk⟩ := ih (skipTo (stopAt fx p.head?) n) st
            refine ⟨k, fun fuel => ?_⟩
            rw [run_congr fx ci (p' := p) (n' := skipTo (stopAt fx p.head?) n) (st' := st) (by simp [scan, hfx, he]), hk]
            have hn : skipTo (stopAt fx p.head?) n = [] := by simpa using he
            simp only [dfs, hfx, if_true, if_false, Bool.false_eq_true]
            rw [starAlt_skip, if_pos he, hn]
          · -- the rest of the pattern is tried at the stop position; when it fails the pushed entry is resumed behind it
            obtain ⟨k1, hk1⟩ := ih (skipTo (stopAt fx p.head?) n) (('*' :: p, skipTo (stopAt fx p.head?) n) :: st)
            obtain ⟨k2, hk2⟩ := ihn _ (skipTo_tail_lt _ n he) _ rfl st
            refine ⟨k2 + k1, fun fuel => ?_⟩
            rw [run_congr fx ci (p' := p) (n' := skipTo (stopAt fx p.head?) n)
              (st' := ('*' :: p, skipTo (stopAt fx p.head?) n) :: st) (by simp [scan, hfx, he]), ← Nat.add_assoc, hk1,
              popRun_cons, hk2]
            simp only [dfs, hfx, if_true, if_false, Bool.false_eq_true]
            rw [starAlt_skip (n := n), if_neg he]
            cases dfs fx ci p (skipTo (stopAt fx p.head?) n) <;> rfl
    · intro n st
      cases n with
      | nil => exact ⟨1, fun fuel => by rw [run_succ]; simp [scan, dfs, hc]⟩
      | cons d n' =>
        by_cases hm : (c = '?' || litEq ci d c) = true
        · obtain ⟨k, hk⟩ := ih n' st
          refine ⟨k, fun fuel => ?_⟩
          rw [run_congr fx ci (p' := p) (n' := n') (st' := st) (by simp [scan, hc, hm]), hk]
          simp [dfs, hc, hm]
        · exact ⟨1, fun fuel => by rw [run_succ]; simp [scan, dfs, hc, hm]⟩

namespace Spec

theorem anySuffix_iff (k : Str → Bool) (n : Str) : anySuffix k n = true ↔ ∃ b, b <:+ n ∧ k b = true := by
  induction n with
  | nil => simp [anySuffix]
  | cons c r ih => simp [anySuffix, ih, List.suffix_cons_iff, or_and_right, exists_or]

theorem matchesB_sound : ∀ (p n : Str), matchesB p n = true → Matches p n := by
  intro p
  induction p with
  | nil =>
    intro n h
    have : n = [] := by simpa [matchesB] using h
    subst this; exact .nil
  | cons c p ih =>
    intro n h
    by_cases hc : c = '*'
    · subst hc
      simp only [matchesB, if_true] at h
      obtain ⟨b, ⟨a, rfl⟩, hk⟩ := (anySuffix_iff _ _).1 h
      exact .star a (ih b hk)
    · cases n with
      | nil => simp [matchesB, hc] at h
      | cons d n' =>
        simp only [matchesB, hc, if_false, Bool.and_eq_true, Bool.or_eq_true, decide_eq_true_eq] at h
        obtain ⟨h1, h2⟩ := h
        by_cases hq : c = '?'
        · subst hq; exact .any d (ih n' h2)
        · have hd : d = c := by rcases h1 with h1 | h1; exact absurd h1 hq; exact h1
          subst hd
          exact .lit d hc hq (ih n' h2)

theorem matchesB_complete {p n : Str} (h : Matches p n) : matchesB p n = true := by
  induction h with
  | nil => simp [matchesB]
  | star a _ ih =>
    simp only [matchesB, if_true]
    exact (anySuffix_iff _ _).2 ⟨_, List.suffix_append a _, ih⟩
  | any d _ ih => simp [matchesB, ih]
  | lit c h1 h2 _ ih => simp [matchesB, h1, ih]

theorem matchesB_iff (p n : Str) : matchesB p n = true ↔ Matches p n :=
  ⟨matchesB_sound p n, matchesB_complete⟩

instance (p n : Str) : Decidable (Matches p n) := decidable_of_iff _ (matchesB_iff p n)

theorem anySuffix_mono {k k' : Str → Bool} (h : ∀ b, k b = true → k' b = true) (n : Str) (hn : anySuffix k n = true) :
    anySuffix k' n = true :=
  have ⟨b, hb, hk⟩ := (anySuffix_iff k n).1 hn
  (anySuffix_iff k' n).2 ⟨b, hb, h b hk⟩

theorem anySuffix_self (k : Str → Bool) (n : Str) (h : k n = true) : anySuffix k n = true :=
  (anySuffix_iff k n).2 ⟨n, List.suffix_refl n, h⟩

theorem anySuffix_idem (k : Str → Bool) (n : Str) (h : anySuffix (anySuffix k) n = true) :
    anySuffix k n = true := by
  obtain ⟨b, hb, h'⟩ := (anySuffix_iff _ n).1 h
  obtain ⟨b', hb', hk⟩ := (anySuffix_iff _ b).1 h'
  exact (anySuffix_iff k n).2 ⟨b', hb'.trans hb, hk⟩

end Spec

open Spec

/-- the skip loop tries the rest of the pattern at the stop positions only -/
theorem starAlt_eq (stop : Char → Bool) (k : Str → Bool) (n : Str) :
    starAlt stop k n = anySuffix (fun b => b.head?.all stop && k b) n := by
  induction n with
  | nil => simp [starAlt, anySuffix]
  | cons c r ih => rw [starAlt, anySuffix, ← ih, List.head?_cons, Option.all_some]; cases stop c <;> rfl

theorem starAlt_imp_anySuffix (stop : Char → Bool) (k k' : Str → Bool) (hk : ∀ m, k m = true → k' m = true)
    (n : Str) (h : starAlt stop k n = true) : anySuffix k' n = true :=
  anySuffix_mono (fun b hb => hk b (Bool.and_eq_true_iff.1 hb).2) n (starAlt_eq stop k n ▸ h)

/-- skipping after `*` loses nothing when the rest of the pattern can only match a name that is empty or starts at a stop position -/
theorem starAlt_complete (stop : Char → Bool) (k k' : Str → Bool) (hk : ∀ m, k m = true → k' m = true)
    (hstop : ∀ c r, k (c :: r) = true → stop c = true) (n : Str) (h : anySuffix k n = true) : starAlt stop k' n = true :=
  starAlt_eq stop k' n ▸ anySuffix_mono (fun b hb => Bool.and_eq_true_iff.2
    ⟨by cases b with | nil => rfl | cons c r => exact hstop c r hb, hk b hb⟩) n h

theorem starAlt_of_nil (stop : Char → Bool) (k : Str → Bool) (hk : k [] = true) (n : Str) : starAlt stop k n = true :=
  starAlt_eq stop k n ▸ (anySuffix_iff _ n).2 ⟨[], List.nil_suffix, Bool.and_eq_true_iff.2 ⟨rfl, hk⟩⟩

theorem dfs_sound (fx : Bool) : ∀ (p n : Str), dfs fx false p n = true → matchesB p n = true := by
  intro p
  induction p with
  | nil => intro n h; simpa [dfs, matchesB] using h
  | cons c p ih =>
    intro n h
    by_cases hc : c = '*'
    · simp only [dfs, hc, if_true] at h
      simp only [matchesB, hc, if_true]
      split at h
      · exact anySuffix_self _ _ (ih n h)
      · exact starAlt_imp_anySuffix _ _ _ ih n h
    · cases n with
      | nil => simp [dfs, hc] at h
      | cons d n' =>
        simp only [dfs, hc, if_false] at h
        simp only [matchesB, hc, if_false]
        split at h
        · rename_i hm
          simp only [litEq, Bool.false_and, Bool.or_false] at hm
          simp [hm, ih n' h]
        · cases h

theorem allStar_dfs (ci : Bool) : ∀ p : Str, p.all (· == '*') = true → ∀ n, dfs false ci ('*' :: p) n = true := by
  intro p
  induction p with
  | nil => intro _ n; exact starAlt_of_nil _ _ rfl n
  | cons c p ih =>
    intro hall n
    simp only [List.all_cons, Bool.and_eq_true, beq_iff_eq] at hall
    rw [hall.1]
    exact starAlt_of_nil _ _ (ih hall.2 []) n

theorem dfs_complete (fx : Bool) : ∀ (p n : Str), (fx = true ∨ starOk p = true) → matchesB p n = true →
    dfs fx false p n = true := by
  intro p
  induction p with
  | nil => intro n _ h; simpa [dfs, matchesB] using h
  | cons c p ih =>
    intro n hok h
    have hok' : fx = true ∨ starOk p = true := hok.imp id fun h => by
      simp only [starOk, Bool.and_eq_true] at h; exact h.2
    have ih' := fun m => ih m hok'
    by_cases hc : c = '*'
    · subst hc
      simp only [matchesB, if_true] at h
      simp only [dfs, if_true]
      cases p with
      | nil => simpa using starAlt_complete (stopAt fx none) _ _ ih' (fun c r h => by simp [matchesB] at h) n h
      | cons d p' =>
        simp only [List.head?_cons, Option.some.injEq]
        by_cases hd : d = '*'
        · subst hd
          cases fx with
          | true =>
            -- the repaired code reads `**` as the second star alone, which matches what both match
            apply ih'
            simp only [matchesB, if_true] at h ⊢
            exact anySuffix_idem _ _ h
          | false =>
            -- the code before the repair skips to the next `*` of the name: complete only if nothing but `*` follows
            have hok := hok.resolve_left Bool.false_ne_true
            simp only [starOk, Bool.and_eq_true, Bool.or_eq_true, bne_self_eq_false, Bool.false_eq_true, false_or,
              bne_iff_ne, ne_eq, false_and, or_false] at hok
            exact starAlt_of_nil _ _ (allStar_dfs false p' (by simpa using hok.1) []) n
        · rw [if_neg (by simp [hd])]
          refine starAlt_complete _ _ _ ih' (fun c r hm => ?_) n h
          simp only [matchesB, hd, if_false, Bool.and_eq_true, Bool.or_eq_true, decide_eq_true_eq] at hm
          rcases hm.1 with hq | hcd
          · -- `?` after `*`: the repaired code stops everywhere; the pattern is not `starOk`
            subst hq
            cases fx with
            | true => rfl
            | false => simp [starOk] at hok
          · simp [stopAt, hcd]
    · cases n with
      | nil => simp [matchesB, hc] at h
      | cons d n' =>
        simp only [matchesB, hc, if_false, Bool.and_eq_true] at h
        simp only [dfs, hc, if_false, litEq, Bool.false_and, Bool.or_false]
        rw [if_pos h.1]
        exact ih' n' h.2

theorem dfs_iff (fx : Bool) (p n : Str) (h : fx = true ∨ starOk p = true) : dfs fx false p n = true ↔ Matches p n :=
  ⟨fun hd => matchesB_sound p n (dfs_sound fx p n hd), fun hm => dfs_complete fx p n h (matchesB_complete hm)⟩

theorem dfs_complete_partial : ∀ (p n : Str), starOk p = true → matchesB p n = true → dfs false false p n = true :=
  fun p n h => dfs_complete false p n (Or.inr h)

theorem cstr_eq_takeWhile : ∀ s : Str, cstr s = s.takeWhile (· ≠ '\x00')
  | [] => rfl
  | c :: r => by by_cases h : c = '\x00' <;> simp [cstr, h, cstr_eq_takeWhile r]

theorem cstr_noNul (s : Str) : ∀ c ∈ cstr s, c ≠ '\x00' := fun c h =>
  of_decide_eq_true (List.all_eq_true.1 List.all_takeWhile c (cstr_eq_takeWhile s ▸ h))

theorem cstr_id (s : Str) (h : ∀ c ∈ s, c ≠ '\x00') : cstr s = s :=
  (cstr_eq_takeWhile s).trans (Text.takeWhile_eq_self fun c hc => decide_eq_true (h c hc))

end Cppcheck.Glob
