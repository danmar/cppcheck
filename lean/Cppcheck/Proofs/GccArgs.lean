import Cppcheck.Model.GccArgs
/-
C32: one iteration of `parseArgs`' loop (`runChecks`) on each kind of argument GCC distinguishes, the refinement
`loop = Spec.gcc` on `clean` vectors, `Spec.gcc` as the inverse of `render`, `fsSetDefines` on the string the loop
builds, and the import of a whole database.
The option names the loop tests for are pairwise incomparable as prefixes, so the test that fires is the only one that
could; everything about a single option is stated once, for the test `k : Kind` and its GCC spelling `optName k`.
-/
namespace Cppcheck.GccArgs
open Cppcheck.Wire

theorem length_ne_of_prefix_ne {p a : Str} (hp : p.isPrefixOf a = true) (hne : a ≠ p) : ¬ a.length = p.length := by
  intro hl
  have := List.isPrefixOf_iff_prefix.mp hp
  exact hne (this.eq_of_length hl.symm).symm

theorem prefix_self {n : Str} : n.isPrefixOf n = true := List.isPrefixOf_iff_prefix.2 (List.prefix_refl n)

theorem form_iff {n a : Str} :
    (Spec.form n a = .sep ↔ a = n) ∧
    (∀ v, Spec.form n a = .joined v ↔ a ≠ n ∧ n.isPrefixOf a = true ∧ v = a.drop n.length) ∧
    (Spec.form n a = .no ↔ n.isPrefixOf a = false) := by
  unfold Spec.form
  by_cases h1 : a = n
  · subst h1; simp [prefix_self]
  · by_cases h2 : n.isPrefixOf a = true
    · simp [h1, h2, eq_comm]
    · simp [h1, h2]

theorem form_sep {n a : Str} (h : Spec.form n a = .sep) : a = n := form_iff.1.1 h

theorem form_joined {n a v : Str} (h : Spec.form n a = .joined v) :
    a ≠ n ∧ n.isPrefixOf a = true ∧ v = a.drop n.length := (form_iff.2.1 v).1 h

theorem form_no {n a : Str} (h : Spec.form n a = .no) : n.isPrefixOf a = false := form_iff.2.2.1 h

theorem form_no_of {n a : Str} (h : n.isPrefixOf a = false) : Spec.form n a = .no := form_iff.2.2.2 h

theorem form_self (n : Str) : Spec.form n n = .sep := form_iff.1.2 rfl

theorem form_of_append (n d : Str) (hd : d ≠ []) : Spec.form n (n ++ d) = .joined d :=
  (form_iff.2.1 d).2 ⟨fun h => hd (List.append_right_eq_self.1 h), List.isPrefixOf_iff_prefix.2 (List.prefix_append n d),
    (List.drop_left' rfl).symm⟩

section runChecks
variable {names ns : List Str} {n a b : Str} {k : Kind} {cs : List (List Str × Kind)} {rest : List Str} {fs : FS}

theorem runChecks_skip (h : ∀ n ∈ names, n.isPrefixOf a = false) :
    runChecks ((names, k) :: cs) a rest fs = runChecks cs a rest fs := by
  have : findPrefix names a = none := by
    unfold findPrefix
    rw [List.find?_eq_none.2 (fun x hx => by simp [h x hx])]
    rfl
  simp only [runChecks, this]

theorem findPrefix_head (h : n.isPrefixOf a = true) : findPrefix (n :: ns) a = some n.length := by
  simp [findPrefix, h]

theorem runChecks_joined (h : n.isPrefixOf a = true) (hne : a ≠ n) :
    runChecks ((n :: ns, k) :: cs) a rest fs = .next false (apply k (a.drop n.length) fs) := by
  simp only [runChecks, findPrefix_head h, if_neg (length_ne_of_prefix_ne h hne)]

theorem runChecks_sep (hb : b ≠ []) :
    runChecks ((n :: ns, k) :: cs) n (b :: rest) fs = .next true (apply k b fs) := by
  simp [runChecks, findPrefix_head prefix_self, hb]

theorem runChecks_bare : runChecks ((n :: ns, k) :: cs) n [] fs = .next false fs := by
  simp [runChecks, findPrefix_head prefix_self]

theorem runChecks_only (hin : ∃ p ∈ cs, n ∈ p.1) (hp : n.isPrefixOf a = true)
    (honly : ∀ p ∈ cs, ∀ m ∈ p.1, m.isPrefixOf a = true → m = n ∧ p.2 = k) :
    runChecks cs a rest fs = runChecks [([n], k)] a rest fs := by
  induction cs with
  | nil => simp at hin
  | cons p cs ih =>
    obtain ⟨names, k'⟩ := p
    cases hf : names.find? (fun m => m.isPrefixOf a) with
    | none =>
      have hno : ∀ m ∈ names, m.isPrefixOf a = false := fun m hm => Bool.eq_false_iff.2 (List.find?_eq_none.1 hf m hm)
      rw [runChecks_skip hno]
      refine ih ?_ fun p hp => honly p (.tail _ hp)
      obtain ⟨q, hq, hn⟩ := hin
      rcases List.mem_cons.1 hq with rfl | hq
      · rw [hno n hn] at hp; contradiction
      · exact ⟨q, hq, hn⟩
    | some m =>
      obtain ⟨rfl, rfl⟩ := honly _ (.head _) m (List.mem_of_find?_eq_some hf) (List.find?_some (p := fun m : Str => m.isPrefixOf a) hf)
      simp only [runChecks, findPrefix, hf, hp, List.find?, Option.map]

theorem runChecks_none (h : ∀ p ∈ cs, ∀ n ∈ p.1, n.isPrefixOf a = false) : runChecks cs a rest fs = .next false fs := by
  induction cs with
  | nil => rfl
  | cons p cs ih =>
    rw [runChecks_skip (h p (by simp))]
    exact ih fun q hq => h q (by simp [hq])

/-- where the old iteration did not read out of bounds, the repaired one does the same -/
theorem before_runChecks {f : FS} {c : Bool}
    (h : Before0f74657.runChecks cs a rest fs = .next c f) : runChecks cs a rest fs = .next c f := by
  fun_induction Before0f74657.runChecks cs a rest fs <;> simp_all [runChecks]

end runChecks

def optName : Kind → Str
  | .inc => "-I".toList | .sysinc => "-isystem".toList | .define => "-D".toList | .undef => "-U".toList
  | .std => "-std=".toList | .f => "-f".toList | .m => "-m".toList

theorem checks_names :
    (∀ p ∈ checks, p.1.head? = some (optName p.2)) ∧
    checks.map (·.2) = [.inc, .sysinc, .define, .undef, .std, .f, .m] ∧
    ∀ p ∈ checks, ∀ q ∈ checks, ∀ m ∈ p.1, ∀ n ∈ q.1, m.isPrefixOf n = true → m = n ∧ p.2 = q.2 := by
  decide +kernel

theorem optName_mem (k : Kind) : ∃ p ∈ checks, optName k ∈ p.1 ∧ p.2 = k := by
  have hk : k ∈ checks.map (·.2) := by rw [checks_names.2.1]; cases k <;> simp
  obtain ⟨p, hp, rfl⟩ := List.mem_map.1 hk
  exact ⟨p, hp, List.mem_of_mem_head? (checks_names.1 p hp), rfl⟩

theorem names_unique {a m n : Str} {p q : List Str × Kind} (hp : p ∈ checks) (hq : q ∈ checks) (hm : m ∈ p.1)
    (hn : n ∈ q.1) (hma : m.isPrefixOf a = true) (hna : n.isPrefixOf a = true) : m = n ∧ p.2 = q.2 := by
  rcases List.prefix_or_prefix_of_prefix (List.isPrefixOf_iff_prefix.1 hma) (List.isPrefixOf_iff_prefix.1 hna) with hc | hc
  · exact checks_names.2.2 p hp q hq m hm n hn (List.isPrefixOf_iff_prefix.2 hc)
  · obtain ⟨e1, e2⟩ := checks_names.2.2 q hq p hp n hn m hm (List.isPrefixOf_iff_prefix.2 hc)
    exact ⟨e1.symm, e2.symm⟩

theorem rc_only {a : Str} (k : Kind) (h : (optName k).isPrefixOf a = true) (rest : List Str) (fs : FS) :
    runChecks checks a rest fs = runChecks [([optName k], k)] a rest fs := by
  obtain ⟨q, hq, hn, rfl⟩ := optName_mem k
  exact runChecks_only ⟨q, hq, hn⟩ h fun p hp m hm hma => names_unique hp hq hm hn hma h

theorem form_other_no {a : Str} {j k : Kind} (hjk : j ≠ k) (h : (optName k).isPrefixOf a = true) :
    Spec.form (optName j) a = .no := by
  obtain ⟨p, hp, hm, rfl⟩ := optName_mem j
  obtain ⟨q, hq, hn, rfl⟩ := optName_mem k
  exact form_no_of (Bool.eq_false_iff.2 fun hj => hjk (names_unique hp hq hm hn hj h).2)

theorem rc_joined {a v : Str} (k : Kind) (h : Spec.form (optName k) a = .joined v) (rest : List Str) (fs : FS) :
    runChecks checks a rest fs = .next false (apply k v fs) := by
  obtain ⟨hne, hp, rfl⟩ := form_joined h
  rw [rc_only k hp, runChecks_joined hp hne]

theorem rc_sep {a b : Str} (k : Kind) (h : Spec.form (optName k) a = .sep) (hb : b ≠ []) (rest : List Str) (fs : FS) :
    runChecks checks a (b :: rest) fs = .next true (apply k b fs) := by
  obtain rfl := form_sep h
  rw [rc_only k prefix_self, runChecks_sep hb]

/-- a bare option name as the last argument does nothing (commit 0f74657) -/
theorem rc_bare {a : Str} (k : Kind) (h : Spec.form (optName k) a = .sep) (fs : FS) :
    runChecks checks a [] fs = .next false fs := by
  obtain rfl := form_sep h
  rw [rc_only k prefix_self, runChecks_bare]

theorem rc_f (v : Str) (hv : v ≠ []) (rest : List Str) (fs : FS) :
    runChecks checks ('-' :: 'f' :: v) rest fs = .next false (apply .f v fs) :=
  rc_joined .f (form_of_append "-f".toList v hv) rest fs

theorem rc_m (v : Str) (hv : v ≠ []) (rest : List Str) (fs : FS) :
    runChecks checks ('-' :: 'm' :: v) rest fs = .next false (apply .m v fs) :=
  rc_joined .m (form_of_append "-m".toList v hv) rest fs

/-- the flags with an implied macro -/
def flagNames : List Str := ["-fpic", "-fPIC", "-fpie", "-fPIE", "-municode"].map String.toList

theorem impliedDefine_of_not_flag {a : Str} (h : a ∉ flagNames) : Spec.impliedDefine a = none := by
  simp only [flagNames, List.map, List.mem_cons, List.not_mem_nil, or_false, not_or] at h
  simp only [Spec.impliedDefine, if_neg h.1, if_neg h.2.1, if_neg h.2.2.1, if_neg h.2.2.2.1, if_neg h.2.2.2.2]

theorem flagNames_facts : flagNames.all (fun a => notOption a && otherOk a &&
    ("-f".toList.isPrefixOf a || "-m".toList.isPrefixOf a)) = true := by
  decide +kernel

theorem implied_facts {a d : Str} (h : Spec.impliedDefine a = some d) :
    notOption a = true ∧ otherOk a = true ∧ ("-f".toList.isPrefixOf a = true ∨ "-m".toList.isPrefixOf a = true) := by
  have hm : a ∈ flagNames := Decidable.by_contra fun hm => nomatch (impliedDefine_of_not_flag hm).symm.trans h
  simpa [and_assoc] using List.all_eq_true.mp flagNames_facts a hm

theorem otherOk_iff {a : Str} : otherOk a = true ↔
    ("/I".toList.isPrefixOf a = false ∧ "/D".toList.isPrefixOf a = false ∧ "/U".toList.isPrefixOf a = false ∧
     "/std:".toList.isPrefixOf a = false) ∧ a ≠ "-f".toList ∧ a ≠ "-m".toList ∧ a ≠ "-std=".toList := by
  simp [otherOk, slashPrefixes, and_assoc]

theorem rc_inert {b : Str} (rest : List Str) (fs : FS) (h : inert b = true) :
    runChecks checks b rest fs = .next false fs := by
  simp only [inert, Bool.not_eq_true', List.any_eq_false, Bool.not_eq_true] at h
  have sub : ∀ p ∈ checks, ∀ n ∈ p.1, n ∈ prefixes := by decide +kernel
  exact runChecks_none fun p hp n hn => h n (sub p hp n hn)

open Spec

theorem joinDefs_append (ds : List Str) (d : Str) : joinDefs (ds ++ [d]) = joinDefs ds ++ d ++ [';'] := by
  induction ds with
  | nil => simp [joinDefs]
  | cons x r ih => simp [joinDefs, ih]

def addMacro : Option Str → Opts → Opts
  | some d, o => { o with defines := o.defines ++ [d] }
  | none, o => o

/-- what the value `v` of the option tested by `k` adds to GCC's reading -/
def upd : Kind → Str → Opts → Opts
  | .inc, v, o => o.addInc v
  | .sysinc, v, o => { o with sysIncludes := o.sysIncludes ++ [v] }
  | .define, v, o => { o with defines := o.defines ++ [v] }
  | .undef, v, o => { o with undefs := setInsert v o.undefs }
  | .std, v, o => { o with std := v }
  | .f, v, o => addMacro (impliedDefine ('-' :: 'f' :: v)) o
  | .m, v, o => addMacro (impliedDefine ('-' :: 'm' :: v)) o

/-- the flag names as the `-f` / `-m` test sees them (test name, value), and what `apply` appends for them -/
theorem flag_literals :
    ("-fpic".toList = '-' :: 'f' :: "pic".toList ∧ "-fPIC".toList = '-' :: 'f' :: "PIC".toList ∧
     "-fpie".toList = '-' :: 'f' :: "pie".toList ∧ "-fPIE".toList = '-' :: 'f' :: "PIE".toList ∧
     "-municode".toList = '-' :: 'm' :: "unicode".toList) ∧
    "__pic__;".toList = "__pic__".toList ++ [';'] ∧ "__PIC__;".toList = "__PIC__".toList ++ [';'] ∧
    "__pie__;".toList = "__pie__".toList ++ [';'] ∧ "__PIE__;".toList = "__PIE__".toList ++ [';'] ∧
    "UNICODE;".toList = "UNICODE".toList ++ [';'] := by
  decide +kernel

/-- one link of the `if` chains of `apply .f` / `apply .m` and of `impliedDefine`, which test the same values in
    the same order -/
theorem addMacro_ite {c : Prop} [Decidable c] (d : Str) (o : Opts) {x : FS} {y : Option Str}
    (h : x = (addMacro y o).toRaw) :
    (if c then { o.toRaw with defs := o.toRaw.defs ++ (d ++ [';']) } else x) =
      (addMacro (if c then some d else y) o).toRaw := by
  split
  · simp [addMacro, Opts.toRaw, joinDefs_append]
  · exact h

theorem apply_toRaw (k : Kind) (v : Str) (o : Opts) : apply k v o.toRaw = (upd k v o).toRaw := by
  obtain ⟨⟨e1, e2, e3, e4, e5⟩, l1, l2, l3, l4, l5⟩ := flag_literals
  cases k with
  | inc =>
    by_cases hc : o.includes.contains v = true
    · simp only [apply, upd, Opts.toRaw, Opts.addInc, hc, if_true]
    · simp only [apply, upd, Opts.toRaw, Opts.addInc, hc]; rfl
  | define => simp [apply, upd, Opts.toRaw, joinDefs_append]
  | sysinc | undef | std => rfl
  | f =>
    simp only [apply, upd, impliedDefine, e1, e2, e3, e4, e5, l1, l2, l3, l4, List.cons.injEq, true_and]
    exact addMacro_ite _ o (addMacro_ite _ o (addMacro_ite _ o (addMacro_ite _ o (by simp [addMacro]))))
  | m =>
    simp only [apply, upd, impliedDefine, e1, e2, e3, e4, e5, l5, List.cons.injEq, true_and,
      eq_false (by decide : ¬ 'm' = 'f'), false_and, if_false]
    exact addMacro_ite _ o rfl

theorem rc_plain {a : Str} (hp : notOption a = true) (hok : otherOk a = true) (rest : List Str) (o : Opts) :
    runChecks checks a rest o.toRaw = .next false (addMacro (impliedDefine a) o).toRaw := by
  obtain ⟨⟨s1, s2, s3, s4⟩, nf, nm, _⟩ := otherOk_iff.mp hok
  by_cases hf : "-f".toList.isPrefixOf a = true
  · obtain ⟨v, rfl⟩ := List.isPrefixOf_iff_prefix.mp hf
    rw [show "-f".toList ++ v = '-' :: 'f' :: v from rfl] at nf ⊢
    rw [rc_f v (by simpa using nf), apply_toRaw]; rfl
  · by_cases hm : "-m".toList.isPrefixOf a = true
    · obtain ⟨v, rfl⟩ := List.isPrefixOf_iff_prefix.mp hm
      rw [show "-m".toList ++ v = '-' :: 'm' :: v from rfl] at nm ⊢
      rw [rc_m v (by simpa using nm), apply_toRaw]; rfl
    · have hf := Bool.eq_false_iff.2 hf
      have hm := Bool.eq_false_iff.2 hm
      have hi : impliedDefine a = none := by
        cases hi : impliedDefine a with
        | none => rfl
        | some d => exact absurd (implied_facts hi).2.2 (by rw [hf, hm]; simp)
      simp only [notOption, Bool.and_eq_true, Bool.not_eq_true'] at hp
      obtain ⟨⟨⟨⟨p1, p2⟩, p3⟩, p4⟩, p5⟩ := hp
      rw [hi, rc_inert rest _ (by simp only [inert, prefixes, List.map, List.any, p1, s1, p2, p3, s2, p4, s3, p5, s4, hf, hm,
        Bool.or_self, Bool.not_false])]; rfl

theorem loop_next_false {a : Str} {rest : List Str} {fs fs' : FS} (h : runChecks checks a rest fs = .next false fs') :
    loop (a :: rest) fs = loop rest fs' := by
  simp [loop, h]

theorem loop_next_true {a b : Str} {rest : List Str} {fs fs' : FS} (h : runChecks checks a (b :: rest) fs = .next true fs') :
    loop (a :: b :: rest) fs = loop rest fs' := by
  simp [loop, h]

/-- an argument that starts with the name of option `k`, as the chain of `form` tests in `gcc` and `clean` sees it -/
theorem forms_of {a : Str} {k : Kind} {x : Form} (h : form (optName k) a = x) (hx : x ≠ .no) :
    form "-I".toList a = (if k = .inc then x else .no) ∧
    form "-isystem".toList a = (if k = .sysinc then x else .no) ∧
    form "-D".toList a = (if k = .define then x else .no) ∧
    form "-U".toList a = (if k = .undef then x else .no) ∧
    form "-std=".toList a = (if k = .std then x else .no) := by
  have hp : (optName k).isPrefixOf a = true :=
    Decidable.by_contra fun hn => hx (h.symm.trans (form_no_of (Bool.eq_false_iff.2 hn)))
  have other (j : Kind) : form (optName j) a = if k = j then x else .no := by
    split
    · subst ‹k = j›; exact h
    · exact form_other_no (Ne.symm ‹_›) hp
  exact ⟨other .inc, other .sysinc, other .define, other .undef, other .std⟩

theorem chain_joined {a v : Str} (k : Kind) (h : form (optName k) a = .joined v) (rest : List Str)
    (hk : k ≠ .f ∧ k ≠ .m := by decide) :
    (∀ o, gcc (a :: rest) o = gcc rest (upd k v o)) ∧ clean (a :: rest) = clean rest := by
  obtain ⟨f1, f2, f3, f4, f5⟩ := forms_of h nofun
  cases k with
  | f => exact absurd rfl hk.1
  | m => exact absurd rfl hk.2
  | _ => cases rest <;> simp only [gcc, clean, upd, f1, f2, f3, f4, f5, reduceCtorEq, ↓reduceIte, implies_true, and_self]

theorem chain_sep {a : Str} (k : Kind) (h : form (optName k) a = .sep) (b : Str) (rest : List Str)
    (hk : k ≠ .std ∧ k ≠ .f ∧ k ≠ .m := by decide) :
    (∀ o, gcc (a :: b :: rest) o = gcc rest (upd k b o)) ∧ clean (a :: b :: rest) = (!b.isEmpty && clean rest) := by
  obtain ⟨f1, f2, f3, f4, -⟩ := forms_of h nofun
  cases k with
  | std => exact absurd rfl hk.1
  | f => exact absurd rfl hk.2.1
  | m => exact absurd rfl hk.2.2
  | _ => simp only [gcc, clean, upd, f1, f2, f3, f4, reduceCtorEq, ↓reduceIte, implies_true, and_self]

/-- GCC's reading ignores a bare option name as the last argument (the driver reports an error) -/
theorem gcc_last_bare {a : Str} (k : Kind) (h : form (optName k) a = .sep) (o : Opts) (hk : k ≠ .f ∧ k ≠ .m := by decide) :
    gcc [a] o = o := by
  obtain ⟨f1, f2, f3, f4, f5⟩ := forms_of h nofun
  -- a flag starts with `-f` or `-m`, which no name of the five options does
  have hi : impliedDefine a = none := by
    cases hi : impliedDefine a with
    | none => rfl
    | some d =>
      rcases (implied_facts hi).2.2 with hf | hm
      · exact absurd (h.symm.trans (form_other_no hk.1 hf)) nofun
      · exact absurd (h.symm.trans (form_other_no hk.2 hm)) nofun
  cases k with
  | f => exact absurd rfl hk.1
  | m => exact absurd rfl hk.2
  | _ => simp only [gcc, f1, f2, f3, f4, f5, hi, reduceCtorEq, ↓reduceIte]

theorem clean_bare_std {a : Str} (h : form (optName .std) a = .sep) (b : Str) (rest : List Str) :
    clean (a :: b :: rest) = false := by
  obtain ⟨f1, f2, f3, f4, f5⟩ := forms_of h nofun
  simp only [clean, f1, f2, f3, f4, f5, reduceCtorEq, ↓reduceIte]

theorem notOption_iff {a : Str} : notOption a = true ↔
    form "-I".toList a = .no ∧ form "-isystem".toList a = .no ∧ form "-D".toList a = .no ∧
    form "-U".toList a = .no ∧ form "-std=".toList a = .no := by
  simp only [notOption, Bool.and_eq_true, Bool.not_eq_true', form_iff.2.2, and_assoc]

theorem chain_plain {a : Str} (hp : notOption a = true) (rest : List Str) :
    (∀ o, gcc (a :: rest) o =
      gcc (bif (impliedDefine a).isNone && sepOpts.contains a then rest.tail else rest) (addMacro (impliedDefine a) o)) ∧
    clean (a :: rest) = (((impliedDefine a).isSome || otherOk a) &&
      bif (impliedDefine a).isNone && sepOpts.contains a then rest.head?.all inert && clean rest.tail else clean rest) := by
  obtain ⟨h1, h2, h3, h4, h5⟩ := notOption_iff.1 hp
  cases hi : impliedDefine a <;> cases hs : sepOpts.contains a <;> cases rest <;>
    simp only [gcc, clean, h1, h2, h3, h4, h5, hi, hs] <;>
    simp [addMacro, gcc, clean, Bool.and_assoc]

theorem plain_or_option (a : Str) : notOption a = true ∨ ∃ k, (k ≠ .f ∧ k ≠ .m) ∧ form (optName k) a ≠ .no := by
  refine Decidable.or_iff_not_imp_left.2 fun hp => ?_
  simp only [notOption_iff, Classical.not_and_iff_not_or_not] at hp
  rcases hp with h | h | h | h | h
  · exact ⟨.inc, by decide, h⟩
  · exact ⟨.sysinc, by decide, h⟩
  · exact ⟨.define, by decide, h⟩
  · exact ⟨.undef, by decide, h⟩
  · exact ⟨.std, by decide, h⟩

theorem sim_step {a : Str} {rest : List Str} (h : clean (a :: rest) = true) (o : Opts) :
    ∃ rest' o', rest'.length ≤ rest.length ∧ clean rest' = true ∧ gcc (a :: rest) o = gcc rest' o' ∧
      loop (a :: rest) o.toRaw = loop rest' o'.toRaw := by
  rcases plain_or_option a with hp | ⟨k, hk, hf⟩
  · obtain ⟨hg, hc⟩ := chain_plain hp rest
    simp only [hc, Bool.and_eq_true, Bool.or_eq_true, Option.isSome_iff_exists] at h
    have hl := loop_next_false (rc_plain hp (h.1.elim (fun ⟨_, hd⟩ => (implied_facts hd).2.1) id) rest o)
    cases hsw : (impliedDefine a).isNone && sepOpts.contains a with
    | false => rw [hsw] at h hg; exact ⟨rest, _, Nat.le_refl _, h.2, hg o, hl⟩
    | true =>
      rw [hsw] at h hg
      cases rest with
      | nil => exact ⟨[], _, Nat.le_refl _, h.2, hg o, hl⟩
      | cons b r =>
        -- the option takes `b` with it; the loop looks at `b`, and nothing fires
        simp only [cond_true, List.head?_cons, Option.all_some, Bool.and_eq_true, List.tail_cons] at h
        exact ⟨r, _, Nat.le_succ _, h.2.2, hg o, hl.trans (loop_next_false (rc_inert _ _ h.2.1))⟩
  · cases hf' : form (optName k) a with
    | no => exact absurd hf' hf
    | joined v =>
      obtain ⟨hg, hc⟩ := chain_joined k hf' rest hk
      exact ⟨rest, _, Nat.le_refl _, hc ▸ h, hg o, by rw [loop_next_false (rc_joined k hf' _ _), apply_toRaw]⟩
    | sep =>
      cases rest with
      | nil => exact ⟨[], o, Nat.le_refl _, rfl, gcc_last_bare k hf' o hk, loop_next_false (rc_bare k hf' _)⟩
      | cons b r =>
        by_cases hstd : k = .std
        · subst hstd; rw [clean_bare_std hf'] at h; contradiction
        · obtain ⟨hg, hc⟩ := chain_sep k hf' b r ⟨hstd, hk⟩
          simp only [hc, Bool.and_eq_true, Bool.not_eq_true', List.isEmpty_eq_false_iff] at h
          exact ⟨r, _, Nat.le_succ _, h.2, hg o, by rw [loop_next_true (rc_sep k hf' h.1 r _), apply_toRaw]⟩

theorem loop_eq_gcc : ∀ (args : List Str), clean args = true → ∀ o : Opts, loop args o.toRaw = (gcc args o).toRaw
  | [], _, o => by simp [loop, gcc]
  | a :: rest, h, o => by
    obtain ⟨rest', o', hlen, hc, hg, hl⟩ := sim_step h o
    rw [hl, hg]; exact loop_eq_gcc rest' hc o'
termination_by args => args.length
decreasing_by simp; omega

theorem gcc_valued (k : Kind) {d : Str} (hd : d ≠ []) (j : Bool) (rest : List Str) (o : Opts)
    (hk : k ≠ .std ∧ k ≠ .f ∧ k ≠ .m := by decide) :
    gcc ((if j then [optName k ++ d] else [optName k, d]) ++ rest) o = gcc rest (upd k d o) := by
  cases j
  · exact (chain_sep k (form_self _) d rest hk).1 o
  · exact (chain_joined k (form_of_append _ d hd) rest hk.2).1 o

theorem gcc_render (l : List Opt) (h : ∀ x ∈ l, x.wf = true) (o : Opts) : gcc (render l) o = meaning l o := by
  induction l generalizing o with
  | nil => simp [render, gcc, meaning]
  | cons x r ih =>
    have hr : ∀ y ∈ r, y.wf = true := fun y hy => h y (by simp [hy])
    have hx := h x (by simp)
    cases x with
    | inc d j => exact (gcc_valued .inc (by simpa [Opt.wf] using hx) j _ o).trans (ih hr _)
    | sysinc d j => exact (gcc_valued .sysinc (by simpa [Opt.wf] using hx) j _ o).trans (ih hr _)
    | define d j => exact (gcc_valued .define (by simpa [Opt.wf] using hx) j _ o).trans (ih hr _)
    | undef d j => exact (gcc_valued .undef (by simpa [Opt.wf] using hx) j _ o).trans (ih hr _)
    | std d => exact ((chain_joined .std (form_of_append _ d (by simpa [Opt.wf] using hx)) _).1 o).trans (ih hr _)
    | flag a =>
      simp only [Opt.wf, Option.isSome_iff_exists] at hx
      obtain ⟨d, hd⟩ := hx
      simp only [render, Opt.render, List.cons_append, List.nil_append, meaning, hd]
      rw [(chain_plain (implied_facts hd).1 _).1, hd]; exact ih hr _
    | sepOther a v =>
      simp only [Opt.wf, Bool.and_eq_true, Option.isNone_iff_eq_none] at hx
      simp only [render, Opt.render, List.cons_append, List.nil_append, meaning]
      rw [(chain_plain hx.1.2 _).1, hx.2, hx.1.1]; exact ih hr _
    | other a =>
      simp only [Opt.wf, Bool.and_eq_true, Option.isNone_iff_eq_none, Bool.not_eq_true'] at hx
      simp only [render, Opt.render, List.cons_append, List.nil_append, meaning]
      rw [(chain_plain hx.1.1 _).1, hx.1.2, hx.2]; exact ih hr _

theorem defOk_iff {d : Str} : defOk d = true ↔
    ∃ c t, d = c :: t ∧ ';' ∉ d ∧ c ≠ '=' ∧ c ≠ '(' ∧ "%(".toList.isPrefixOf d = false := by
  cases d with
  | nil => simp [defOk]
  | cons c t => simp [defOk, and_assoc]

theorem findSub_semi_skip (p d rest : Str) (hd : ';' ∉ d) (h : findSub (';' :: p) rest = none) :
    findSub (';' :: p) (d ++ rest) = none := by
  induction d with
  | nil => simpa using h
  | cons c t ih =>
    have hc : c ≠ ';' := fun hc => hd (by simp [hc])
    have ht : ';' ∉ t := fun ht => hd (by simp [ht])
    have hc' : (';' == c) = false := by simp [Ne.symm hc]
    simp [findSub, List.isPrefixOf, hc', ih ht]

theorem findSub_semi_at (p rest : Str) (hp : p.isPrefixOf rest = false) (h : findSub (';' :: p) rest = none) :
    findSub (';' :: p) (';' :: rest) = none := by
  simp [findSub, List.isPrefixOf, hp, h]

theorem findSub_joinDefs {p : Str} (hp : p ≠ []) (ds : List Str)
    (h : ∀ d ∈ ds, ';' ∉ d ∧ ∀ rest, p.isPrefixOf (d ++ ';' :: rest) = false) :
    findSub (';' :: p) (joinDefs ds) = none ∧ p.isPrefixOf (joinDefs ds) = false := by
  induction ds with
  | nil =>
    cases p with
    | nil => exact absurd rfl hp
    | cons _ _ => simp [joinDefs, findSub]
  | cons d r ih =>
    obtain ⟨hsemi, hpre⟩ := h d (by simp)
    have ihr := ih fun x hx => h x (by simp [hx])
    exact ⟨findSub_semi_skip _ _ _ hsemi (findSub_semi_at _ _ ihr.2 ihr.1), hpre _⟩

theorem no_placeholder (ds : List Str) (h : ∀ d ∈ ds, defOk d = true) : findSub ";%(".toList (joinDefs ds) = none :=
  (findSub_joinDefs (p := "%(".toList) (by decide) ds fun d hd => by
    obtain ⟨c, t, rfl, hsemi, _, _, hpre⟩ := defOk_iff.mp (h d hd)
    refine ⟨hsemi, fun rest => ?_⟩
    cases t with
    | nil => simp [List.isPrefixOf]
    | cons c2 t2 => simpa [List.isPrefixOf] using hpre).1

theorem no_double_semi (ds : List Str) (h : ∀ d ∈ ds, defOk d = true) : findSub ";;".toList (joinDefs ds) = none :=
  (findSub_joinDefs (p := ";".toList) (by decide) ds fun d hd => by
    obtain ⟨c, t, rfl, hsemi, _⟩ := defOk_iff.mp (h d hd)
    have hc : c ≠ ';' := fun hc => hsemi (by simp [hc])
    exact ⟨hsemi, fun rest => by simp [List.isPrefixOf, Ne.symm hc]⟩).1

theorem eraseMsbuild_none (n : Nat) (s : Str) (h : findSub ";%(".toList s = none) : eraseMsbuild n s = s := by
  cases n
  · rfl
  · simp only [eraseMsbuild, h]

theorem eraseDoubleSemi_none (n : Nat) (s : Str) (h : findSub ";;".toList s = none) : eraseDoubleSemi n s = s := by
  cases n
  · rfl
  · simp only [eraseDoubleSemi, h]

theorem strip_append (x y : Str) (hy : stripTrailingSemi y ≠ []) :
    stripTrailingSemi (x ++ y) = x ++ stripTrailingSemi y := by
  induction x with
  | nil => rfl
  | cons c t ih => simp [stripTrailingSemi, ih, hy]

theorem strip_noSemi (d : Str) (hd : ';' ∉ d) : stripTrailingSemi d = d := by
  induction d with
  | nil => rfl
  | cons c t ih =>
    have hc : c ≠ ';' := fun hc => hd (by simp [hc])
    have ht : ';' ∉ t := fun ht => hd (by simp [ht])
    simp [stripTrailingSemi, ih ht, hc]

theorem strip_snoc (s : Str) : stripTrailingSemi (s ++ [';']) = stripTrailingSemi s := by
  induction s with
  | nil => simp [stripTrailingSemi]
  | cons c t ih => simp [stripTrailingSemi, ih]

/-- the definition carries its own value / parameter list -/
def hasEq (d : Str) : Bool := d.contains '=' || d.contains '('

theorem addOnes_scan (d rest : Str) (e : Bool) (hd : ';' ∉ d) :
    addOnes (d ++ rest) e false = d ++ addOnes rest (e || hasEq d) false := by
  induction d generalizing e with
  | nil => simp [hasEq]
  | cons c t ih =>
    have hc : c ≠ ';' := fun hc => hd (by simp [hc])
    have ht : ';' ∉ t := fun ht => hd (by simp [ht])
    by_cases h1 : c = '(' ∨ c = '='
    · rcases h1 with rfl | rfl <;> simp [addOnes, ih _ ht, hasEq]
    · have h2 := not_or.1 h1
      simp [addOnes, h1, hc, ih _ ht, hasEq, Ne.symm h2.1, Ne.symm h2.2]

theorem normDef_eq (d : Str) : normDef d = d ++ (if hasEq d then [] else ['=', '1']) := by
  simp only [normDef, hasEq, Bool.or_eq_true]
  split <;> simp

theorem intercalate_concat (ds : List Str) (d : Str) : [';'].intercalate (ds ++ [d]) = joinDefs ds ++ d := by
  induction ds with
  | nil => simp [joinDefs]
  | cons x r ih => rw [List.cons_append, List.intercalate_cons_of_ne_nil (by simp), ih]; simp [joinDefs]

theorem joinDefs_head (ds : List Str) (d : Str) (h : ∀ x ∈ ds ++ [d], defOk x = true) :
    ∃ c tl, joinDefs ds ++ d = c :: tl ∧ c ≠ '=' ∧ c ≠ '(' ∧ c ≠ ';' := by
  cases ds with
  | nil =>
    obtain ⟨c, t, rfl, hs, h1, h2, _⟩ := defOk_iff.mp (h d (by simp))
    exact ⟨c, t, rfl, h1, h2, fun hc => hs (by simp [hc])⟩
  | cons x r =>
    obtain ⟨c, t, rfl, hs, h1, h2, _⟩ := defOk_iff.mp (h x (by simp))
    exact ⟨c, _, rfl, h1, h2, fun hc => hs (by simp [hc])⟩

theorem addOnes_joinDefs (ds : List Str) (d : Str) (h : ∀ x ∈ ds ++ [d], defOk x = true) :
    addOnes (joinDefs ds ++ d) false false = joinDefs (ds.map normDef) ++ normDef d := by
  induction ds with
  | nil =>
    obtain ⟨c, t, hd, hsemi, _⟩ := defOk_iff.mp (h d (by simp))
    have := addOnes_scan d [] false hsemi
    simp only [List.append_nil, Bool.false_or] at this
    simp only [joinDefs, List.map_nil, List.nil_append, this, normDef_eq, addOnes]
  | cons d1 r ih =>
    obtain ⟨_, _, _, hsemi, _⟩ := defOk_iff.mp (h d1 (by simp))
    have hr : ∀ x ∈ r ++ [d], defOk x = true := fun x hx => h x (List.mem_cons_of_mem _ hx)
    -- the rest starts with an ordinary character, so skipping its examination changes nothing
    obtain ⟨c, tl, htl, h1, h2, h3⟩ := joinDefs_head r d hr
    rw [show joinDefs (d1 :: r) ++ d = d1 ++ ';' :: (joinDefs r ++ d) by simp [joinDefs], addOnes_scan _ _ _ hsemi,
      List.map_cons, show joinDefs (normDef d1 :: r.map normDef) ++ normDef d =
        normDef d1 ++ ';' :: (joinDefs (r.map normDef) ++ normDef d) by simp [joinDefs], ← ih hr, normDef_eq]
    cases hasEq d1
    · simp [addOnes, htl, h1, h2, h3]
    · simp [addOnes]

/-- **`fsSetDefines` normal form**: on the string `parseArgs` builds from representable definitions the
    result is the `;`-separated list in which value-less definitions got `=1` -/
theorem fsSetDefines_joinDefs (ds : List Str) (h : ∀ d ∈ ds, defOk d = true) :
    fsSetDefines (joinDefs ds) = normal ds := by
  rcases ds.eq_nil_or_concat with rfl | ⟨r, d, rfl⟩
  · simp [fsSetDefines, joinDefs, eraseMsbuild, eraseDoubleSemi, stripTrailingSemi, normal, List.intercalate]
  · rw [List.concat_eq_append] at h ⊢
    obtain ⟨_, _, hd, hsemi, _⟩ := defOk_iff.mp (h d (by simp))
    obtain ⟨c, tl, htl, _, _, hc⟩ := joinDefs_head r d h
    simp only [fsSetDefines, eraseMsbuild_none _ _ (no_placeholder _ h), eraseDoubleSemi_none _ _ (no_double_semi _ h)]
    -- the only `;` the two strip passes find is the last terminator
    have hdrop : (joinDefs r ++ d ++ [';']).dropWhile (· == ';') = joinDefs r ++ d ++ [';'] := by rw [htl]; simp [hc]
    rw [joinDefs_append, hdrop, strip_snoc, strip_append _ _ (by rw [strip_noSemi d hsemi]; simp [hd]), strip_noSemi d hsemi,
      if_neg (by simp [hd]), addOnes_joinDefs r d h, normal, List.map_append, List.map_singleton, intercalate_concat]

theorem parseArgs_eq_gcc (args : List Str) (h : clean args = true)
    (hd : ∀ d ∈ (gcc args {}).defines, defOk d = true) :
    parseArgs args = (gcc args {}).toFS := by
  have hl := loop_eq_gcc args h {}
  have h0 : ({} : Opts).toRaw = ({} : FS) := rfl
  rw [h0] at hl
  simp only [parseArgs, hl, Opts.toRaw, Opts.toFS, fsSetDefines_joinDefs _ hd]

open Import

theorem fromNative_id (d : Str) (h : d.contains '\\' = false) : fromNative d = d :=
  (List.map_congr_left fun c hc => if_neg fun e => by simp [e ▸ hc] at h).trans (List.map_id d)

theorem fsSetIncludePaths_eq_spec (base : Str) (l : List Str) (h : ∀ d ∈ l, plainInc base d = true)
    (found out : List Str) :
    fsSetIncludePaths base l found out = out ++ incSpec base l found := by
  induction l generalizing found out with
  | nil => simp [fsSetIncludePaths, incSpec]
  | cons d r ih =>
    have hr : ∀ x ∈ r, plainInc base x = true := fun x hx => h x (by simp [hx])
    have hd := h d (by simp)
    simp only [plainInc, Bool.and_eq_true, Bool.not_eq_true', Bool.or_eq_true, Option.isNone_iff_eq_none] at hd
    obtain ⟨⟨⟨hne, hpct⟩, hbs⟩, habs⟩ := hd
    have hnat := fromNative_id d hbs
    unfold fsSetIncludePaths
    simp only [hne, Bool.false_eq_true, if_false, hpct, hnat]
    by_cases hf : found.contains d = true
    · simp only [hf, if_true, incSpec]
      exact ih hr found out
    · simp only [hf, Bool.false_eq_true, if_false, incSpec]
      by_cases ha : incIsAbsolute d = true
      · simp only [ha, if_true, resolveInc]
        rw [ih hr]; simp
      · rcases habs with habs | ⟨hvar, hnz⟩
        · exact absurd habs ha
        · simp only [ha, Bool.false_eq_true, if_false, resolveInc, hvar, Option.isSome_none, hnz]
          rw [ih hr]; simp

theorem sysSpec_abs (base : Str) (ds : List Str) (h : ∀ d ∈ ds, incIsAbsolute d = true) : sysSpec base ds = ds :=
  (List.map_congr_left fun d hd => if_pos (h d hd)).trans (List.map_id ds)

theorem importEntries_step (e : Entry) (f : Str) (args : List Str) (rest : List Entry) (errs : Nat) (acc : List FileSetting)
    (hf : e.file = some f) (ha : entryArgs e.args = some args) (hacc : acceptFile (fromNative f) = true) :
    importEntries (e :: rest) errs acc =
      importEntries rest errs (acc ++ [⟨entryPath e.dir f, (acc.filter fun x => x.path = entryPath e.dir f).length,
        { parseArgs args with includePaths := fsSetIncludePaths (entryDir e.dir) (parseArgs args).includePaths [] [] }⟩]) := by
  rw [importEntries]
  simp only [ha, hf, hacc, Bool.not_true, Bool.false_eq_true, if_false]

theorem importEntries_eq_spec (es : List Entry) (h : ∀ e ∈ es, goodEntry e = true) (errs : Nat) (acc : List FileSetting) :
    importEntries es errs acc = ⟨true, errs, specImport es acc⟩ := by
  induction es generalizing acc with
  | nil => simp [importEntries, specImport]
  | cons e rest ih =>
    have hr : ∀ x ∈ rest, goodEntry x = true := fun x hx => h x (by simp [hx])
    have he := h e (by simp)
    unfold goodEntry at he
    cases hf : e.file with
    | none => simp [hf] at he
    | some f =>
      cases ha : entryArgs e.args with
      | none => simp [hf, ha] at he
      | some args =>
        simp only [hf, ha, Bool.and_eq_true, List.all_eq_true] at he
        obtain ⟨⟨⟨⟨hacc, hclean⟩, hdef⟩, hinc⟩, hsys⟩ := he
        have hp := parseArgs_eq_gcc args hclean hdef
        rw [importEntries_step e f args rest errs acc hf ha hacc, hp]
        have hi : fsSetIncludePaths (entryDir e.dir) (gcc args {}).toFS.includePaths [] [] =
            incSpec (entryDir e.dir) (gcc args {}).includes [] := by
          have := fsSetIncludePaths_eq_spec (entryDir e.dir) (gcc args {}).includes hinc [] []
          simpa [Opts.toFS] using this
        rw [hi, ih hr]
        simp only [specImport, hf, ha, specSettings, sysSpec_abs _ _ hsys]
        rfl

end Cppcheck.GccArgs
