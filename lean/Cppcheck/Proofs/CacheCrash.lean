import Cppcheck.Model.CacheCrash
import Cppcheck.Proofs.XmlWf
/-
C20 / CacheCrash: the invariant of the cache files of a build directory (`DirOK`: each is `EntryOK`) that kills and complete
runs preserve; a complete run on a directory that satisfies it reports what a run without a build directory reports.
-/
namespace Cppcheck.CacheCrash
open Cppcheck.Wire Cppcheck.XmlWf

/-- every item the analysis can write is balanced XML and every cache key is a decimal string -/
def WellFormedWorld (w : World) : Prop :=
  ∀ g s, hashOk (w.hashOf g) = true ∧ ∀ it ∈ (w.analyze g s).items, balancedItem (w.hashOf g) it.bytes = true

def EntryWF (e : CacheEntry) : Prop :=
  hashOk e.hash = true ∧ ∀ it ∈ e.items, balancedItem e.hash it.bytes = true

/-- bridge to the byte level: a (prefix of a) cache document loads with root `analyzerinfo` iff at most its final newline
is missing, and then the `hash` attribute is the one that was written -/
theorem rootOk_eq (e : CacheEntry) (hwf : EntryWF e) :
    e.rootOk = if e.doc.length ≤ e.cut + 1 then some [(hashName, e.hash)] else none := by
  have hbal : ∀ it ∈ e.items.map (fun it => it.bytes), balancedItem e.hash it = true := List.forall_mem_map.mpr hwf.2
  unfold CacheEntry.rootOk CacheEntry.bytes CacheEntry.doc
  by_cases hlen : (document e.hash (e.items.map fun it => it.bytes)).length ≤ e.cut + 1
  · rw [if_pos hlen, full_loaded e.hash _ hwf.1 hbal e.cut hlen]; rfl
  · rw [if_neg hlen]
    rcases prefix_not_loaded e.hash _ hwf.1 hbal e.cut (by omega) with h | h <;> rw [h]

theorem usable_eq (e : CacheEntry) (hwf : EntryWF e) (h : Str) :
    e.usable h = (decide (e.doc.length ≤ e.cut + 1) && (e.hash == h) && !e.items.any Item.retry) := by
  unfold CacheEntry.usable
  rw [rootOk_eq e hwf]
  by_cases hlen : e.doc.length ≤ e.cut + 1 <;> simp [hlen, attr]

theorem complete_rootOk (w : World) (hw : WellFormedWorld w) (g : Nat) (s : List Nat) :
    (CacheEntry.complete (w.hashOf g) (w.analyze g s).items).rootOk = some [(hashName, w.hashOf g)] := by
  rw [rootOk_eq (CacheEntry.complete (w.hashOf g) (w.analyze g s).items) (hw g s)]
  simp [CacheEntry.complete, CacheEntry.doc]

/-- what the proof needs of the cache file `e` of source file `f` (relative to the current inputs) -/
structure EntryOK (w : World) (files : List Nat) (f : Nat) (e : CacheEntry) : Prop where
  wf : EntryWF e
  /-- a cache file whose key matches the current hash of `f` records an analysis of `f` -/
  sound : e.hash = w.hashOf f → ∃ s, e.items = (w.analyze f s).items
  /-- files that return before `analyzeFile` have no cache file -/
  notEarly : f ∈ files → w.early f = none

def DirOK (w : World) (files : List Nat) (c : Nat → Option CacheEntry) : Prop :=
  ∀ f e, c f = some e → EntryOK w files f e

/-- the invariant reads the key and the items of the cache files only -/
theorem DirOK.of_cache {w : World} (hw : WellFormedWorld w) {files : List Nat} {c c' : Nat → Option CacheEntry}
    (ok : DirOK w files c)
    (h : ∀ f e', c' f = some e' →
      (∃ e, c f = some e ∧ e'.hash = e.hash ∧ e'.items = e.items) ∨
      (w.early f = none ∧ ∃ s, e'.hash = w.hashOf f ∧ e'.items = (w.analyze f s).items)) :
    DirOK w files c' := by
  intro f e' hc
  rcases h f e' hc with ⟨e, he, hh, hi⟩ | ⟨hn, s, hh, hi⟩
  · obtain ⟨h1, h2, h3⟩ := ok f e he
    unfold EntryWF at h1
    exact ⟨by unfold EntryWF; rwa [hh, hi], by rwa [hh, hi], h3⟩
  · exact ⟨by unfold EntryWF; rw [hh, hi]; exact hw f s, fun _ => ⟨s, hi⟩, fun _ => hn⟩

/-- the analysis of the current inputs does not depend on `summaryReturn` -/
def SummInsensitive (w : World) (files : List Nat) : Prop :=
  ∀ f ∈ files, ∀ s, (w.analyze f s).items = (w.analyze f (w.loadReturn [])).items

def expectedItems (w : World) (f : Nat) : List Item := (w.analyze f (w.loadReturn [])).items

def expectedFindings (w : World) (f : Nat) : List Finding :=
  match w.early f with
  | some fs => fs
  | none => (expectedItems w f).filterMap Item.finding?

def expectedInfos (w : World) (f : Nat) : List Nat :=
  match w.early f with
  | some _ => []
  | none => (expectedItems w f).filterMap Item.info?

/-- after `f` has been processed: no cache file (early return) or a loadable one holding the expected items -/
def Good (w : World) (c : Nat → Option CacheEntry) (f : Nat) : Prop :=
  (w.early f ≠ none → c f = none) ∧
  (w.early f = none → ∃ e, c f = some e ∧ e.rootOk.isSome = true ∧ e.items = expectedItems w f)

def analysed (w : World) (summ : List Nat) (a : Acc) (f : Nat) : Acc :=
  { findings := a.findings ++ (w.analyze f summ).items.filterMap Item.finding?
    dir := { a.dir with
      cache := fun g => if g = f then some (CacheEntry.complete (w.hashOf f) (w.analyze f summ).items) else a.dir.cache g
      summ := fun g => if g = f then some (w.analyze f summ).summary else a.dir.summ g }
    active := a.active ++ (w.analyze f summ).active }

/-- `fileStep` is the action `fileAction` names -/
theorem fileStep_action (w : World) (summ : List Nat) (a : Acc) (f : Nat) :
    (fileAction w a.dir f = .early ∧ ∃ fs, w.early f = some fs ∧ fileStep w summ a f = { a with findings := a.findings ++ fs }) ∨
    (fileAction w a.dir f = .replay ∧ ∃ e, a.dir.cache f = some e ∧ e.usable (w.hashOf f) = true ∧
      fileStep w summ a f = { a with findings := a.findings ++ e.items.filterMap Item.finding? }) ∨
    (fileAction w a.dir f = .analyse ∧ fileStep w summ a f = analysed w summ a f) := by
  unfold fileStep fileAction
  cases he : w.early f with
  | some fs => exact Or.inl ⟨rfl, fs, rfl, rfl⟩
  | none =>
    right
    cases hc : a.dir.cache f with
    | none => exact Or.inr ⟨rfl, rfl⟩
    | some e =>
      cases hu : e.usable (w.hashOf f) with
      | true => exact Or.inl ⟨by simp [hu], e, rfl, hu, by simp [hu]⟩
      | false => exact Or.inr ⟨by simp [hu], by simp [hu]; rfl⟩

theorem early_of_action {w : World} {d : Dir} {f : Nat} (h : fileAction w d f ≠ .early) : w.early f = none := by
  unfold fileAction at h
  cases he : w.early f with
  | none => rfl
  | some fs => rw [he] at h; exact absurd rfl h

theorem analysed_ok (w : World) (hw : WellFormedWorld w) (files : List Nat) (summ : List Nat) (a : Acc) (f : Nat)
    (he : w.early f = none) (ok : DirOK w files a.dir.cache) : DirOK w files (analysed w summ a f).dir.cache := by
  refine ok.of_cache hw fun g e' hg => ?_
  simp only [analysed] at hg
  split at hg
  · next hgf => cases hg; exact Or.inr ⟨hgf ▸ he, summ, hgf ▸ rfl, hgf ▸ rfl⟩
  · exact Or.inl ⟨e', hg, rfl, rfl⟩

theorem analysed_good (w : World) (hw : WellFormedWorld w) (files : List Nat) (hs : SummInsensitive w files)
    (summ : List Nat) (a : Acc) (f : Nat) (hf : f ∈ files) (he : w.early f = none) :
    Good w (analysed w summ a f).dir.cache f := by
  refine ⟨fun h => absurd he h, fun _ => ⟨CacheEntry.complete (w.hashOf f) (w.analyze f summ).items, ?_, ?_, ?_⟩⟩
  · simp [analysed]
  · rw [complete_rootOk w hw f summ]; rfl
  · simp only [CacheEntry.complete, expectedItems]; exact hs f hf summ

theorem fileStep_spec (w : World) (hw : WellFormedWorld w) (files : List Nat) (hs : SummInsensitive w files)
    (summ : List Nat) (a : Acc) (f : Nat) (hf : f ∈ files) (ok : DirOK w files a.dir.cache) :
    (fileStep w summ a f).findings = a.findings ++ expectedFindings w f ∧
    DirOK w files (fileStep w summ a f).dir.cache ∧
    Good w (fileStep w summ a f).dir.cache f ∧
    (∀ g, Good w a.dir.cache g → Good w (fileStep w summ a f).dir.cache g) := by
  rcases fileStep_action w summ a f with ⟨_, fs, he, hst⟩ | ⟨hact, e, hc, hu, hst⟩ | ⟨hact, hst⟩
  · rw [hst]
    refine ⟨?_, ok, ⟨fun _ => ?_, fun h => ?_⟩, fun g hg => hg⟩
    · simp [expectedFindings, he]
    · exact Option.eq_none_iff_forall_ne_some.mpr fun e hc => by simpa [he] using (ok f e hc).notEarly hf
    · simp [he] at h
  · rw [hst]
    have he := early_of_action (by rw [hact]; nofun)
    have hwf := (ok f e hc).wf
    rw [usable_eq e hwf] at hu
    simp only [Bool.and_eq_true, decide_eq_true_eq, beq_iff_eq] at hu
    obtain ⟨s, hitems⟩ := (ok f e hc).sound hu.1.2
    have hexp : e.items = expectedItems w f := by rw [hitems]; exact hs f hf s
    refine ⟨?_, ok, ⟨fun h => absurd he h, fun _ => ⟨e, hc, ?_, hexp⟩⟩, fun g hg => hg⟩
    · simp [expectedFindings, he, hexp]
    · rw [rootOk_eq e hwf]; simp [hu.1.1]
  · rw [hst]
    have he := early_of_action (by rw [hact]; nofun)
    refine ⟨?_, analysed_ok w hw files summ a f he ok, analysed_good w hw files hs summ a f hf he, ?_⟩
    · simp only [analysed, expectedFindings, he, expectedItems, hs f hf summ]
    · intro g hg
      by_cases hgf : g = f
      · rw [hgf]; exact analysed_good w hw files hs summ a f hf he
      · unfold Good analysed; simp only [hgf, if_false]; exact hg

theorem foldl_spec (w : World) (hw : WellFormedWorld w) (files : List Nat) (hs : SummInsensitive w files)
    (summ : List Nat) : ∀ (l : List Nat) (a : Acc), (∀ f ∈ l, f ∈ files) → DirOK w files a.dir.cache →
    (l.foldl (fileStep w summ) a).findings = a.findings ++ l.flatMap (expectedFindings w) ∧
    DirOK w files (l.foldl (fileStep w summ) a).dir.cache ∧
    (∀ g, (g ∈ l ∨ Good w a.dir.cache g) → Good w (l.foldl (fileStep w summ) a).dir.cache g) := by
  intro l
  induction l with
  | nil => intro a _ ok; exact ⟨by simp, ok, fun g hg => hg.resolve_left (by simp)⟩
  | cons f r ih =>
    intro a hl ok
    obtain ⟨h1, h2, h3, h4⟩ := fileStep_spec w hw files hs summ a f (hl f (by simp)) ok
    obtain ⟨i1, i2, i3⟩ := ih (fileStep w summ a f) (fun g hg => hl g (by simp [hg])) h2
    simp only [List.foldl_cons]
    refine ⟨by rw [i1, h1]; simp, i2, fun g hg => ?_⟩
    apply i3
    rcases hg with hg | hg
    · rcases List.mem_cons.mp hg with rfl | hg
      · exact Or.inr h3
      · exact Or.inl hg
    · exact Or.inr (h4 g hg)

theorem collectInfos_good (w : World) (d : Dir) : ∀ (l : List Nat), (∀ f ∈ l, Good w d.cache f) →
    collectInfos d l = some (l.flatMap (expectedInfos w))
  | [], _ => rfl
  | f :: r, h => by
    have ih := collectInfos_good w d r (fun g hg => h g (by simp [hg]))
    have hg := h f (by simp)
    unfold collectInfos
    cases he : w.early f with
    | some fs =>
      have := hg.1 (by simp [he])
      simp [this, ih, expectedInfos, he]
    | none =>
      obtain ⟨e, hc, hr, hi⟩ := hg.2 he
      simp only [hc]
      cases hro : e.rootOk with
      | none => rw [hro] at hr; cases hr
      | some as => simp [ih, expectedInfos, he, hi]

theorem noBuildDirRun_eq (w : World) (o : Opts) (files : List Nat) (ho : o.reportCheckers = false) :
    noBuildDirRun w o files = files.flatMap (expectedFindings w) ++ w.wp (files.flatMap (expectedInfos w)) := by
  simp only [noBuildDirRun, ho, Bool.false_eq_true, if_false, List.append_nil]
  rfl

theorem completeRun_findings (w : World) (o : Opts) (files : List Nat) (d : Dir) (hw : WellFormedWorld w)
    (hs : SummInsensitive w files) (ho : o.reportCheckers = false) (ok : DirOK w files d.cache) :
    (completeRun w o files d).1 = noBuildDirRun w o files ∧ DirOK w files (completeRun w o files d).2.cache := by
  obtain ⟨h1, h2, h3⟩ := foldl_spec w hw files hs (summaryOf w d) files ⟨[], { d with filesTxt := files }, []⟩
    (fun f hf => hf) ok
  have hci := collectInfos_good w _ files (fun f hf => h3 f (Or.inl hf))
  refine ⟨?_, h2⟩
  simp only [noBuildDirRun_eq w o files ho, completeRun, ho, Bool.false_eq_true, if_false, List.append_nil, wholeProgram, hci, h1,
    List.nil_append]

theorem dirOK_empty (w : World) (files : List Nat) : DirOK w files Dir.empty.cache := nofun

theorem min_cut_wf (e : CacheEntry) (n : Nat) (h : EntryWF e) : EntryWF { e with cut := min n e.cut } := h

theorem dirOK_crash (w : World) (hw : WellFormedWorld w) (files : List Nat) (d : Dir) (c : Crash) (ok : DirOK w files d.cache) :
    DirOK w files (crashDir w files d c).cache := by
  refine ok.of_cache hw fun f e' h => ?_
  simp only [crashDir] at h
  split at h
  · next hf =>
    split at h
    · exact Or.inl ⟨e', h, rfl, rfl⟩
    · cases h; exact Or.inr ⟨hf.2, _, rfl, rfl⟩
    · obtain ⟨e, he, rfl⟩ := Option.map_eq_some_iff.mp h
      exact Or.inl ⟨e, he, rfl, rfl⟩
  · exact Or.inl ⟨e', h, rfl, rfl⟩

/-- build directories that any history of interrupted and complete runs on these inputs can leave -/
inductive Reachable (w : World) (o : Opts) (files : List Nat) : Dir → Prop where
  | empty : Reachable w o files Dir.empty
  | crash (d : Dir) (c : Crash) : Reachable w o files d → Reachable w o files (crashDir w files d c)
  | complete (d : Dir) : Reachable w o files d → Reachable w o files (completeRun w o files d).2

theorem dirOK_reachable (w : World) (o : Opts) (files : List Nat) (hw : WellFormedWorld w)
    (hs : SummInsensitive w files) (ho : o.reportCheckers = false) (d : Dir) (h : Reachable w o files d) :
    DirOK w files d.cache := by
  induction h with
  | empty => exact dirOK_empty w files
  | crash d c _ ih => exact dirOK_crash w hw files d c ih
  | complete d _ ih => exact (completeRun_findings w o files d hw hs ho ih).2

end Cppcheck.CacheCrash
