import Cppcheck.Model.PPCond
import Cppcheck.Proofs.TextLemmas
import Cppcheck.Proofs.Decimal
/-
The `#if` evaluator on fully parenthesised trees (C11).  `constFold` works on spellings, so everything rests on the canonical
spelling `toStr v`: it reads back as `v`, and no pass takes it for an operator.  On a group without parentheses each pass is
computed (`Group g v`: the passes fold `g` to `toStr v`); `Red l r`: the parenthesis loop, which takes the last `(` first,
rewrites `l` to `r` wherever no `(` follows.  Up to there the code alone; the specification comes in with `applyBin_eq_spec` /
`unTokRes_eq` and strict evaluation, and `main_aux` joins the two along a printed tree.
-/
namespace Cppcheck.PPCond

theorem toDigits_all_digit (n : Nat) : ∀ c ∈ Nat.toDigits 10 n, c.isDigit = true :=
  fun _ hc => Nat.isDigit_of_mem_toDigits (by decide) (by decide) hc

theorem toDigits_head_digit (n : Nat) : ∃ c r, Nat.toDigits 10 n = c :: r ∧ c.isDigit = true := by
  cases h : Nat.toDigits 10 n with
  | nil => exact absurd h Nat.toDigits_ne_nil
  | cons c r => exact ⟨c, r, rfl, toDigits_all_digit n c (by simp [h])⟩

theorem isDigit_not_alpha {c : Char} (h : c.isDigit = true) : c.isAlpha = false := by
  simp only [Char.isDigit, Bool.and_eq_true, decide_eq_true_eq] at h
  have h2 : c.toNat ≤ 57 := h.2
  simp only [Char.isAlpha, Char.isUpper, Char.isLower, Bool.or_eq_false_iff, Bool.and_eq_false_iff, decide_eq_false_iff_not]
  constructor
  · rintro ⟨ha, _⟩
    have : c.toNat ≥ 65 := ha
    omega
  · left
    intro ha
    have : c.toNat ≥ 97 := ha
    omega

theorem isName_of_head_digit {c : Char} (r : List Char) (hc : c.isDigit = true) : isName (c :: r) = false := by
  simp [isName, isDigit_not_alpha hc, Text.ne_of_pred hc (b := '_'), Text.ne_of_pred hc (b := '$')]

theorem digitVal_of_isDigit {c : Char} (h : c.isDigit = true) : digitVal 10 c = some (c.toNat - 48) := by
  have h2 : c.toNat ≤ 57 := by
    simp only [Char.isDigit, Bool.and_eq_true, decide_eq_true_eq] at h
    exact h.2
  have : c.toNat - 48 < 10 := by omega
  simp [digitVal, h, this]

theorem readNatAux_digits : ∀ (l : List Char) (acc : Nat), (∀ c ∈ l, c.isDigit = true) →
    readNatAux 10 l acc = Nat.ofDigitChars 10 l acc := by
  intro l
  induction l with
  | nil => intro acc _; simp [readNatAux, Nat.ofDigitChars]
  | cons c r ih =>
    intro acc h
    simp only [readNatAux, digitVal_of_isDigit (h c (by simp))]
    rw [ih _ (fun x hx => h x (by simp [hx]))]
    simp [Nat.ofDigitChars]

theorem readNat_toDigits (n : Nat) : readNat 10 (Nat.toDigits 10 n) = some n := by
  obtain ⟨c, r, h, hc⟩ := toDigits_head_digit n
  unfold readNat
  rw [h]
  simp only [digitVal_of_isDigit hc]
  rw [← h, readNatAux_digits _ _ (toDigits_all_digit n)]
  simp [Nat.ofDigitChars_toDigits]

@[elab_as_elim] theorem toStr_cases {P : Tok → Prop} (v : Int) (dig : ∀ c r, c.isDigit = true → P (c :: r))
    (neg : ∀ d r, d.isDigit = true → P ('-' :: d :: r)) : P (toStr v) := by
  unfold toStr
  split
  · obtain ⟨d, r, h, hd⟩ := toDigits_head_digit v.natAbs
    rw [h]; exact neg d r hd
  · obtain ⟨c, r, h, hc⟩ := toDigits_head_digit v.toNat
    rw [h]; exact dig c r hc

@[simp] theorem isNumber_toStr (v : Int) : isNumber (toStr v) = true :=
  toStr_cases v (fun c r hc => by simp [isNumber, hc]) (fun d r hd => by simp [isNumber, hd])

@[simp] theorem isName_toStr (v : Int) : isName (toStr v) = false :=
  toStr_cases v (fun _ r hc => isName_of_head_digit r hc) (fun _ _ _ => by simp [isName])

@[simp] theorem opOf_toStr (v : Int) : opOf (toStr v) = '\x00' := by
  unfold opOf
  split
  · simp
  · rfl

@[simp] theorem isRpar_toStr (v : Int) : isRpar (toStr v) = false := by simp [isRpar]

theorem toStr_beq (v : Int) (c : Char) {r : List Char} (h1 : c.isDigit = false := by decide) (h2 : c ≠ '-' := by decide) :
    (toStr v == c :: r) = false :=
  toStr_cases v (fun _ _ hc => by simp [Text.ne_of_pred hc h1]) (fun _ _ _ => by simp [Ne.symm h2])

@[simp] theorem toStr_ne_q (v : Int) : (toStr v != ['?']) = true := by simp [bne, toStr_beq v '?']

theorem sels_toStr : ∀ s ∈ sels, ∀ v : Int, s (toStr v) = none := by
  intro s hs v
  simp only [sels, List.mem_cons, List.mem_nil_iff, or_false] at hs
  rcases hs with rfl | rfl | rfl | rfl | rfl | rfl | rfl | rfl
  · simp [selMul]
  · simp [selAdd]
  · simp only [selShift, toStr_beq v '<', toStr_beq v '>']; rfl
  · simp only [selCmp, toStr_beq v '=', toStr_beq v '!', toStr_beq v '<', toStr_beq v '>']; rfl
  · simp [selChar]
  · simp [selChar]
  · simp [selChar]
  · simp only [selLogic, toStr_beq v '&', toStr_beq v '|']; rfl

theorem toStr_head_zero {v : Int} {r : List Char} (h : toStr v = '0' :: r) : v = 0 := by
  unfold toStr at h
  split at h
  · injection h with h _; exact absurd h (by decide)
  · have := Decimal.toDigits_zero_head h
    omega

theorem toStr_eq_zero (v : Int) : (toStr v == ['0']) = (v == 0) := by
  by_cases hv : v = 0
  · subst hv; decide
  · rw [beq_eq_false_iff_ne.mpr fun h => hv (toStr_head_zero h), beq_eq_false_iff_ne.mpr hv]

theorem neg_toStr {a : Int} (h : 0 < a) : '-' :: toStr a = toStr (-a) := by
  unfold toStr
  have h1 : ¬ a < 0 := by omega
  have h2 : -a < 0 := by omega
  simp only [h1, h2, if_true, if_false]
  congr 2
  omega

theorem toStr_take2 (v : Int) (x : Char) : ((toStr v).take 2 == ['0', x]) = false := by
  match h : toStr v with
  | [] => rfl
  | [c] => simp
  | c :: d :: r =>
    -- no leading zero: `0` is spelled with one digit
    have hc : c ≠ '0' := by
      rintro rfl
      cases toStr_head_zero h
      cases h
    simp [hc]

theorem isHex_toStr (v : Int) : isHex (toStr v) = false := by
  simp [isHex, toStr_take2 v 'x', toStr_take2 v 'X']

theorem isOct_toStr (v : Int) : isOct (toStr v) = false := by
  unfold isOct
  split
  · rename_i c r h
    cases toStr_head_zero h
    cases h
  · rfl

/-- representable in `long long` -/
def InR (v : Int) : Prop := llMin ≤ v ∧ v ≤ llMax

theorem clampLL_id {v : Int} (h1 : llMin ≤ v) (h2 : v ≤ llMax) : clampLL v = v := by
  unfold clampLL
  rw [if_neg (by omega), if_neg (by omega)]

theorem signSplit_digit {c : Char} {r : List Char} (h : c.isDigit = true) : signSplit (c :: r) = (false, c :: r) := by
  unfold signSplit
  split
  · rename_i heq; injection heq with hc _; exact absurd hc (Text.ne_of_pred h)
  · rename_i heq; injection heq with hc _; exact absurd hc (Text.ne_of_pred h)
  · rfl

theorem stringToLL_toStr {v : Int} (h : InR v) : stringToLL (toStr v) = v := by
  obtain ⟨h1, h2⟩ := h
  unfold stringToLL
  rw [isHex_toStr, isOct_toStr]
  simp only [Bool.false_eq_true, if_false]
  by_cases hneg : v < 0
  · have e : toStr v = '-' :: Nat.toDigits 10 v.natAbs := by simp [toStr, hneg]
    rw [e]
    simp only [extractLL, signSplit, readNat_toDigits, if_true]
    have : - ((v.natAbs : Nat) : Int) = v := by omega
    rw [this]
    exact clampLL_id h1 h2
  · have e : toStr v = Nat.toDigits 10 v.toNat := by simp [toStr, hneg]
    rw [e]
    obtain ⟨c, r, hc, hd⟩ := toDigits_head_digit v.toNat
    have e2 : signSplit (Nat.toDigits 10 v.toNat) = (false, Nat.toDigits 10 v.toNat) := by rw [hc]; exact signSplit_digit hd
    simp only [extractLL, e2, readNat_toDigits, Bool.false_eq_true, if_false]
    have : ((v.toNat : Nat) : Int) = v := by omega
    rw [this]
    exact clampLL_id h1 h2

/-! ## operator tokens and the end of a group -/

/-- the rest of the list after a group -/
def Stop (tl : List Tok) : Prop := tl = [] ∨ ∃ p, tl = [')'] :: p

/-- a token that separates two operands of a group (binary operator, `?`, `:`) -/
def IsOpTok (t : Tok) : Prop :=
  isNumber t = false ∧ isName t = false ∧ isRpar t = false ∧ opOf t ≠ '!' ∧ opOf t ≠ '~'

theorem isOpTok_binTok (o : BinOp) : IsOpTok (binTok o) := by unfold IsOpTok; cases o <;> decide +kernel
theorem isOpTok_q : IsOpTok ['?'] := by unfold IsOpTok; decide
theorem isOpTok_colon : IsOpTok [':'] := by unfold IsOpTok; decide

theorem unaryPass_stop (rev : List Tok) {tl : List Tok} (h : Stop tl) : unaryPass rev tl = rev.reverse ++ tl := by
  rcases h with h | ⟨p, h⟩
  · subst h; simp [unaryPass]
  · subst h
    have hr : isRpar [')'] = true := by decide
    cases p with
    | nil => simp [unaryPass, hr]
    | cons n r => rw [unaryPass]; simp [hr]

theorem unaryPass_num (rev : List Tok) (v : Int) (tl : List Tok) :
    unaryPass rev (toStr v :: tl) = unaryPass (toStr v :: rev) tl := by
  cases tl with
  | nil => simp [unaryPass]
  | cons n r =>
    rw [unaryPass]
    simp

/-- the token a unary operator and its (canonical) operand are folded to -/
def unTokRes (o : UnOp) (v : Int) : Tok :=
  match o with
  | .not => if v == 0 then ['1'] else ['0']
  | .compl => toStr ((~~~ (bv v)).toInt)
  | .pos => toStr v
  | .neg => '-' :: toStr v

theorem unaryPass_un (rev : List Tok) (o : UnOp) (v : Int) (tl : List Tok) (hp : prevIsNumOrName rev = false) (hv : InR v) :
    unaryPass rev (unTok o :: toStr v :: tl) = unaryPass (unTokRes o v :: rev) tl := by
  have hr : isRpar (unTok o) = false := by cases o <;> rfl
  rw [unaryPass]
  cases o with
  | not =>
    have h3 : opOf (unTok .not) = '!' := rfl
    simp [hr, h3, unTokRes, toStr_eq_zero]
  | compl =>
    have h3 : opOf (unTok .compl) = '~' := rfl
    simp [hr, h3, unTokRes, stringToLL_toStr hv]
  | pos =>
    have h3 : opOf (unTok .pos) = '+' := rfl
    simp [hr, h3, unTokRes, hp]
  | neg =>
    have h3 : opOf (unTok .neg) = '-' := rfl
    simp [hr, h3, unTokRes, hp]

theorem unaryPass_op (rev : List Tok) {t : Tok} (ht : IsOpTok t) (tl : List Tok) (hp : prevIsNumOrName rev = true) :
    unaryPass rev (t :: tl) = unaryPass (t :: rev) tl := by
  obtain ⟨h1, h2, h3, h4, h5⟩ := ht
  cases tl with
  | nil => simp [unaryPass, h3]
  | cons n r =>
    rw [unaryPass]
    simp [h3, h4, h5, hp]

theorem binPass_stop (sel : Tok → Option BinOp) (rev : List Tok) {tl : List Tok} (h : Stop tl) :
    binPass sel rev tl = .ok (rev.reverse ++ tl) := by
  have hr : isRpar [')'] = true := by decide
  rcases h with h | ⟨p, h⟩
  · subst h; simp [binPass]
  · subst h
    cases p with
    | nil => simp [binPass]
    | cons n r => rw [binPass]; simp [hr]

theorem binPass_skip (sel : Tok → Option BinOp) (rev : List Tok) {t : Tok} (hs : sel t = none) (hr : isRpar t = false) :
    ∀ rest, binPass sel rev (t :: rest) = binPass sel (t :: rev) rest
  | [] => by simp [binPass]
  | n :: r => by rw [binPass]; simp only [hr, Bool.false_eq_true, if_false, hs]

theorem binPass_noop (sel : Tok → Option BinOp) : ∀ (l rev tl : List Tok), Stop tl →
    (∀ t ∈ l, sel t = none ∧ isRpar t = false) → binPass sel rev (l ++ tl) = .ok (rev.reverse ++ l ++ tl) := by
  intro l
  induction l with
  | nil => intro rev tl h _; simpa using binPass_stop sel rev h
  | cons t l' ih =>
    intro rev tl h hl
    have ht := hl t (by simp)
    rw [List.cons_append, binPass_skip sel rev ht.1 ht.2, ih (t :: rev) tl h (fun x hx => hl x (by simp [hx]))]
    simp

theorem binPass_fold (sel : Tok → Option BinOp) {t : Tok} {o : BinOp} (ht : sel t = some o) (hr : isRpar t = false)
    (hs : ∀ v, sel (toStr v) = none) {a b r : Int} (ha : InR a) (hb : InR b) (hv : applyBin o a b = .ok r) {tl : List Tok}
    (h : Stop tl) : binPass sel [] (toStr a :: t :: toStr b :: tl) = .ok (toStr r :: tl) := by
  rw [binPass_skip sel [] (hs a) (isRpar_toStr a), binPass]
  simp only [hr, Bool.false_eq_true, if_false, ht, isNumber_toStr, Bool.and_self, if_true,
    stringToLL_toStr ha, stringToLL_toStr hb, hv]
  simpa using binPass_stop sel [toStr r] h

theorem sels_binTok (o : BinOp) : sels.filterMap (fun s => s (binTok o)) = [o] := by
  cases o <;> decide +kernel

theorem binPasses_noop : ∀ (ss : List (Tok → Option BinOp)) (l tl : List Tok), Stop tl →
    (∀ s ∈ ss, ∀ t ∈ l, s t = none ∧ isRpar t = false) → binPasses ss (l ++ tl) = .ok (l ++ tl) := by
  intro ss
  induction ss with
  | nil => intro l tl _ _; rfl
  | cons s r ih =>
    intro l tl h hl
    have := binPass_noop s l [] tl h (fun t ht => hl s (by simp) t ht)
    simp only [binPasses, this, List.reverse_nil, List.nil_append]
    exact ih l tl h (fun s' hs' => hl s' (by simp [hs']))

theorem binPasses_single (ss : List (Tok → Option BinOp)) (hss : ∀ s ∈ ss, ∀ v, s (toStr v) = none) (w : Int)
    {tl : List Tok} (h : Stop tl) : binPasses ss (toStr w :: tl) = .ok (toStr w :: tl) :=
  binPasses_noop ss [toStr w] tl h (fun s hs t ht => by simp at ht; subst ht; exact ⟨hss s hs w, isRpar_toStr w⟩)

/-- the passes before the one that recognises `o` change nothing, that one folds, the later ones see a single number -/
theorem binPasses_bin (o : BinOp) {a b r : Int} (ha : InR a) (hb : InR b) (hv : applyBin o a b = .ok r) {tl : List Tok} (h : Stop tl) :
    ∀ (ss : List (Tok → Option BinOp)), (∀ s ∈ ss, ∀ v, s (toStr v) = none) → ss.filterMap (fun s => s (binTok o)) = [o] →
      binPasses ss (toStr a :: binTok o :: toStr b :: tl) = .ok (toStr r :: tl) := by
  have hop := isOpTok_binTok o
  intro ss
  induction ss with
  | nil => intro _ h2; cases h2
  | cons s ss ih =>
    intro h1 h2
    cases hs : s (binTok o) with
    | none =>
      simp only [List.filterMap_cons, hs] at h2
      have := binPass_noop s [toStr a, binTok o, toStr b] [] tl h (by simp [h1 s (by simp), hs, hop.2.2.1])
      simp only [List.cons_append, List.nil_append, List.reverse_nil] at this
      simp only [binPasses, this]
      exact ih (fun s' hs' => h1 s' (by simp [hs'])) h2
    | some o' =>
      simp only [List.filterMap_cons, hs] at h2
      injection h2 with ho _
      subst ho
      simp only [binPasses, binPass_fold s hs hop.2.2.1 (h1 s (by simp)) ha hb hv h]
      exact binPasses_single _ (fun s' hs' => h1 s' (by simp [hs'])) r h

theorem questionScan_skip (hp : Bool) (rev : List Tok) {t : Tok} (hq : (t != ['?']) = true) (hr : isRpar t = false) :
    ∀ rest, questionScan hp rev (t :: rest) = questionScan hp (t :: rev) rest
  | [] => by simp [questionScan, hq, hr]
  | [a] => by rw [questionScan.eq_def]; simp only [hr, Bool.false_eq_true, if_false, hq, if_true]
  | a :: b :: r => by rw [questionScan.eq_def]; simp only [hr, Bool.false_eq_true, if_false, hq, if_true]

theorem questionScan_stop (hp : Bool) (rev : List Tok) {tl : List Tok} (h : Stop tl) : questionScan hp rev tl = .ok none := by
  have hr : isRpar [')'] = true := by decide
  rcases h with h | ⟨p, h⟩
  · subst h; simp [questionScan]
  · subst h
    match p with
    | [] => simp [questionScan, hr]
    | [a] => simp [questionScan, hr]
    | a :: b :: r => simp [questionScan, hr]

theorem questionScan_fold (hp : Bool) (c t f : Int) (tl : List Tok) :
    questionScan hp [] (toStr c :: ['?'] :: toStr t :: [':'] :: toStr f :: tl) =
      .ok (some (toStr (if c ≠ 0 then t else f) :: tl)) := by
  rw [questionScan_skip hp [] (toStr_ne_q c) (isRpar_toStr c), questionScan]
  have h1 : isRpar ['?'] = false := by decide
  have h2 : (['?'] != ['?']) = false := by decide
  have h3 : (opOf [':'] != ':') = false := by decide
  simp only [h1, h2, h3, Bool.false_eq_true, if_false, List.isEmpty_cons, Bool.false_and, isNumber_toStr, Bool.not_true,
    List.reverse_nil, List.nil_append]
  have : (toStr c != ['0']) = (c != 0) := by
    have := toStr_eq_zero c
    simp only [bne, this]
  by_cases hc : c = 0
  · subst hc; simp [this]
  · simp [this, hc]

theorem questionPass_single (hp : Bool) (n : Nat) (w : Int) {tl : List Tok} (h : Stop tl) :
    questionPass hp n (toStr w :: tl) = .ok (toStr w :: tl) := by
  have : questionScan hp [] (toStr w :: tl) = .ok none := by
    rw [questionScan_skip hp [] (toStr_ne_q w) (isRpar_toStr w), questionScan_stop hp _ h]
  cases n with
  | zero => rfl
  | succ k => simp [questionPass, this]

theorem questionPass_fold (hp : Bool) {n : Nat} (hn : 1 ≤ n) (c t f : Int) {tl : List Tok} (h : Stop tl) :
    questionPass hp n (toStr c :: ['?'] :: toStr t :: [':'] :: toStr f :: tl) =
      .ok (toStr (if c ≠ 0 then t else f) :: tl) := by
  obtain ⟨m, rfl⟩ := Nat.exists_eq_add_of_le' hn
  rw [questionPass, questionScan_fold]
  exact questionPass_single hp m _ h

/-! ## a group without parentheses: operands `[unop] number` separated by operator tokens -/

/-- no `(` among the tokens -/
def NoL (l : List Tok) : Prop := ∀ t ∈ l, (opOf t == '(') = false

@[simp] theorem NoL_nil : NoL [] := List.forall_mem_nil _
@[simp] theorem NoL_cons {t : Tok} {l : List Tok} : NoL (t :: l) ↔ (opOf t == '(') = false ∧ NoL l := List.forall_mem_cons
@[simp] theorem NoL_append {a b : List Tok} : NoL (a ++ b) ↔ NoL a ∧ NoL b := List.forall_mem_append
@[simp] theorem NoL_binTok (o : BinOp) : (opOf (binTok o) == '(') = false := by cases o <;> decide +kernel

/-- an operand of a group and its value, as `unaryPass` folds it -/
inductive Opd : List Tok → Int → Prop
  | num {v : Int} (hv : InR v) : Opd [toStr v] v
  | un (o : UnOp) {v w : Int} (hv : InR v) (hw : InR w) (h : unTokRes o v = toStr w) : Opd [unTok o, toStr v] w

theorem Opd.inR {g : List Tok} {v : Int} (h : Opd g v) : InR v := by cases h <;> assumption

theorem Opd.noL {g : List Tok} {v : Int} (h : Opd g v) : NoL g := by
  have : ∀ o, (opOf (unTok o) == '(') = false := by intro o; cases o <;> decide
  cases h <;> simp [this]

theorem prev_toStr (v : Int) (rev : List Tok) : prevIsNumOrName (toStr v :: rev) = true := by simp [prevIsNumOrName]
theorem prev_op {t : Tok} (ht : IsOpTok t) (rev : List Tok) : prevIsNumOrName (t :: rev) = false := by
  simp [prevIsNumOrName, ht.1, ht.2.1]

theorem unaryPass_operand (rev : List Tok) {g : List Tok} {w : Int} (tl : List Tok) (hp : prevIsNumOrName rev = false)
    (h : Opd g w) : unaryPass rev (g ++ tl) = unaryPass (toStr w :: rev) tl := by
  cases h with
  | num _ => exact unaryPass_num rev _ tl
  | un o hv _ h => rw [← h]; exact unaryPass_un rev o _ tl hp hv

theorem sels_q : ∀ s ∈ sels, s ['?'] = none ∧ s [':'] = none := by decide +kernel

structure Group (g : List Tok) (v : Int) : Prop where
  noL : NoL g
  folds : ∀ hp tl, Stop tl → passes hp (g ++ tl) = .ok (toStr v :: tl)

theorem Group.single {g : List Tok} {v : Int} (h : Opd g v) : Group g v := by
  refine ⟨h.noL, fun hp tl hs => ?_⟩
  unfold passes
  rw [unaryPass_operand [] tl rfl h, unaryPass_stop _ hs]
  simp only [List.reverse_cons, List.reverse_nil, List.nil_append, List.singleton_append]
  rw [binPasses_single sels sels_toStr v hs]
  exact questionPass_single hp _ v hs

theorem Group.bin (o : BinOp) {ga gb : List Tok} {a b r : Int} (ha : Opd ga a) (hb : Opd gb b) (hr : applyBin o a b = .ok r) :
    Group (ga ++ binTok o :: gb) r := by
  have hop := isOpTok_binTok o
  refine ⟨by simp [ha.noL, hb.noL], fun hp tl hs => ?_⟩
  unfold passes
  rw [List.append_assoc, List.cons_append, unaryPass_operand [] _ rfl ha,
    unaryPass_op _ hop _ (prev_toStr _ _),
    unaryPass_operand _ tl (prev_op hop _) hb,
    unaryPass_stop _ hs]
  simp only [List.reverse_cons, List.reverse_nil, List.nil_append, List.cons_append]
  rw [binPasses_bin o ha.inR hb.inR hr hs sels sels_toStr (sels_binTok o)]
  exact questionPass_single hp _ r hs

theorem Group.cond {gc gt gf : List Tok} {c t f : Int} (hc : Opd gc c) (ht : Opd gt t) (hf : Opd gf f) :
    Group (gc ++ ['?'] :: (gt ++ [':'] :: gf)) (if c ≠ 0 then t else f) := by
  refine ⟨by simp +decide [hc.noL, ht.noL, hf.noL], fun hp tl hs => ?_⟩
  unfold passes
  rw [List.append_assoc, List.cons_append, List.append_assoc, List.cons_append,
    unaryPass_operand [] _ rfl hc,
    unaryPass_op _ isOpTok_q _ (prev_toStr _ _),
    unaryPass_operand _ _ (prev_op isOpTok_q _) ht,
    unaryPass_op _ isOpTok_colon _ (prev_toStr _ _),
    unaryPass_operand _ tl (prev_op isOpTok_colon _) hf,
    unaryPass_stop _ hs]
  simp only [List.reverse_cons, List.reverse_nil, List.nil_append, List.cons_append]
  -- no binary pass recognises `?`, `:` or a number
  have := binPasses_noop sels [toStr c, ['?'], toStr t, [':'], toStr f] tl hs (fun s hs => by
    simp +decide [sels_toStr s hs, sels_q s hs])
  simp only [List.cons_append, List.nil_append] at this
  rw [this]
  exact questionPass_fold hp (by simp) c t f hs

/-! ## the parenthesis loop of `constFold` -/

theorem splitLast_none : ∀ {l : List Tok}, NoL l → splitLastLpar l = none := by
  intro l
  induction l with
  | nil => intro _; rfl
  | cons t r ih =>
    intro h
    have h1 := ih (fun x hx => h x (by simp [hx]))
    have h2 := h t (by simp)
    simp [splitLastLpar, h1, h2]

theorem splitLast_some : ∀ (pre rest : List Tok), NoL rest → splitLastLpar (pre ++ ['('] :: rest) = some (pre, rest) := by
  intro pre
  induction pre with
  | nil =>
    intro rest h
    have : (opOf ['('] == '(') = true := by decide
    simp [splitLastLpar, splitLast_none h, this]
  | cons t r ih =>
    intro rest h
    simp [splitLastLpar, ih rest h]

/-- the number of `(` tokens: the rounds `constFold` needs -/
def lp (l : List Tok) : Nat := l.countP (opOf · == '(')

theorem lp_append (a b : List Tok) : lp (a ++ b) = lp a + lp b := List.countP_append
theorem lp_cons (t : Tok) (l : List Tok) : lp (t :: l) = lp l + if opOf t == '(' then 1 else 0 := List.countP_cons
theorem NoL.lp {l : List Tok} (h : NoL l) : lp l = 0 := List.countP_eq_zero.mpr fun t ht => by simp [h t ht]

/-- `constFold` with a round for every `(` of the list and `n` to spare -/
def foldP (n : Nat) (l : List Tok) : Except Err (List Tok) := constFold (n + lp l) l

/-- one round of the loop on the last parenthesised group -/
theorem foldP_paren (n : Nat) (pre g post : List Tok) (v : Int) (hg : NoL g) (hpost : NoL post)
    (hp : passes true (g ++ [')'] :: post) = .ok (toStr v :: [')'] :: post)) :
    foldP n (pre ++ ['('] :: (g ++ [')'] :: post)) = foldP n (pre ++ toStr v :: post) := by
  have hn : NoL (g ++ [')'] :: post) := by simp +decide [hg, hpost]
  have hr : isRpar [')'] = true := by decide
  have e1 : lp (pre ++ ['('] :: (g ++ [')'] :: post)) = lp (pre ++ toStr v :: post) + 1 := by
    simp +decide [lp_append, lp_cons, hn.lp, hpost.lp]
  rw [foldP, foldP, e1, ← Nat.add_assoc, constFold]
  simp [splitLast_some pre _ hn, hp, hr]

theorem foldP_top (n : Nat) {g r : List Tok} (hg : NoL g) (hp : passes false g = .ok r) :
    foldP (n + 1) g = .ok r := by
  rw [foldP, hg.lp, Nat.add_zero, constFold]
  cases g with
  | nil => cases hp; rfl
  | cons t l => simp [splitLast_none hg, hp]

/-- in any context without a `(` to its right, `constFold` rewrites `l` to `r` -/
def Red (l r : List Tok) : Prop :=
  ∀ (pre post : List Tok) (n : Nat), NoL post → foldP n (pre ++ (l ++ post)) = foldP n (pre ++ (r ++ post))

theorem Red.refl (l : List Tok) : Red l l := fun _ _ _ _ => rfl

theorem Red.cons {l r : List Tok} (t : Tok) (h : Red l r) : Red (t :: l) (t :: r) := by
  intro pre post n hp
  simpa using h (pre ++ [t]) post n hp

/-- `constFold` takes the last `(` first: the right part is rewritten before the left -/
theorem Red.append {l₁ r₁ l₂ r₂ : List Tok} (h₁ : Red l₁ r₁) (h₂ : Red l₂ r₂) (hr : NoL r₂) : Red (l₁ ++ l₂) (r₁ ++ r₂) := by
  intro pre post n hp
  have a := h₂ (pre ++ l₁) post n hp
  have b := h₁ pre (r₂ ++ post) n (by simp [hr, hp])
  simp only [List.append_assoc] at a b ⊢
  rw [a, b]

theorem Red.group {l g : List Tok} {v : Int} (h : Red l g) (hg : Group g v) : Red (paren l) [toStr v] := by
  intro pre post n hp
  have h1 := h (pre ++ [['(']]) ([')'] :: post) n (by simp +decide [hp])
  have h2 := foldP_paren n pre g post v hg.noL hp (hg.folds true _ (Or.inr ⟨post, rfl⟩))
  simp only [paren, List.cons_append, List.append_assoc, List.nil_append] at h1 ⊢
  rw [h1, h2]

/-! ## arithmetic: the compiled `long long` operations agree with the specification on representable results -/

theorem inRange_iff {x : Int} : inRange false x = true ↔ InR x := by
  simp only [inRange, Bool.false_eq_true, if_false, Bool.and_eq_true, decide_eq_true_eq]
  unfold two63 InR llMin llMax
  omega

theorem wrap_id {x : Int} (h : InR x) : wrap x = x := by
  unfold InR llMin llMax at h
  unfold wrap
  omega

theorem b2i_InR (b : Bool) : InR (b2i b) := by
  cases b <;> simp [b2i, InR, llMin, llMax]

theorem toInt_InR (x : BitVec 64) : InR x.toInt := by
  have h1 := BitVec.le_toInt x
  have h2 := @BitVec.toInt_le 64 x
  have e : (2 : Int) ^ (64 - 1) = 9223372036854775808 := by decide
  rw [e] at h1 h2
  simp only [InR, llMin, llMax]
  omega

theorem arith_false {x : Int} {r : Val} (h : arith false x = some r) : r = ⟨x, false⟩ ∧ InR x := by
  unfold arith at h
  simp only [Bool.false_eq_true, if_false] at h
  split at h
  · rename_i hr
    injection h with h
    exact ⟨h.symm, inRange_iff.mp hr⟩
  · simp at h

theorem bv_toInt {a : Int} (h : InR a) : (bv a).toInt = a := by
  unfold bv
  unfold InR llMin llMax at h
  have e : (2 : Int) ^ (64 - 1) = 9223372036854775808 := by decide
  apply BitVec.toInt_ofInt_eq_self (by decide)
  · rw [e]; omega
  · rw [e]; omega

theorem shl_eq {a b : Int} (ha : InR a) (ha0 : 0 ≤ a) (hb0 : 0 ≤ b) (hb : b < 64) (hr : InR (a * 2 ^ b.toNat)) :
    (bv a <<< (b % 64).toNat).toInt = a * 2 ^ b.toNat := by
  have hb' : b % 64 = b := Int.emod_eq_of_lt hb0 hb
  rw [hb', BitVec.toInt_shiftLeft]
  have hn : ((bv a).toNat : Int) = a := by
    unfold bv
    rw [BitVec.toNat_ofInt]
    unfold InR llMin llMax at ha
    have e64 : ((2 ^ 64 : Nat) : Int) = 18446744073709551616 := by decide
    rw [e64]
    omega
  have e : ((((bv a).toNat <<< b.toNat : Nat)) : Int) = a * 2 ^ b.toNat := by
    rw [Nat.shiftLeft_eq, Int.natCast_mul, hn, Int.natCast_pow]; rfl
  rw [e]
  unfold InR llMin llMax at hr
  -- the product is representable (`hr`), so reducing it into the signed 64-bit range changes nothing
  apply Int.bmod_eq_of_le_mul_two <;> simp <;> omega

theorem shr_eq {a b : Int} (ha : InR a) (hb0 : 0 ≤ b) (hb : b < 64) :
    ((bv a).sshiftRight (b % 64).toNat).toInt = a / 2 ^ b.toNat := by
  have hb' : b % 64 = b := Int.emod_eq_of_lt hb0 hb
  rw [hb', BitVec.toInt_sshiftRight, bv_toInt ha, Int.shiftRight_eq_div_pow]
  rfl

theorem tdiv_no_overflow {a b : Int} (h : Int.tdiv a b < two63) : ¬ (b = -1 ∧ a = llMin) := by
  rintro ⟨rfl, rfl⟩
  revert h
  decide

/-- on a representable left operand and result the compiled operation is the C operation (the right operand matters only as a
shift count or a divisor, and the specification tests it there) -/
theorem applyBin_eq_spec {o : BinOp} {a b : Int} {r : Val} (ha : InR a)
    (h : specBin o ⟨a, false⟩ ⟨b, false⟩ = some r) : applyBin o a b = .ok r.v ∧ r.u = false ∧ InR r.v := by
  cases o <;> simp only [specBin, Bool.or_self, Bool.false_eq_true, if_false] at h
  case mul | add | sub => obtain ⟨rfl, hr⟩ := arith_false h; exact ⟨by simp only [applyBin, wrap_id hr], rfl, hr⟩
  case div =>
    split at h
    · cases h
    · rename_i hy
      obtain ⟨rfl, hr⟩ := arith_false h
      have hov := tdiv_no_overflow (a := a) (b := b) (by unfold InR llMax at hr; unfold two63; omega)
      exact ⟨by simp only [applyBin, if_neg hy, if_neg hov], rfl, hr⟩
  case mod =>
    split at h
    · cases h
    · rename_i hy
      split at h
      · cases h
      · rename_i hq
        obtain ⟨rfl, hr⟩ := arith_false h
        have hov := tdiv_no_overflow (a := a) (b := b) (by simpa using hq)
        exact ⟨by simp only [applyBin, if_neg hy, if_neg hov], rfl, hr⟩
  case shl =>
    split at h
    · cases h
    · rename_i hb2
      simp only [Bool.or_eq_true, decide_eq_true_eq, not_or, Int.not_lt] at hb2
      split at h
      · cases h
      · rename_i ha2
        obtain ⟨rfl, hr⟩ := arith_false h
        exact ⟨by simp only [applyBin, shl_eq ha (Int.not_lt.mp ha2) hb2.1 (by omega) hr], rfl, hr⟩
  case shr =>
    split at h
    · cases h
    · rename_i hb2
      simp only [Bool.or_eq_true, decide_eq_true_eq, not_or, Int.not_lt] at hb2
      injection h with h
      subst h
      have e := shr_eq ha hb2.1 (by omega : b < 64)
      refine ⟨by simp only [applyBin, e], rfl, ?_⟩
      rw [← e]; exact toInt_InR _
  case eq | ne | gt | ge | lt | le | land | lor => injection h with h; subst h; exact ⟨rfl, rfl, b2i_InR _⟩
  case band | bxor | bor => injection h with h; subst h; exact ⟨rfl, rfl, toInt_InR _⟩

theorem specUn_InR {o : UnOp} {v : Int} {r : Val} (hv : InR v) (h : specUn o ⟨v, false⟩ = some r) : r.u = false ∧ InR r.v := by
  cases o <;> simp only [specUn, Bool.false_eq_true, if_false] at h
  case not => injection h with h; subst h; exact ⟨rfl, b2i_InR _⟩
  case pos => injection h with h; subst h; exact ⟨rfl, hv⟩
  case neg => obtain ⟨rfl, hr⟩ := arith_false h; exact ⟨rfl, hr⟩
  case compl => injection h with h; subst h; exact ⟨rfl, toInt_InR _⟩

theorem unTokRes_eq {o : UnOp} {v : Int} {r : Val} (h : specUn o ⟨v, false⟩ = some r) (hneg : o = .neg → 0 < v) :
    unTokRes o v = toStr r.v := by
  cases o <;> simp only [specUn, Bool.false_eq_true, if_false] at h
  case not =>
    injection h with h; subst h
    by_cases hv : v = 0
    · subst hv; decide
    · have : (v == 0) = false := by simpa using hv
      simp only [unTokRes, this, Bool.false_eq_true, if_false, b2i]; decide
  case pos => injection h with h; subst h; rfl
  case neg => obtain ⟨rfl, _⟩ := arith_false h; exact neg_toStr (hneg rfl)
  case compl => injection h with h; subst h; rfl

/-! ## strict evaluation -/

theorem valueStrict_un {isDef : Tok → Bool} {o : UnOp} {y : E} {v : Int} (h : valueStrict isDef (.un o y) = some v) :
    ∃ vy r, valueStrict isDef y = some vy ∧ specUn o ⟨vy, false⟩ = some r ∧ r.v = v := by
  simp only [valueStrict] at h
  split at h
  · cases h
  · rename_i vy hy
    obtain ⟨r, hr, hv⟩ := Option.map_eq_some_iff.mp h
    exact ⟨vy, r, hy, hr, hv⟩

theorem valueStrict_bin {isDef : Tok → Bool} {o : BinOp} {a b : E} {v : Int} (h : valueStrict isDef (.bin o a b) = some v) :
    ∃ va vb r, valueStrict isDef a = some va ∧ valueStrict isDef b = some vb ∧ specBin o ⟨va, false⟩ ⟨vb, false⟩ = some r ∧ r.v = v := by
  simp only [valueStrict] at h
  split at h
  · rename_i va vb ha hb
    obtain ⟨r, hr, hv⟩ := Option.map_eq_some_iff.mp h
    exact ⟨va, vb, r, ha, hb, hr, hv⟩
  · cases h

theorem valueStrict_cond {isDef : Tok → Bool} {c t f : E} {v : Int} (h : valueStrict isDef (.cond c t f) = some v) :
    ∃ x y z, valueStrict isDef c = some x ∧ valueStrict isDef t = some y ∧ valueStrict isDef f = some z ∧
      v = if x ≠ 0 then y else z := by
  simp only [valueStrict] at h
  split at h
  · rename_i x y z hc ht hf
    injection h with h
    exact ⟨x, y, z, hc, ht, hf, h.symm⟩
  · cases h

theorem valueStrict_InR (isDef : Tok → Bool) : ∀ (e : E) (v : Int), valueStrict isDef e = some v → InR v := by
  intro e
  induction e with
  | lit l =>
    intro v h
    simp only [valueStrict] at h
    split at h
    · rename_i hl; injection h with h; subst h
      unfold two63 at hl; unfold InR llMin llMax; omega
    · simp at h
  | defd x p => intro v h; simp only [valueStrict] at h; injection h with h; subst h; exact b2i_InR _
  | ident x => intro v h; simp only [valueStrict] at h; injection h with h; subst h; exact b2i_InR false
  | un o y ih =>
    intro v h
    obtain ⟨vy, r, hy, hr, rfl⟩ := valueStrict_un h
    exact (specUn_InR (ih vy hy) hr).2
  | bin o a b iha ihb =>
    intro v h
    obtain ⟨va, vb, r, ha, hb, hr, rfl⟩ := valueStrict_bin h
    exact (applyBin_eq_spec (iha va ha) hr).2.2
  | cond c t f ihc iht ihf =>
    intro v h
    obtain ⟨x, y, z, hc, ht, hf, rfl⟩ := valueStrict_cond h
    split
    · exact iht y ht
    · exact ihf z hf

/-- when both operands have a value the short circuit of `&&` and `||` does not show -/
theorem value_bin {isDef : Tok → Bool} {o : BinOp} {a b : E} {x y : Val} (ha : value isDef a = some x)
    (hb : value isDef b = some y) : value isDef (.bin o a b) = specBin o x y := by
  cases o <;> simp only [value, ha, hb]
  case land => by_cases h0 : x.v = 0 <;> simp [specBin, h0, b2i]
  case lor => by_cases h0 : x.v = 0 <;> simp [specBin, h0, b2i]

/-- on trees whose literals are plain the strict value is the value of C17 6.10.1 -/
theorem value_of_strict (isDef : Tok → Bool) : ∀ (e : E) (v : Int), plainLits e = true → valueStrict isDef e = some v →
    value isDef e = some ⟨v, false⟩ ∧ value.typeU e = false := by
  have signed : ∀ r : Val, r.u = false → some r = some (⟨r.v, false⟩ : Val) := by
    rintro ⟨w, u⟩ h
    cases h
    rfl
  intro e
  induction e with
  | lit l =>
    intro v hl h
    simp only [plainLits, Bool.and_eq_true, Bool.not_eq_true', decide_eq_true_eq] at hl
    simp only [valueStrict] at h
    split at h
    · rename_i hlt
      injection h with h; subst h
      have h64 : ¬ ((l.n : Int) ≥ two64) := by unfold two63 at hlt; unfold two64; omega
      have h63 : ¬ ((l.n : Int) ≥ two63) := by omega
      simp [value, litVal, h64, hl.1.1.2, hlt, value.typeU, h63]
    · simp at h
  | defd x p => intro v _ h; simp only [valueStrict] at h; injection h with h; subst h; exact ⟨rfl, rfl⟩
  | ident x => intro v _ h; simp only [valueStrict] at h; injection h with h; subst h; exact ⟨rfl, rfl⟩
  | un o y ih =>
    intro v hl h
    obtain ⟨vy, r, hy, hr, rfl⟩ := valueStrict_un h
    obtain ⟨h1, h2⟩ := ih vy (by simpa [plainLits] using hl) hy
    refine ⟨?_, by cases o <;> simp [value.typeU, h2]⟩
    simp only [value, h1, Option.bind_some, hr]
    exact signed r (specUn_InR (valueStrict_InR isDef y vy hy) hr).1
  | bin o a b iha ihb =>
    intro v hl h
    obtain ⟨va, vb, r, ha, hb, hr, rfl⟩ := valueStrict_bin h
    simp only [plainLits, Bool.and_eq_true] at hl
    obtain ⟨a1, a2⟩ := iha va hl.1 ha
    obtain ⟨b1, b2⟩ := ihb vb hl.2 hb
    refine ⟨?_, by cases o <;> simp [value.typeU, a2, b2]⟩
    rw [value_bin a1 b1, hr]
    exact signed r (applyBin_eq_spec (valueStrict_InR isDef a va ha) hr).2.1
  | cond c t f ihc iht ihf =>
    intro v hl h
    obtain ⟨x, y, z, hc, ht, hf, rfl⟩ := valueStrict_cond h
    simp only [plainLits, Bool.and_eq_true] at hl
    obtain ⟨c1, _⟩ := ihc x hl.1.1 hc
    obtain ⟨t1, t2⟩ := iht y hl.1.2 ht
    obtain ⟨f1, f2⟩ := ihf z hl.2 hf
    refine ⟨?_, by simp [value.typeU, t2, f2]⟩
    simp only [value, c1, t2, f2, Bool.or_self, Bool.false_and]
    by_cases h0 : x = 0 <;> simp [h0, t1, f1]

/-! ## the printed tree: every binary / conditional operand in parentheses, any spelling of the leaves -/

def parIf (b : Bool) (l : List Tok) : List Tok := if b then paren l else l

def pr (leaf : E → List Tok) : E → List Tok
  | .lit l => leaf (.lit l)
  | .defd x p => leaf (.defd x p)
  | .ident x => leaf (.ident x)
  | .un o e => unTok o :: parIf (isCompound e) (pr leaf e)
  | .bin o a b => parIf (isCompound a) (pr leaf a) ++ binTok o :: parIf (isCompound b) (pr leaf b)
  | .cond c t f =>
    parIf (isCompound c) (pr leaf c) ++ ['?'] :: (parIf (isCompound t) (pr leaf t) ++ [':'] :: parIf (isCompound f) (pr leaf f))

/-- the leaves as `printPF` spells them; `leaf1`: after `replaceDefined` (`stage1`); `leaf2`: after `simplifyName` (`stage2`),
kept by `simplifyNumbers` (`stage3`) -/
def leaf0 : E → List Tok
  | .lit l => [litTok l]
  | .defd x p => if p then ["defined".toList, ['('], x, [')']] else ["defined".toList, x]
  | .ident x => [x]
  | _ => []

def leaf1 (isDef : Tok → Bool) : E → List Tok
  | .lit l => [litTok l]
  | .defd x _ => [toStr (b2i (isDef x))]
  | .ident x => [x]
  | _ => []

def leaf2 (isDef : Tok → Bool) : E → List Tok
  | .lit l => [toStr l.n]
  | .defd x _ => [toStr (b2i (isDef x))]
  | .ident _ => [toStr 0]
  | _ => []

theorem printPF_eq_pr : ∀ e : E, printPF e = pr leaf0 e := by
  intro e
  induction e with
  | lit l => rfl
  | defd x p => rfl
  | ident x => rfl
  | un o e ih => simp only [printPF, pr, parIf, ih]
  | bin o a b iha ihb => simp only [printPF, pr, parIf, iha, ihb]
  | cond c t f ihc iht ihf => simp only [printPF, pr, parIf, ihc, iht, ihf, List.append_assoc, List.cons_append]

/-- the tokens of `printPF e` after `defined`, the names and the literals have been replaced -/
def pk (isDef : Tok → Bool) (e : E) : List Tok := pr (leaf2 isDef) e

def operandToks (isDef : Tok → Bool) (x : E) : List Tok := parIf (isCompound x) (pk isDef x)

/-! ## `constFold` on `pk e` -/

theorem operandToks_leaf {isDef : Tok → Bool} {e : E} {v : Int} (hl : isLeaf e = true) (h : valueStrict isDef e = some v) :
    operandToks isDef e = [toStr v] ∧ isCompound e = false := by
  cases e <;> simp [isLeaf] at hl
  case lit l =>
    simp only [valueStrict] at h
    split at h
    · injection h with h; subst h; exact ⟨rfl, rfl⟩
    · simp at h
  case defd x p => simp only [valueStrict] at h; injection h with h; subst h; exact ⟨rfl, rfl⟩
  case ident x => simp only [valueStrict] at h; injection h with h; subst h; exact ⟨rfl, rfl⟩

def Reduces (isDef : Tok → Bool) (e : E) (v : Int) : Prop := ∃ g, Opd g v ∧ Red (operandToks isDef e) g

def Flat (isDef : Tok → Bool) (e : E) (v : Int) : Prop := ∃ g, Group g v ∧ Red (pk isDef e) g

theorem red_of_flat {isDef : Tok → Bool} {e : E} {v : Int} (hc : isCompound e = true) (h : Flat isDef e v) :
    Red (operandToks isDef e) [toStr v] := by
  obtain ⟨g, hg, hred⟩ := h
  simpa only [operandToks, parIf, hc, if_true] using hred.group hg

theorem top_of_flat {isDef : Tok → Bool} {e : E} {v : Int} (h : Flat isDef e v) {k : Nat} (hk : lp (pk isDef e) < k) :
    constFold k (pk isDef e) = .ok [toStr v] := by
  obtain ⟨g, hg, hred⟩ := h
  obtain ⟨n, rfl⟩ := Nat.exists_eq_add_of_lt hk
  have := hred [] [] (n + 1) NoL_nil
  simp only [List.nil_append, List.append_nil] at this
  rw [Nat.add_assoc, Nat.add_comm, ← foldP, this]
  exact foldP_top n hg.noL (by simpa using hg.folds false [] (Or.inl rfl))

theorem flat_of_reduces {isDef : Tok → Bool} {e : E} {v : Int} (hc : isCompound e = false) (h : Reduces isDef e v) :
    Flat isDef e v := by
  obtain ⟨g, hg, hred⟩ := h
  exact ⟨g, .single hg, by simpa only [operandToks, parIf, hc, Bool.false_eq_true, if_false] using hred⟩

/-- the induction on the tree: printed, an expression with strict value `v` folds to `toStr v`, as a whole (`Flat`) and as an
operand (`Reduces`) -/
theorem main_aux (isDef : Tok → Bool) : ∀ (e : E) (v : Int), valueStrict isDef e = some v → unaryOk isDef e = true →
    Flat isDef e v ∧ Reduces isDef e v := by
  have leaf : ∀ {e : E} {v : Int}, isLeaf e = true → valueStrict isDef e = some v → Flat isDef e v ∧ Reduces isDef e v := by
    intro e v hl hv
    obtain ⟨he, hc⟩ := operandToks_leaf hl hv
    have hR : Reduces isDef e v := ⟨_, .num (valueStrict_InR isDef e v hv), he ▸ .refl _⟩
    exact ⟨flat_of_reduces hc hR, hR⟩
  -- a binary or conditional expression is a group; as an operand it is that group in parentheses
  have compound : ∀ {e : E} {v : Int}, isCompound e = true → valueStrict isDef e = some v → Flat isDef e v →
      Flat isDef e v ∧ Reduces isDef e v :=
    fun hc hv hflat => ⟨hflat, _, .num (valueStrict_InR isDef _ _ hv), red_of_flat hc hflat⟩
  intro e
  induction e with
  | lit l => exact fun v hv _ => leaf rfl hv
  | defd x p => exact fun v hv _ => leaf rfl hv
  | ident x => exact fun v hv _ => leaf rfl hv
  | un o y ih =>
    intro v hv hun
    obtain ⟨vy, r, hy, hr, rfl⟩ := valueStrict_un hv
    simp only [unaryOk, Bool.and_eq_true, Bool.or_eq_true, bne_iff_ne, ne_eq] at hun
    obtain ⟨⟨huy, hshape⟩, hneg⟩ := hun
    have hiy := valueStrict_InR isDef y vy hy
    -- the operand is a leaf or a parenthesised group: either way it becomes the spelling of its value
    have hyred : Red (operandToks isDef y) [toStr vy] := by
      rcases hshape with hleaf | hcomp
      · exact (operandToks_leaf hleaf hy).1 ▸ .refl _
      · exact red_of_flat hcomp (ih vy hy huy).1
    have hR : Reduces isDef (.un o y) r.v :=
      ⟨_, .un o hiy (specUn_InR hiy hr).2 (unTokRes_eq hr (by rintro rfl; simpa [hy] using hneg)), hyred.cons (unTok o)⟩
    exact ⟨flat_of_reduces rfl hR, hR⟩
  | bin o a b iha ihb =>
    intro v hv hu
    obtain ⟨va, vb, r, ha, hb, hr, rfl⟩ := valueStrict_bin hv
    simp only [unaryOk, Bool.and_eq_true] at hu
    obtain ⟨ga, hoa, hra⟩ := (iha va ha hu.1).2
    obtain ⟨gb, hob, hrb⟩ := (ihb vb hb hu.2).2
    exact compound rfl hv
      ⟨_, .bin o hoa hob (applyBin_eq_spec hoa.inR hr).1, hra.append (hrb.cons _) (by simp [hob.noL])⟩
  | cond c t f ihc iht ihf =>
    intro v hv hu
    obtain ⟨x, y, z, hc, ht, hf, rfl⟩ := valueStrict_cond hv
    simp only [unaryOk, Bool.and_eq_true] at hu
    obtain ⟨gc, hoc, hrc⟩ := (ihc x hc hu.1.1).2
    obtain ⟨gt, hot, hrt⟩ := (iht y ht hu.1.2).2
    obtain ⟨gf, hof, hrf⟩ := (ihf z hf hu.2).2
    exact compound rfl hv
      ⟨_, .cond hoc hot hof,
        hrc.append ((hrt.append (hrf.cons _) (by simp +decide [hof.noL])).cons _)
          (by simp +decide [hot.noL, hof.noL])⟩

/-! ## from the printed tokens to `pk`: `defined`, names, literals -/

inductive IsStruct : Tok → Prop
  | un (o : UnOp) : IsStruct (unTok o)
  | bin (o : BinOp) : IsStruct (binTok o)
  | q : IsStruct ['?']
  | colon : IsStruct [':']
  | lpar : IsStruct ['(']
  | rpar : IsStruct [')']

/-- a stage `f` that copies structural tokens and rewrites leaves (in a context `C` that every position after an
operand satisfies) maps `pr leafA e` to `pr leafB e` -/
theorem pr_stage {M : Type → Type} [Functor M] [LawfulFunctor M] (f : List Tok → M (List Tok))
    (leafA leafB : E → List Tok) (C : List Tok → Prop) (ok : E → Prop)
    (hC : ∀ t l, IsStruct t → t ≠ ['('] → C (t :: l))
    (hs : ∀ t l, IsStruct t → f (t :: l) = (t :: ·) <$> f l)
    (hl : ∀ e l, isLeaf e = true → ok e → C l → f (leafA e ++ l) = (leafB e ++ ·) <$> f l)
    (hok : ∀ e, ok e → match e with
      | .un _ x => ok x
      | .bin _ a b => ok a ∧ ok b
      | .cond c t f => ok c ∧ ok t ∧ ok f
      | _ => True) :
    ∀ (e : E) (l : List Tok), ok e → C l → f (pr leafA e ++ l) = (pr leafB e ++ ·) <$> f l := by
  have opdStep : ∀ (x : E), (∀ l, ok x → C l → f (pr leafA x ++ l) = (pr leafB x ++ ·) <$> f l) →
      ∀ l, ok x → C l → f (parIf (isCompound x) (pr leafA x) ++ l) = (parIf (isCompound x) (pr leafB x) ++ ·) <$> f l := by
    intro x ih l hx hc
    cases isCompound x
    · exact ih l hx hc
    · simp only [parIf, if_true, paren, List.cons_append, List.append_assoc, List.nil_append]
      rw [hs _ _ .lpar, ih _ hx (hC _ _ .rpar (by decide)), hs _ _ .rpar]
      simp [Functor.map_map]
  intro e
  induction e with
  | lit l => intro r h hc; exact hl _ r rfl h hc
  | defd x p => intro r h hc; exact hl _ r rfl h hc
  | ident x => intro r h hc; exact hl _ r rfl h hc
  | un o y ih =>
    intro r h hc
    simp only [pr, List.cons_append]
    rw [hs _ _ (.un o), opdStep y ih r (hok _ h) hc]
    simp [Functor.map_map]
  | bin o a b iha ihb =>
    intro r h hc
    obtain ⟨ha, hb⟩ := hok _ h
    simp only [pr, List.append_assoc, List.cons_append]
    rw [opdStep a iha _ ha (hC _ _ (.bin o) (by cases o <;> decide)), hs _ _ (.bin o), opdStep b ihb r hb hc]
    simp [Functor.map_map]
  | cond c t ff ihc iht ihf =>
    intro r h hc
    obtain ⟨h1, h2, h3⟩ := hok _ h
    simp only [pr, List.append_assoc, List.cons_append]
    rw [opdStep c ihc _ h1 (hC _ _ .q (by decide)), hs _ _ .q, opdStep t iht _ h2 (hC _ _ .colon (by decide)), hs _ _ .colon,
      opdStep ff ihf r h3 hc]
    simp [Functor.map_map]

theorem struct_facts {t : Tok} (h : IsStruct t) :
    (t == "defined".toList) = false ∧ isName t = false ∧ (t.take 2 == ['0', 'x']) = false := by
  cases h with
  | un o => cases o <;> decide
  | bin o => cases o <;> decide
  | q => decide
  | colon => decide
  | lpar => decide
  | rpar => decide

theorem rd_plain (isDef : Tok → Bool) {t : Tok} (h : (t == "defined".toList) = false) (l : List Tok) :
    replaceDefined isDef (t :: l) = (replaceDefined isDef l).map (t :: ·) := by
  match l with
  | [] => simp only [replaceDefined, h, Bool.false_eq_true, if_false, Option.map_some]
  | [a] => simp only [replaceDefined, h, Bool.false_eq_true, if_false]
  | [a, b] => simp only [replaceDefined, h, Bool.false_eq_true, if_false]
  | a :: b :: c :: r => simp only [replaceDefined, h, Bool.false_eq_true, if_false]

theorem defTok_eq (isDef : Tok → Bool) (x : Tok) : defTok isDef x = toStr (b2i (isDef x)) := by
  unfold defTok; cases isDef x <;> decide

theorem rd_paren (isDef : Tok → Bool) (x : Tok) (l : List Tok) :
    replaceDefined isDef ("defined".toList :: ['('] :: x :: [')'] :: l) =
      (replaceDefined isDef l).map (toStr (b2i (isDef x)) :: ·) := by
  have h1 : (opOf ['('] == '(') = true := by decide
  have h2 : (opOf [')'] == ')') = true := by decide
  simp [replaceDefined, h1, h2, defTok_eq]

theorem rd_noparen (isDef : Tok → Bool) {x : Tok} (hop : (opOf x == '(') = false) (l : List Tok) :
    replaceDefined isDef ("defined".toList :: x :: l) = (replaceDefined isDef l).map (toStr (b2i (isDef x)) :: ·) := by
  have hd : ("defined".toList == "defined".toList) = true := beq_self_eq_true _
  match l with
  | [] => simp only [replaceDefined, hd, hop, if_true, Bool.false_eq_true, if_false, Option.map_some, defTok_eq]
  | [a] => simp only [replaceDefined, hd, hop, if_true, Bool.false_eq_true, if_false, defTok_eq]
  | a :: b :: r => simp only [replaceDefined, hd, hop, if_true, Bool.false_eq_true, if_false, defTok_eq]

@[elab_as_elim] theorem litTok_cases {P : Tok → Prop} (l : Lit) (dig : ∀ c r, c.isDigit = true → P (c :: r)) : P (litTok l) := by
  unfold litTok
  split
  · exact dig '0' _ (by decide)
  · exact dig '0' _ (by decide)
  · obtain ⟨c, r, h, hc⟩ := toDigits_head_digit l.n
    rw [h]; exact dig c _ hc

theorem litTok_ne_defined (l : Lit) : (litTok l == "defined".toList) = false :=
  litTok_cases l fun _ _ hc => by simp [Text.ne_of_pred hc (b := 'd')]

theorem litTok_not_name (l : Lit) : isName (litTok l) = false :=
  litTok_cases l fun _ r hc => isName_of_head_digit r hc

theorem opOf_of_isName {x : Tok} (h : isName x = true) : opOf x = '\x00' := by
  unfold opOf
  split
  · simp [h]
  · rfl

theorem stage1 (isDef : Tok → Bool) (e : E) (hw : wfNames e = true) :
    replaceDefined isDef (printPF e) = some (pr (leaf1 isDef) e) := by
  have := pr_stage (replaceDefined isDef) leaf0 (leaf1 isDef) (fun _ => True) (fun e => wfNames e = true)
    (fun _ _ _ _ => trivial)
    (fun t l ht => rd_plain isDef (struct_facts ht).1 l)
    (by
      intro e l hl hok _
      cases e <;> simp [isLeaf] at hl
      case lit lt => exact rd_plain isDef (litTok_ne_defined lt) l
      case ident x =>
        simp only [wfNames, Bool.and_eq_true, bne_iff_ne, ne_eq] at hok
        exact rd_plain isDef (by simpa using hok.2) l
      case defd x p =>
        simp only [wfNames, Bool.and_eq_true, bne_iff_ne, ne_eq] at hok
        have hop : (opOf x == '(') = false := by rw [opOf_of_isName hok.1]; decide
        cases p with
        | true => exact rd_paren isDef x l
        | false => exact rd_noparen isDef hop l)
    (fun e h => by cases e <;> simp_all [wfNames])
    e [] hw trivial
  rw [printPF_eq_pr]
  simpa [replaceDefined] using this

theorem litTok_plain {l : Lit} (h : (l.base == 10 && !l.usuf && l.lsuf == 0) = true) : litTok l = toStr (l.n : Int) := by
  simp only [Bool.and_eq_true, beq_iff_eq, Bool.not_eq_true'] at h
  obtain ⟨⟨h1, h2⟩, h3⟩ := h
  simp [litTok, h1, h2, h3, toStr]

theorem sn_plain {t : Tok} (h : isName t = false) (l : List Tok) : simplifyName (t :: l) = (t :: ·) <$> simplifyName l := by
  rw [simplifyName.eq_def]
  simp only [h, Bool.false_eq_true, if_false]
  rfl

theorem sn_name {x : Tok} (h : isName x = true) {l : List Tok} (hc : l.head? ≠ some ['(']) :
    simplifyName (x :: l) = (['0'] :: ·) <$> simplifyName l := by
  rw [simplifyName.eq_def]
  cases l with
  | nil => simp only [h, if_true, simplifyName]; rfl
  | cons n r =>
    have : (n == ['(']) = false := beq_eq_false_iff_ne.mpr fun e => hc (congrArg some e)
    simp only [h, if_true, this, Bool.false_eq_true, if_false]; rfl

theorem stage2 (isDef : Tok → Bool) (e : E) (hw : wfNames e = true) (hl : plainLits e = true) :
    simplifyName (pr (leaf1 isDef) e) = .ok (pk isDef e) := by
  have := pr_stage simplifyName (leaf1 isDef) (leaf2 isDef)
    (fun l => l.head? ≠ some ['(']) (fun e => wfNames e = true ∧ plainLits e = true)
    (fun t l _ hne h => hne (Option.some.inj h))
    (fun t l ht => sn_plain (struct_facts ht).2.1 l)
    (by
      intro e l hleaf hok hc
      cases e <;> simp [isLeaf] at hleaf
      case lit lt =>
        have hp := hok.2
        simp only [plainLits, Bool.and_eq_true] at hp
        have : litTok lt = toStr (lt.n : Int) := litTok_plain (by simp [hp.1])
        rw [leaf1, this]
        exact sn_plain (isName_toStr _) l
      case defd x p => exact sn_plain (isName_toStr _) l
      case ident x =>
        have hn := hok.1
        simp only [wfNames, Bool.and_eq_true] at hn
        exact sn_name hn.1 hc)
    (fun e h => by cases e <;> simp_all [wfNames, plainLits])
    e [] ⟨hw, hl⟩ nofun
  simp only [List.append_nil, simplifyName] at this
  rw [this]
  simp [pk, Functor.map, Except.map]

theorem stage3 (isDef : Tok → Bool) (e : E) : simplifyNumbers (pk isDef e) = pk isDef e := by
  have keep : ∀ (t : Tok) (l : List Tok), (t.take 2 == ['0', 'x']) = false →
      simplifyNumbers (t :: l) = t :: simplifyNumbers l := by
    intro t l h
    simp only [simplifyNumbers, List.map_cons, h, Bool.and_false, Bool.false_eq_true, if_false]
  have := pr_stage (fun l => some (simplifyNumbers l)) (leaf2 isDef) (leaf2 isDef) (fun _ => True) (fun _ => True)
    (fun _ _ _ _ => trivial)
    (fun t l ht => by simp only [keep t l (struct_facts ht).2.2, Option.map_eq_map, Option.map_some])
    (by
      intro x l hx _ _
      cases x <;> simp only [isLeaf, Bool.false_eq_true] at hx
      all_goals simp only [leaf2, List.cons_append, List.nil_append, keep _ l (toStr_take2 _ 'x'), Option.map_eq_map, Option.map_some])
    (fun e _ => by cases e <;> simp)
    e [] trivial trivial
  simpa [simplifyNumbers, pk] using this

theorem evalIf_printPF (isDef : Tok → Bool) (e : E) (v : Int) (hw : wfNames e = true) (hl : plainLits e = true)
    (hu : unaryOk isDef e = true) (hv : valueStrict isDef e = some v) : evalIf isDef (printPF e) = .ok v := by
  unfold evalIf
  rw [stage1 isDef e hw]
  simp only [evaluate, stage2 isDef e hw hl, stage3, bind, Except.bind]
  -- `evaluate` gives `constFold` `length + 1` rounds: one for every `(` and at least one to spare
  rw [top_of_flat (main_aux isDef e v hv hu).1 (Nat.lt_succ_of_le List.countP_le_length)]
  simp [stringToLL_toStr (valueStrict_InR isDef e v hv)]

end Cppcheck.PPCond
