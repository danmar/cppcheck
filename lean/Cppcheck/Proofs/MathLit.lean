import Cppcheck.Model.MathLit
import Cppcheck.Proofs.Trunc
import Cppcheck.Model.ValueTypeConv
import Cppcheck.Proofs.TextLemmas
/-
Helper lemmas for C10: the suffix machine against the suffix table, the strtoull model and the two converters (instances of
one, `toBigWith`) on rendered literals, the converse (every accepted string is a rendered literal), and the composition with
C09's literal typing.  The digit functions (`digitOf`, `isXDigit`, `strtoull` ..) are Model/CharLit's, hence the `open`.
-/
namespace Cppcheck.MathLit
open Cppcheck.Wire Cppcheck.CharLit Cppcheck.Trunc

/-- first characters of a string the suffix machine can accept -/
def sufStart (c : Char) : Bool := isU c || isL c || isZ c || isI c || c == '_'

theorem sufStart_cases {c : Char} (h : sufStart c = true) :
    c = 'u' ∨ c = 'U' ∨ c = 'l' ∨ c = 'L' ∨ c = 'z' ∨ c = 'Z' ∨ c = 'i' ∨ c = 'I' ∨ c = '_' := by
  simp only [sufStart, isU, isL, isZ, isI, Bool.or_eq_true, beq_iff_eq] at h
  rcases h with ((((h | h) | (h | h)) | (h | h)) | (h | h)) | h <;> simp [h]

/-- the letter classes the suffix machine tests are pairwise disjoint -/
theorem sufClass (c : Char) :
    (isU c, isL c, isZ c, isI c, c == '_') ∈
      [(true, false, false, false, false), (false, true, false, false, false), (false, false, true, false, false),
       (false, false, false, true, false), (false, false, false, false, true), (false, false, false, false, false)] := by
  by_cases h : sufStart c = true
  · rcases sufStart_cases h with h | h | h | h | h | h | h | h | h <;> subst h <;> decide
  · simp only [sufStart, Bool.or_eq_true, not_or, Bool.not_eq_true] at h
    simp [h]

theorem sufRun_lit (ms : Bool) : ∀ r, sufRun ms .lit r = true
  | [] => rfl
  | _ :: r => sufRun_lit ms r

theorem sufRun_litLeader (ms : Bool) : ∀ r, sufRun ms .litLeader r = !r.isEmpty
  | [] => rfl
  | _ :: r => sufRun_lit ms r

theorem sufRun_end {ms : Bool} {st : SufSt} (h : ∀ c, sufStep ms st c = none) : ∀ r, sufRun ms st r = (sufAccept st && r.isEmpty)
  | [] => by simp [sufRun]
  | c :: r => by simp [sufRun, h]

section
variable {ms : Bool} {c : Char} {r : Str}

theorem sufRun_nil {st : SufSt} : sufRun ms st [] = sufAccept st := rfl

theorem sufRun_start : sufRun ms .start (c :: r) =
    (isU c && sufRun ms .u r || isL c && sufRun ms .l r || isZ c && sufRun ms .z r || ms && isI c && sufRun ms .i r ||
      c == '_' && !r.isEmpty) := by
  have := sufClass c
  simp only [List.mem_cons, Prod.mk.injEq, List.mem_nil_iff, or_false] at this
  obtain h | h | h | h | h | h := this <;> simp [sufRun, sufStep, h, sufRun_litLeader]
  -- left: the row of `isI`, where the step depends on `ms` too
  cases ms <;> rfl

theorem sufRun_u :
    sufRun ms .u (c :: r) = (isL c && sufRun ms .ul r || isZ c && r.isEmpty || ms && isI c && sufRun ms .ui r) := by
  have := sufClass c
  simp only [List.mem_cons, Prod.mk.injEq, List.mem_nil_iff, or_false] at this
  obtain h | h | h | h | h | h := this <;> simp [sufRun, sufStep, h, sufRun_end (st := .uz) (fun _ => rfl), sufAccept]
  cases ms <;> rfl

theorem sufRun_l : sufRun ms .l (c :: r) = (isU c && r.isEmpty || isL c && sufRun ms .ll r) := by
  have := sufClass c
  simp only [List.mem_cons, Prod.mk.injEq, List.mem_nil_iff, or_false] at this
  obtain h | h | h | h | h | h := this <;> simp [sufRun, sufStep, h, sufRun_end (st := .lu) (fun _ => rfl), sufAccept]

theorem sufRun_ul : sufRun ms .ul (c :: r) = (isL c && r.isEmpty) := by
  cases h : isL c <;> simp [sufRun, sufStep, h, sufRun_end (st := .ull) (fun _ => rfl), sufAccept]

theorem sufRun_ll : sufRun ms .ll (c :: r) = (isU c && r.isEmpty) := by
  cases h : isU c <;> simp [sufRun, sufStep, h, sufRun_end (st := .llu) (fun _ => rfl), sufAccept]

theorem sufRun_z : sufRun ms .z (c :: r) = (isU c && r.isEmpty) := by
  cases h : isU c <;> simp [sufRun, sufStep, h, sufRun_end (st := .uz) (fun _ => rfl), sufAccept]

theorem sufRun_i : sufRun ms .i (c :: r) = (c == '6' && sufRun ms .i6 r) := by
  cases h : c == '6' <;> simp [sufRun, sufStep, h]

theorem sufRun_i6 : sufRun ms .i6 (c :: r) = (c == '4' && r.isEmpty) := by
  cases h : c == '4' <;> simp [sufRun, sufStep, h, sufRun_end (st := .i64) (fun _ => rfl), sufAccept]

theorem sufRun_ui : sufRun ms .ui (c :: r) = (c == '6' && sufRun ms .ui6 r) := by
  cases h : c == '6' <;> simp [sufRun, sufStep, h]

theorem sufRun_ui6 : sufRun ms .ui6 (c :: r) = (c == '4' && r.isEmpty) := by
  cases h : c == '4' <;> simp [sufRun, sufStep, h, sufRun_end (st := .ui64) (fun _ => rfl), sufAccept]

end

attribute [local simp] sufAccept sufRun_nil sufRun_start sufRun_u sufRun_l sufRun_ul sufRun_ll sufRun_z sufRun_i sufRun_i6
  sufRun_ui sufRun_ui6 in
/-- for each length of the string the Boolean equations `sufRun_…` turn the run into the table entry -/
theorem suffix_spec_ms (ms : Bool) (s : Str) : isValidIntegerSuffix s ms = if ms then specSuffix s else specSuffixStd s := by
  cases s with
  | nil => cases ms <;> rfl
  | cons a r =>
    by_cases h : a = '_'
    · subst h
      cases r with
      | nil => cases ms <;> rfl
      | cons _ r => cases ms <;> exact sufRun_lit _ r
    · have h' := beq_false_of_ne h
      match r with
      | [] | [_] | [_, _] | [_, _, _] | _ :: _ :: _ :: _ :: _ =>
        cases ms <;> simp [isValidIntegerSuffix, specSuffix, specSuffixStd, h, h', Bool.and_assoc]

theorem sufStart_of_valid {c : Char} {r : Str} {ms : Bool} (h : isValidIntegerSuffix (c :: r) ms = true) : sufStart c = true := by
  simp only [isValidIntegerSuffix, sufRun_start, Bool.or_eq_true, Bool.and_eq_true] at h
  simp only [sufStart, Bool.or_eq_true]
  rcases h with (((h | h) | h) | h) | h <;> simp [h.1]

theorem not_isDigit_of_sufStart (b : Base) {c : Char} (h : sufStart c = true) : b.isDigit c = false := by
  have : CharLit.isDigit c = false ∧ isXDigit c = false ∧ isOctDigit c = false ∧ isBinDigit c = false := by
    rcases sufStart_cases h with h | h | h | h | h | h | h | h | h <;> subst h <;> decide
  obtain ⟨h1, h2, h3, h4⟩ := this
  cases b <;> assumption

theorem digitOf_eq (base : Nat) (c : Char) :
    digitOf base c =
      if ((48 ≤ c.toNat ∧ c.toNat ≤ 57) ∨ (97 ≤ c.toNat ∧ c.toNat ≤ 122) ∨ (65 ≤ c.toNat ∧ c.toNat ≤ 90)) ∧ digitVal c < base
      then some (digitVal c) else none := by
  unfold digitOf digitVal CharLit.isDigit
  by_cases h1 : 48 ≤ c.toNat ∧ c.toNat ≤ 57
  · simp [h1]
  · by_cases h2 : 97 ≤ c.toNat ∧ c.toNat ≤ 122
    · simp [h1, h2]
    · by_cases h3 : 65 ≤ c.toNat ∧ c.toNat ≤ 90
      · have : ¬ 97 ≤ c.toNat := by omega
        simp [h1, h3, this]
      · simp [h1, h2, h3]

theorem isBinDigit_toNat (c : Char) : isBinDigit c = (decide (c.toNat = 48) || decide (c.toNat = 49)) := by
  have e (d : Char) : (c == d) = decide (c.toNat = d.toNat) := by rw [Bool.eq_iff_iff]; simp [Char.toNat_inj]
  rw [isBinDigit, e, e]; rfl

/-- `digitVal` on the three character ranges, in linear form for `omega` -/
theorem digitVal_code (c : Char) :
    (48 ≤ c.toNat ∧ c.toNat ≤ 57 → digitVal c + 48 = c.toNat) ∧ (97 ≤ c.toNat → digitVal c + 87 = c.toNat) ∧
    (65 ≤ c.toNat ∧ c.toNat ≤ 90 → digitVal c + 55 = c.toNat) := by
  simp only [digitVal, CharLit.isDigit, Bool.and_eq_true, decide_eq_true_eq]
  split
  · omega
  · split <;> omega

namespace Base
theorem isDigit_iff (b : Base) (c : Char) : b.isDigit c = true ↔
    ((48 ≤ c.toNat ∧ c.toNat ≤ 57) ∨ (97 ≤ c.toNat ∧ c.toNat ≤ 122) ∨ (65 ≤ c.toNat ∧ c.toNat ≤ 90)) ∧ digitVal c < b.radix := by
  have := digitVal_code c
  cases b <;> simp only [Base.isDigit, Base.radix, isXDigit, isOctDigit, isBinDigit_toNat, CharLit.isDigit, Bool.and_eq_true,
    Bool.or_eq_true, decide_eq_true_eq] <;> omega
end Base

theorem digitOf_radix (b : Base) (c : Char) : digitOf b.radix c = if b.isDigit c then some (digitVal c) else none := by
  rw [digitOf_eq]
  exact ite_congr (propext (Base.isDigit_iff b c).symm) (fun _ => rfl) (fun _ => rfl)

theorem isDigit_mono {b b' : Base} {c : Char} (h : b.isDigit c = true) (hr : b.radix ≤ b'.radix) : b'.isDigit c = true :=
  have ⟨h1, h2⟩ := (Base.isDigit_iff b c).1 h
  (Base.isDigit_iff b' c).2 ⟨h1, Nat.lt_of_lt_of_le h2 hr⟩

theorem isXDigit_of_base {b : Base} {c : Char} (h : b.isDigit c = true) : isXDigit c = true :=
  isDigit_mono (b' := .hex) h (by cases b <;> decide)

theorem digitOf_of_isDigit {b : Base} {c : Char} (h : b.isDigit c = true) : digitOf b.radix c = some (digitVal c) := by
  rw [digitOf_radix, if_pos h]

theorem digitOf_of_not_isDigit {b : Base} {c : Char} (h : b.isDigit c = false) : digitOf b.radix c = none := by
  rw [digitOf_radix, h]; rfl

theorem positional_append (r : Nat) (a b : Str) :
    positional r (a ++ b) = positional r a * r ^ b.length + positional r b := by
  induction a with
  | nil => simp [positional]
  | cons c cs ih =>
    simp only [List.cons_append, positional, ih, List.length_append, Nat.pow_add]
    rw [Nat.add_mul, Nat.mul_assoc, Nat.add_assoc]

/-- the accumulator loop of strtoull reads the longest digit prefix positionally -/
theorem digitsGo_eq (b : Base) : ∀ (s : Str) (acc n : Nat), digitsGo b.radix acc n s =
    (acc * b.radix ^ (s.takeWhile b.isDigit).length + positional b.radix (s.takeWhile b.isDigit),
      n + (s.takeWhile b.isDigit).length)
  | [], acc, n => by simp [digitsGo, positional]
  | c :: r, acc, n => by
    rw [digitsGo, digitOf_radix, List.takeWhile_cons]
    by_cases hc : b.isDigit c = true
    · simp only [hc, if_true, digitsGo_eq b r, positional, List.length_cons, Nat.pow_succ]
      congr 1
      · rw [Nat.add_mul, Nat.mul_assoc, Nat.mul_comm (b.radix ^ _) b.radix, Nat.add_assoc]
      · omega
    · simp [hc, positional]

theorem positional_lt (b : Base) (ds : Str) (hds : ds.all b.isDigit = true) : positional b.radix ds < b.radix ^ ds.length := by
  induction ds with
  | nil => simp [positional]
  | cons d ds ih =>
    simp only [List.all_cons, Bool.and_eq_true] at hds
    have hd : digitVal d < b.radix := ((Base.isDigit_iff b d).1 hds.1).2
    have := ih hds.2
    simp only [positional, List.length_cons, Nat.pow_succ]
    have hp : 0 < b.radix ^ ds.length := Nat.pow_pos (by cases b <;> decide)
    calc digitVal d * b.radix ^ ds.length + positional b.radix ds
        < digitVal d * b.radix ^ ds.length + b.radix ^ ds.length := by omega
      _ = (digitVal d + 1) * b.radix ^ ds.length := by rw [Nat.add_mul, Nat.one_mul]
      _ ≤ b.radix * b.radix ^ ds.length := Nat.mul_le_mul_right _ hd
      _ = b.radix ^ ds.length * b.radix := Nat.mul_comm _ _

def body (l : Lit) : Str := l.base.pfx l.upper ++ l.digits ++ l.suffix

theorem render_eq (l : Lit) : render l = signStr l.sign ++ body l := by
  simp [render, body, List.append_assoc]

theorem wf_digits {l : Lit} (h : l.WF = true) : l.digits ≠ [] ∧ l.digits.all l.base.isDigit = true ∧
    (l.suffix = [] ∨ isValidIntegerSuffix l.suffix = true) := by
  simp only [Lit.WF, Bool.and_eq_true, Bool.or_eq_true, Bool.not_eq_true', List.isEmpty_iff] at h
  refine ⟨?_, h.1.2, h.2⟩
  intro hd; simp [hd] at h

theorem wf_first {l : Lit} (h : l.WF = true) :
    ∃ d ds, l.digits = d :: ds ∧ l.base.isDigit d = true ∧ ds.all l.base.isDigit = true := by
  obtain ⟨hne, hall, _⟩ := wf_digits h
  obtain ⟨d, ds, hd⟩ := List.exists_cons_of_ne_nil hne
  rw [hd, List.all_cons, Bool.and_eq_true] at hall
  exact ⟨d, ds, hd, hall⟩

theorem suffix_stops {l : Lit} (h : l.WF = true) :
    l.suffix = [] ∨ ∃ c r, l.suffix = c :: r ∧ sufStart c = true := by
  rcases (wf_digits h).2.2 with h1 | h1
  · exact Or.inl h1
  · cases hs : l.suffix with
    | nil => exact Or.inl rfl
    | cons c r => rw [hs] at h1; exact Or.inr ⟨c, r, rfl, sufStart_of_valid h1⟩

/-- the suffix starts with no digit of any base -/
theorem span_render {l : Lit} (h : l.WF = true) {b : Base} {ds : Str} (hds : ds.all b.isDigit = true) :
    (ds ++ l.suffix).takeWhile b.isDigit = ds ∧ (ds ++ l.suffix).dropWhile b.isDigit = l.suffix := by
  rw [List.takeWhile_append_of_pos (List.all_eq_true.1 hds), List.dropWhile_append_of_pos (List.all_eq_true.1 hds)]
  rcases suffix_stops h with h1 | ⟨c, r, h1, h2⟩
  · rw [h1]; simp
  · rw [h1]; simp [not_isDigit_of_sufStart b h2]

theorem digit_not_space_sign {c : Char} (h : isXDigit c = true) :
    isSpace c = false ∧ (c == '-') = false ∧ (c == '+') = false := by
  refine ⟨?_, Text.beq_false_of_pred h, Text.beq_false_of_pred h⟩
  simp only [isXDigit, CharLit.isDigit, Bool.or_eq_true, Bool.and_eq_true, decide_eq_true_eq] at h
  simp only [isSpace, Bool.or_eq_false_iff, decide_eq_false_iff_not, Bool.and_eq_false_iff]
  omega

/-- the body starts with a hex-digit character (the `0` of a prefix or the first digit) -/
theorem body_head {l : Lit} (h : l.WF = true) : ∃ c r, body l = c :: r ∧ isXDigit c = true := by
  obtain ⟨d, ds, hd, hd1, _⟩ := wf_first h
  cases hb : l.base with
  | dec => exact ⟨d, ds ++ l.suffix, by simp [body, hb, hd, Base.pfx], isXDigit_of_base hd1⟩
  | hex => exact ⟨'0', _, by simp [body, hb, hd, Base.pfx]; rfl, by decide⟩
  | oct => exact ⟨'0', _, by simp [body, hb, hd, Base.pfx]; rfl, by decide⟩
  | bin => exact ⟨'0', _, by simp [body, hb, hd, Base.pfx]; rfl, by decide⟩

theorem skipPfx_ne16 {base : Nat} (h : base ≠ 16) (s : Str) : skipPfx base s = (s, 0) := if_neg h

theorem skipPfx_0x {x d : Char} (hx : (x == 'x' || x == 'X') = true) (hd : (digitOf 16 d).isSome = true) (r : Str) :
    skipPfx 16 ('0' :: x :: d :: r) = (d :: r, 2) := by
  simp only [skipPfx, if_true, hx, hd, Bool.and_self]

/-- the string starts with a hex digit, so there is no white space and no second sign -/
theorem strtoull_run (b : Base) (sg : Option Bool) {c : Char} {r s ds : Str} {np : Nat} (hc : isXDigit c = true)
    (hp : skipPfx b.radix (c :: r) = (s, np)) (hds : s.takeWhile b.isDigit = ds) (hne : ds ≠ []) :
    strtoull b.radix (signStr sg ++ c :: r) =
      if 2 ^ 64 ≤ positional b.radix ds then ⟨2 ^ 64 - 1, (signStr sg).length + np + ds.length, true⟩
      else ⟨if sg = some true then (2 ^ 64 - positional b.radix ds) % 2 ^ 64 else positional b.radix ds,
            (signStr sg).length + np + ds.length, false⟩ := by
  obtain ⟨hsp, hm, hpl⟩ := digit_not_space_sign hc
  have hs : skipSpaces (signStr sg ++ c :: r) 0 = (signStr sg ++ c :: r, 0) ∧
      splitSign (signStr sg ++ c :: r) = (sg == some true, c :: r, (signStr sg).length) := by
    cases sg with
    | none => simp [signStr, skipSpaces, splitSign, hsp, hm, hpl]
    | some b => cases b <;> simp [signStr, skipSpaces, splitSign, show isSpace '+' = false from rfl, show isSpace '-' = false from rfl]
  have hnd : ds.length ≠ 0 := mt List.eq_nil_of_length_eq_zero hne
  simp only [strtoull, hs.1, hs.2, hp, digitsGo_eq, hds, Nat.zero_mul, Nat.zero_add, hnd, if_false, ge_iff_le, beq_iff_eq]

/-- strtoull knows no octal prefix; the `0` of an octal literal is read as a digit of value 0 -/
theorem skipPfx_body {l : Lit} (h : l.WF = true) (hb : l.base ≠ .bin) :
    ∃ ds np, skipPfx l.base.radix (body l) = (ds ++ l.suffix, np) ∧ ds ≠ [] ∧ ds.all l.base.isDigit = true ∧
      positional l.base.radix ds = l.magnitude ∧ np + ds.length + l.suffix.length = (body l).length := by
  obtain ⟨hne, hall, _⟩ := wf_digits h
  obtain ⟨d, ds, hd, hd1, _⟩ := wf_first h
  unfold body Lit.magnitude
  generalize l.base = b at hb hall hd1 ⊢
  cases b with
  | bin => exact absurd rfl hb
  | dec => exact ⟨l.digits, 0, skipPfx_ne16 (by decide) _, hne, hall, rfl, by simp [Base.pfx]⟩
  | oct =>
    refine ⟨'0' :: l.digits, 0, skipPfx_ne16 (by decide) _, List.cons_ne_nil _ _, ?_, ?_, by simp [Base.pfx]; omega⟩
    · rw [List.all_cons, hall]; rfl
    · simp [positional, show digitVal '0' = 0 from rfl]
  | hex =>
    have hdig : (digitOf 16 d).isSome = true := by rw [show 16 = Base.hex.radix from rfl, digitOf_of_isDigit hd1]; rfl
    rw [hd] at hall ⊢
    exact ⟨d :: ds, 2, skipPfx_0x (by cases l.upper <;> rfl) hdig _, List.cons_ne_nil _ _, hall, rfl, by simp [Base.pfx]; omega⟩

theorem toU64_value (l : Lit) :
    toU64 l.value = if l.sign = some true then (2 ^ 64 - l.magnitude % 2 ^ 64) % 2 ^ 64 else l.magnitude % 2 ^ 64 := by
  unfold Lit.value
  by_cases hs : l.sign = some true
  · rw [if_pos hs, if_pos hs, toU64_neg_nat]
  · rw [if_neg hs, if_neg hs, toU64_nat]

theorem stoull_render {l : Lit} (h : l.WF = true) (hb : l.base ≠ .bin) :
    stoull l.base.radix (render l) =
      if 2 ^ 64 ≤ l.magnitude then .error .outOfRange
      else .ok (toU64 l.value, (render l).length - l.suffix.length) := by
  obtain ⟨c, r, hbody, hc⟩ := body_head h
  obtain ⟨ds, np, hp, hne, hds, hv, hlen⟩ := skipPfx_body h hb
  have hrun := strtoull_run l.base l.sign hc (hbody ▸ hp) (span_render h hds).1 hne
  have e : (signStr l.sign).length + np + ds.length = (render l).length - l.suffix.length := by
    rw [render_eq, List.length_append]; omega
  rw [← hbody, ← render_eq, hv, e] at hrun
  have hn : (render l).length - l.suffix.length ≠ 0 := by
    have := List.length_pos_iff.2 hne; omega
  rw [stoull, hrun]
  by_cases hov : 2 ^ 64 ≤ l.magnitude
  · simp only [hov, if_true, hn, if_false]
  · simp only [hov, if_false, hn, toU64_value, Nat.mod_eq_of_lt (Nat.lt_of_not_le hov), Bool.false_eq_true]

theorem digSuf_eq (p : Char → Bool) : ∀ (s : Str) (seen : Bool), digSuf p seen s =
    ((seen || !(s.takeWhile p).isEmpty) && ((s.dropWhile p).isEmpty || isValidIntegerSuffix (s.dropWhile p)))
  | [], seen => by cases seen <;> rfl
  | c :: r, seen => by
    by_cases hc : p c = true
    · have ih := digSuf_eq p r true
      cases seen <;> simpa [digSuf, hc, List.takeWhile_cons, List.dropWhile_cons] using ih
    · cases seen <;> simp [digSuf, hc]

theorem digSuf_elim {p : Char → Bool} {s : Str} (h : digSuf p false s = true) :
    ∃ ds suf, s = ds ++ suf ∧ ds ≠ [] ∧ ds.all p = true ∧ (suf = [] ∨ isValidIntegerSuffix suf = true) := by
  simp only [digSuf_eq, Bool.false_or, Bool.and_eq_true, Bool.or_eq_true, Bool.not_eq_true', List.isEmpty_eq_false_iff,
    List.isEmpty_iff] at h
  exact ⟨_, _, List.takeWhile_append_dropWhile.symm, h.1, List.all_takeWhile, h.2⟩

theorem stripSign_render {l : Lit} (h : l.WF = true) : stripSign (render l) = body l := by
  obtain ⟨c, r, hbody, hc⟩ := body_head h
  obtain ⟨_, hm, hp⟩ := digit_not_space_sign hc
  rw [render_eq]
  cases l.sign with
  | none => simp [signStr, hbody, stripSign, hm, hp]
  | some b => cases b <;> simp [signStr, stripSign]

theorem digSuf_digits {l : Lit} (h : l.WF = true) : digSuf l.base.isDigit false (l.digits ++ l.suffix) = true := by
  obtain ⟨hne, hall, hsuf⟩ := wf_digits h
  rw [digSuf_eq, (span_render h hall).1, (span_render h hall).2]
  simpa [hne] using hsuf

theorem not_pfx_letter {c : Char} (h : CharLit.isDigit c = true ∨ sufStart c = true) :
    (c == 'x' || c == 'X') = false ∧ (c == 'b' || c == 'B') = false := by
  rcases h with h | h <;>
    simp [Text.beq_false_of_pred h (b := 'x'), Text.beq_false_of_pred h (b := 'X'), Text.beq_false_of_pred h (b := 'b'),
      Text.beq_false_of_pred h (b := 'B')]

theorem classify_render {l : Lit} (h : l.WF = true) (hc : l.canonical = true) :
    isIntHex (render l) = (l.base == .hex) ∧ isOct (render l) = (l.base == .oct) ∧ isBin (render l) = (l.base == .bin) := by
  have hds := digSuf_digits h
  obtain ⟨d, ds, hd, hd1, _⟩ := wf_first h
  simp only [isIntHex, isOct, isBin, stripSign_render h, body]
  rw [hd] at hds ⊢
  cases hb : l.base with
  | hex =>
    rw [hb] at hds
    cases l.upper <;> simp [Base.pfx, Base.isDigit, digSuf, isOctDigit] at hds ⊢ <;> exact hds
  | bin =>
    rw [hb] at hds
    cases l.upper <;> simp [Base.pfx, Base.isDigit, digSuf, isOctDigit] at hds ⊢ <;> exact hds
  | oct =>
    rw [hb] at hd1 hds
    obtain ⟨hx, hbb⟩ := not_pfx_letter (Or.inl (isDigit_mono (b' := .dec) hd1 (by decide)))
    simp [Base.pfx, Base.isDigit, hx, hbb] at hds ⊢
    exact hds
  | dec =>
    rw [hb] at hd1
    obtain ⟨hx, hbb⟩ := not_pfx_letter (Or.inl hd1)
    simp only [Lit.canonical, hb, hd, bne_self_eq_false, Bool.false_or, List.head?_cons, Bool.or_eq_true, bne_iff_ne, ne_eq,
      Option.some.injEq, beq_iff_eq, List.cons.injEq] at hc
    simp only [Base.pfx, List.nil_append, List.cons_append]
    rcases hc with hc | ⟨h1, h2⟩
    · -- first digit not `0`: no prefix at all
      simp [hc]
    · -- the literal `0`: what follows is a suffix
      subst h1 h2
      rcases suffix_stops h with h3 | ⟨c, r, h3, h4⟩
      · simp [h3, digSuf]
      · obtain ⟨hx, hbb⟩ := not_pfx_letter (Or.inr h4)
        simp [h3, digSuf, hx, hbb, show isOctDigit c = false from not_isDigit_of_sufStart .oct h4]

theorem digit_not_e_dot {c : Char} (h : CharLit.isDigit c = true) : isE c = false ∧ (c == '.') = false :=
  ⟨by simp [isE, Text.ne_of_pred h (b := 'e'), Text.ne_of_pred h (b := 'E')], Text.beq_false_of_pred h⟩

theorem dfRun_digits (ds suf : Str) (hds : ds.all CharLit.isDigit = true) :
    dfRun .baseDigits1 (ds ++ suf) = dfRun .baseDigits1 suf := by
  induction ds with
  | nil => rfl
  | cons d ds ih =>
    simp only [List.all_cons, Bool.and_eq_true] at hds
    obtain ⟨h1, h2⟩ := digit_not_e_dot hds.1
    simp [dfRun, dfStep, h1, h2, hds.1, ih hds.2]

theorem dfStep_bd1_suf {c : Char} (h : sufStart c = true) : dfStep .baseDigits1 c = none := by
  rcases sufStart_cases h with e | e | e | e | e | e | e | e | e <;> subst e <;> decide

theorem isFloat_render_dec {l : Lit} (h : l.WF = true) (hc : l.canonical = true) (hb : l.base = .dec) : isFloat (render l) = false := by
  obtain ⟨d, ds, hd, hd1, hds⟩ := wf_first h
  simp only [hb, Base.isDigit] at hd1 hds
  have hbody : body l = d :: ds ++ l.suffix := by simp [body, hb, hd, Base.pfx]
  simp only [isFloat, isDecimalFloat, isFloatHex, stripSign_render h, hbody, Bool.or_eq_false_iff]
  obtain ⟨h1, h2⟩ := digit_not_e_dot hd1
  constructor
  · apply Bool.and_eq_false_imp.2
    intro _
    simp only [List.cons_append, dfRun, dfStep, h2, hd1, Bool.false_eq_true, if_false, if_true]
    rw [dfRun_digits _ _ hds]
    rcases suffix_stops h with h3 | ⟨c, r, h3, h4⟩
    · rw [h3]; rfl
    · rw [h3]; simp [dfRun, dfStep_bd1_suf h4]
  · apply Bool.and_eq_false_imp.2
    intro _
    simp only [Lit.canonical, hb, hd, bne_self_eq_false, Bool.false_or, List.head?_cons, Bool.or_eq_true, bne_iff_ne, ne_eq,
      Option.some.injEq, beq_iff_eq, List.cons.injEq] at hc
    rcases hc with hc | hc
    · simp [fhRun, fhStep, hc]
    · obtain ⟨e1, e2⟩ := hc
      subst e1 e2
      rcases suffix_stops h with h3 | ⟨c, r, h3, h4⟩
      · rw [h3]; rfl
      · rw [h3]
        have := (not_pfx_letter (Or.inr h4)).1
        simp only [List.cons_append, List.nil_append, fhRun, fhStep, beq_self_eq_true, if_true]
        simp only [Bool.or_eq_false_iff] at this
        simp [this.1, this.2]

theorem render_head {l : Lit} (h : l.WF = true) : ∃ c r, render l = c :: r ∧ (c = '+' ∨ c = '-' ∨ isXDigit c = true) := by
  obtain ⟨c, r, hbody, hc⟩ := body_head h
  rw [render_eq]
  cases l.sign with
  | none => exact ⟨c, r, by simp [signStr, hbody], Or.inr (Or.inr hc)⟩
  | some b =>
    cases b
    · exact ⟨'+', body l, by simp [signStr], Or.inl rfl⟩
    · exact ⟨'-', body l, by simp [signStr], Or.inr (Or.inl rfl)⟩

theorem isCharLiteral_render {l : Lit} (h : l.WF = true) : isCharLiteral (render l) = false := by
  obtain ⟨c, r, hr, hc⟩ := render_head h
  have hne : c ≠ '\'' ∧ c ≠ 'u' ∧ c ≠ 'U' ∧ c ≠ 'L' := by
    rcases hc with hc | hc | hc
    · subst hc; decide
    · subst hc; decide
    · refine ⟨?_, ?_, ?_, ?_⟩ <;> (intro e; subst e; revert hc; decide)
  rw [hr]
  simp [isCharLiteral, isPrefixStringCharLiteral, List.take, hne.1, hne.2.1, hne.2.2.1, hne.2.2.2]

theorem binLoop_digit {d : Char} (h : isBinDigit d = true) (acc : Nat) (r : Str) :
    binLoop acc (d :: r) = binLoop ((acc * 2 + digitVal d) % 2 ^ 64) r := by
  simp only [isBinDigit, Bool.or_eq_true, beq_iff_eq] at h
  rcases h with rfl | rfl <;> rfl

theorem binLoop_eq : ∀ (s : Str) (acc n : Nat), binLoop (acc % 2 ^ 64) s = (digitsGo 2 acc n s).1 % 2 ^ 64
  | [], _, _ => rfl
  | c :: r, acc, n => by
    rw [digitsGo, show 2 = Base.bin.radix from rfl, digitOf_radix]
    by_cases hc : isBinDigit c = true
    · have ih := binLoop_eq r (acc * 2 + digitVal c) (n + 1)
      simp only [Base.isDigit, hc, if_true, Base.radix] at ih ⊢
      rw [binLoop_digit hc, ← ih, Nat.add_mod, Nat.mul_mod, Nat.mod_mod, ← Nat.mul_mod, ← Nat.add_mod]
    · simp only [Base.isDigit, hc, Bool.false_eq_true, if_false]
      simp only [isBinDigit, Bool.or_eq_true, beq_iff_eq, not_or] at hc
      simp [binLoop, hc.1, hc.2]

theorem binStart_render {l : Lit} (hb : l.base = .bin) : binStart (render l) = l.digits ++ l.suffix := by
  rw [render_eq]
  have hbody : body l = '0' :: (if l.upper = true then 'B' else 'b') :: (l.digits ++ l.suffix) := by
    simp [body, hb, Base.pfx]
  cases l.sign with
  | none => simp [signStr, hbody, binStart]
  | some b => cases b <;> simp [signStr, hbody, binStart]

theorem isNegative_render {l : Lit} (h : l.WF = true) : isNegative (render l) = (l.sign == some true) := by
  obtain ⟨c, r, hbody, hc⟩ := body_head h
  obtain ⟨_, hm, _⟩ := digit_not_space_sign hc
  rw [render_eq]
  cases l.sign with
  | none =>
    simp only [signStr, List.nil_append, hbody, isNegative]
    split
    · rename_i heq; simp at heq; simp [heq.1] at hm
    · rfl
  | some b => cases b <;> simp [signStr, isNegative]

theorem binLoop_render {l : Lit} (h : l.WF = true) (hb : l.base = .bin) :
    binLoop 0 (binStart (render l)) = l.magnitude % 2 ^ 64 := by
  have hd := (span_render h (wf_digits h).2.1).1
  rw [hb] at hd
  rw [binStart_render hb, binLoop_eq _ 0 0, show 2 = Base.bin.radix from rfl, digitsGo_eq, hd, Lit.magnitude, hb, Nat.zero_mul,
    Nat.zero_add]

theorem drop_render_suffix (l : Lit) : (render l).drop ((render l).length - l.suffix.length) = l.suffix := by
  have : render l = (signStr l.sign ++ l.base.pfx l.upper ++ l.digits) ++ l.suffix := by simp [render]
  rw [this]
  apply List.drop_left'
  simp
  omega

/-- `toBigNumber` and `toBigUNumber` in one: they differ only in how they hand on what they read -/
def toBigWith (ofU : Nat → Int) (ofBin : Bool → Nat → Int) (ofChar : Int → Int) (s : Str) : Res :=
  if isIntHex s then
    match stoull 16 s with
    | .ok (v, _) => .ok (ofU v)
    | .error e => .err e
  else if isOct s then
    match stoull 8 s with
    | .ok (v, _) => .ok (ofU v)
    | .error e => .err e
  else if isBin s then .ok (ofBin (isNegative s) (binLoop 0 (binStart s)))
  else if isFloat s then .float
  else if isCharLiteral s then
    match characterLiteralToLL s with
    | .ok v => .ok (ofChar v)
    | .error _ => .err .badChar
  else
    match stoull 10 s with
    | .ok (v, idx) =>
      if idx ≠ s.length && !isValidIntegerSuffix (s.drop idx) then .err .notConsumed else .ok (ofU v)
    | .error e => .err e

theorem toBigNumber_eq (s : Str) :
    toBigNumber s = toBigWith toI64 (fun neg v => if neg then toI64 (toU64 (-toI64 v)) else toI64 v) id s := rfl

theorem toBigUNumber_eq (s : Str) :
    toBigUNumber s = toBigWith (fun v => v) (fun neg v => if neg then ((2 ^ 64 - v) % 2 ^ 64 : Nat) else v) (fun v => toU64 v) s := rfl

/-- `hbin`: what the binary loop read is handed on as the same bits from `stoull` would be, a minus sign being the unsigned
    negation -/
theorem toBigWith_render {l : Lit} (hwf : l.WF = true) (hc : l.canonical = true) {ofU : Nat → Int} {ofBin : Bool → Nat → Int}
    (ofChar : Int → Int)
    (hbin : ∀ neg v, ofBin neg (v % 2 ^ 64) = ofU (if neg = true then (2 ^ 64 - v % 2 ^ 64) % 2 ^ 64 else v % 2 ^ 64)) :
    toBigWith ofU ofBin ofChar (render l) =
      if l.base ≠ .bin ∧ 2 ^ 64 ≤ l.magnitude then .err .outOfRange else .ok (ofU (toU64 l.value)) := by
  obtain ⟨h1, h2, h3⟩ := classify_render hwf hc
  unfold toBigWith
  cases hb : l.base with
  | bin =>
    rw [hb] at h1 h2 h3
    simp [h1, h2, h3, binLoop_render hwf hb, isNegative_render hwf, hbin, toU64_value]
  | hex =>
    have hs := stoull_render hwf (by simp [hb])
    rw [hb] at h1 hs
    simp only [h1, beq_self_eq_true, if_true, Base.radix] at hs ⊢
    by_cases hov : 2 ^ 64 ≤ l.magnitude <;> simp [hs, hov]
  | oct =>
    have hs := stoull_render hwf (by simp [hb])
    rw [hb] at h1 h2 hs
    simp only [h1, h2, beq_self_eq_true, if_true, Base.radix] at hs ⊢
    by_cases hov : 2 ^ 64 ≤ l.magnitude <;> simp [hs, hov]
  | dec =>
    have hs := stoull_render hwf (by simp [hb])
    rw [hb] at h1 h2 h3 hs
    simp only [Base.radix] at hs
    -- what `stoull` leaves unread is the suffix, which the suffix machine accepts
    have hsuf : (render l).length - l.suffix.length ≠ (render l).length →
        isValidIntegerSuffix ((render l).drop ((render l).length - l.suffix.length)) = true := by
      rw [drop_render_suffix]
      rcases (wf_digits hwf).2.2 with h4 | h4 <;> simp [h4]
    by_cases hov : 2 ^ 64 ≤ l.magnitude <;>
      simp [h1, h2, h3, isFloat_render_dec hwf hc hb, isCharLiteral_render hwf, hs, hov]
    exact hsuf

theorem toBigNumber_render {l : Lit} (hwf : l.WF = true) (hc : l.canonical = true) :
    toBigNumber (render l) =
      if l.base ≠ .bin ∧ 2 ^ 64 ≤ l.magnitude then .err .outOfRange else .ok (Int.bmod l.value (2 ^ 64)) := by
  rw [toBigNumber_eq, toBigWith_render hwf hc, toI64_toU64]
  intro neg v
  cases neg
  · rfl
  · -- negated as a bigint or as a biguint: both are the balanced residue of `-v`
    show toI64 (toU64 (-toI64 (v % 2 ^ 64))) = toI64 ((2 ^ 64 - v % 2 ^ 64) % 2 ^ 64)
    rw [← toU64_neg_nat, toI64_toU64, toI64_toU64, toI64_mod]
    exact Int.bmod_neg_bmod

theorem toBigUNumber_render {l : Lit} (hwf : l.WF = true) (hc : l.canonical = true) :
    toBigUNumber (render l) =
      if l.base ≠ .bin ∧ 2 ^ 64 ≤ l.magnitude then .err .outOfRange else .ok (l.value % 2 ^ 64) := by
  rw [toBigUNumber_eq, toBigWith_render hwf hc, toU64_cast]
  intro neg v
  cases neg <;> rfl

theorem stripSign_split (s : Str) : ∃ sg : Option Bool, s = signStr sg ++ stripSign s := by
  cases s with
  | nil => exact ⟨none, rfl⟩
  | cons c r =>
    by_cases hp : c = '+'
    · subst hp; exact ⟨some false, by simp [stripSign, signStr]⟩
    · by_cases hm : c = '-'
      · subst hm; exact ⟨some true, by simp [stripSign, signStr]⟩
      · exact ⟨none, by simp [stripSign, signStr, hp, hm]⟩

theorem isInt_iff (s : Str) : isInt s = true ↔
    ∃ (b : Base) (up : Bool) (r : Str), stripSign s = b.pfx up ++ r ∧ digSuf b.isDigit false r = true := by
  constructor
  · intro h
    simp only [isInt, Bool.or_eq_true] at h
    rcases h with ((h | h) | h) | h
    · exact ⟨.dec, false, _, rfl, h⟩
    · simp only [isIntHex] at h
      split at h
      · next x r heq =>
        simp only [Bool.and_eq_true, Bool.or_eq_true, beq_iff_eq] at h
        exact ⟨.hex, x == 'X', r, by rw [heq]; rcases h.1 with rfl | rfl <;> rfl, h.2⟩
      · cases h
    · simp only [isOct] at h
      split at h
      · next r heq => exact ⟨.oct, false, r, heq, h⟩
      · cases h
    · simp only [isBin] at h
      split at h
      · next x r heq =>
        simp only [Bool.and_eq_true, Bool.or_eq_true, beq_iff_eq] at h
        exact ⟨.bin, x == 'B', r, by rw [heq]; rcases h.1 with rfl | rfl <;> rfl, h.2⟩
      · cases h
  · rintro ⟨b, up, r, hs, h⟩
    simp only [isInt, isDec, isIntHex, isOct, isBin, hs, Bool.or_eq_true]
    cases b
    · exact Or.inl (Or.inl (Or.inl h))
    · exact Or.inl (Or.inl (Or.inr (by cases up <;> exact Bool.and_eq_true_iff.2 ⟨rfl, h⟩)))
    · exact Or.inl (Or.inr h)
    · exact Or.inr (by cases up <;> exact Bool.and_eq_true_iff.2 ⟨rfl, h⟩)

theorem isInt_of_render {l : Lit} (h : l.WF = true) : isInt (render l) = true :=
  (isInt_iff _).2 ⟨l.base, l.upper, _, (stripSign_render h).trans (List.append_assoc ..), digSuf_digits h⟩

theorem render_of_isInt {s : Str} (h : isInt s = true) : ∃ l : Lit, l.WF = true ∧ render l = s := by
  obtain ⟨b, up, r, hs, h⟩ := (isInt_iff s).1 h
  obtain ⟨ds, suf, rfl, hne, hall, hsuf⟩ := digSuf_elim h
  obtain ⟨sg, hsg⟩ := stripSign_split s
  refine ⟨⟨sg, b, up, ds, suf⟩, ?_, ?_⟩
  · simp only [Lit.WF, Bool.and_eq_true, Bool.or_eq_true, Bool.not_eq_true', List.isEmpty_eq_false_iff, List.isEmpty_iff]
    exact ⟨⟨hne, hall⟩, hsuf⟩
  · rw [hsg, hs, render, List.append_assoc, List.append_assoc]

/-! ## literal spelling → type (C09's model of `setValueTypeInTokenList`) → reported value -/

open Cppcheck.ValueTypeConv in
/-- bit count of the type the literal typing can choose -/
def litBits (ib lb llb : Nat) : VType → Nat
  | .int => ib | .long => lb | .llong => llb | _ => 0

theorem maxValue_big {b : Nat} (h : 2 ^ 62 ≤ Cppcheck.ValueTypeConv.maxValue b) : 64 ≤ b := by
  apply Classical.byContradiction
  intro hb
  have hb' : b < 64 := by omega
  have : ¬ (b ≥ 64) := by omega
  simp only [Cppcheck.ValueTypeConv.maxValue, this, if_false] at h
  have : 2 ^ (b - 1) ≤ 2 ^ 62 := Nat.pow_le_pow_right (by decide) (by omega)
  omega

theorem maxValue_le (b : Nat) : Cppcheck.ValueTypeConv.maxValue b ≤ 2 ^ 63 - 1 := by
  simp only [Cppcheck.ValueTypeConv.maxValue]
  split
  · exact Nat.le_refl _
  · rename_i h
    have : 2 ^ (b - 1) ≤ 2 ^ 63 := Nat.pow_le_pow_right (by decide) (by omega)
    omega

theorem ite_ind {α : Sort _} {P : α → Prop} {c : Prop} [Decidable c] {a b : α} (ha : c → P a) (hb : ¬ c → P b) :
    P (if c then a else b) := by
  by_cases h : c
  · rw [if_pos h]; exact ha h
  · rw [if_neg h]; exact hb h

open Cppcheck.ValueTypeConv in
theorem litTypeCore_above {imax lmax llmax m : Nat} (hi : imax < m) (hl : lmax < m) (hll : llmax < m) (dec us : Bool) (longs : Nat) :
    (litTypeCore imax lmax llmax dec us longs m).sign = .unsigned ∧
    match (litTypeCore imax lmax llmax dec us longs m).type with
    | .int => m / 2 ≤ imax | .long => m / 2 ≤ lmax | .llong => True | _ => False := by
  have e1 : m >>> 1 = m / 2 := Nat.shiftRight_eq_div_pow m 1
  -- a branch taken because the tested value is at most a maximum `x`: the tested value is the half, so there is a `u`
  have key {x : Nat} (hx : x < m) (h : (if us = true then m >>> 1 else m) ≤ x) :
      (if us = true then Sign.unsigned else .signed) = .unsigned ∧ m / 2 ≤ x := by
    cases us
    · exact absurd h (Nat.not_le.2 hx)
    · exact ⟨rfl, e1 ▸ h⟩
  let P (r : VT) : Prop := r.sign = .unsigned ∧ match r.type with
    | .int => m / 2 ≤ imax | .long => m / 2 ≤ lmax | .llong => True | _ => False
  show P _
  unfold litTypeCore
  dsimp only
  generalize (if us = true then m >>> 1 else m) = v1, (if us = true then Sign.unsigned else .signed) = sign0 at key
  refine ite_ind (fun h => key hi h.2) fun _ => ?_
  refine ite_ind (fun h => ⟨rfl, e1 ▸ h.2.2⟩) fun _ => ?_
  refine ite_ind (fun h => key hl h.2) fun _ => ?_
  refine ite_ind (fun h => ⟨rfl, e1 ▸ h.2.2⟩) fun _ => ?_
  exact ite_ind (fun h => ⟨(key hll h).1, trivial⟩) fun _ => ⟨rfl, trivial⟩

open Cppcheck.ValueTypeConv in
/-- a literal that bigint cannot hold as a non-negative number is typed unsigned with 64 bits (given 64-bit `long long`) -/
theorem litType_large (ib lb : Nat) (hib : ib ≤ 64) (hlb : lb ≤ 64) (dec us : Bool) (longs m : Nat)
    (h1 : 2 ^ 63 ≤ m) :
    (litTypeCore (maxValue ib) (maxValue lb) (maxValue 64) dec us longs m).sign = .unsigned ∧
    litBits ib lb 64 (litTypeCore (maxValue ib) (maxValue lb) (maxValue 64) dec us longs m).type = 64 := by
  have hlt (b : Nat) : maxValue b < m := Nat.lt_of_le_of_lt (maxValue_le b) (by omega)
  obtain ⟨hs, ht⟩ := litTypeCore_above (hlt ib) (hlt lb) (hlt 64) dec us longs
  refine ⟨hs, ?_⟩
  generalize (litTypeCore (maxValue ib) (maxValue lb) (maxValue 64) dec us longs m).type = t at ht
  -- `int` and `long` are left: half the value fits the type only if the type has 64 bits
  have h64 {b : Nat} (hb : b ≤ 64) (h : m / 2 ≤ maxValue b) : b = 64 := Nat.le_antisymm hb (maxValue_big (by omega))
  cases t <;> simp only [litBits] at ht ⊢
  · exact h64 hib ht
  · exact h64 hlb ht

end Cppcheck.MathLit
