import Cppcheck.Proofs.Match
/-
C33 (audit item M4) — the pattern language as DOCUMENTED (lib/token.h, doc comment of `Token::Match`), written as
a grammar that does not mention the compiler's classification function `Word.ofStr` / `parse`, and
the lemmas that relate the two.

    * - "%any%" any token                         * - "[abc]" Any of the characters 'a' or 'b' or 'c'
    * - "%assign%" a assignment operand           * - "int|void|char" Any of the strings, int, void or char
    * - ... (15 `%cmd%` words)                    * - "int|void|char|" Any of the strings, int, void or char or no token
    * - "%varid%" Match with parameter varid      * - "!!else" No tokens or any token that is not "else".
    *                                             * - "someRandomText" If token contains "someRandomText".
    * multi-compare patterns such as "int|void|char" can contain %%or%, %%oror% and %%op% ...
    * The patterns can be also combined to compare to multiple tokens at once by separating tokens with a space

The comment leaves the overlaps between the forms open; the three disambiguation rules below
(`Bracketed`, `Bang`, and "only the last alternative may be empty") are what both matchers implement
and are stated as side conditions of the grammar, not taken from `Word.ofStr`.
Behind the grammar: `words` / `skipWord` on a first word followed by the end or a blank (`restOK`), then the two directions
word by word and pattern by pattern, and last `DocParts`, the alternatives of a word as the interpreter walks over them.
-/
namespace Cppcheck.Match
open Cppcheck.Wire

/-- the fifteen `%cmd%` words of the doc comment -/
inductive DocCmd : Str → Cmd → Prop
  | any : DocCmd "%any%".toList .any
  | assign : DocCmd "%assign%".toList .assign
  | bool : DocCmd "%bool%".toList .bool
  | char : DocCmd "%char%".toList .char
  | comp : DocCmd "%comp%".toList .comp
  | cop : DocCmd "%cop%".toList .cop
  | name : DocCmd "%name%".toList .name
  | num : DocCmd "%num%".toList .num
  | op : DocCmd "%op%".toList .op
  | or : DocCmd "%or%".toList .or
  | oror : DocCmd "%oror%".toList .oror
  | type : DocCmd "%type%".toList .type
  | str : DocCmd "%str%".toList .str
  | var : DocCmd "%var%".toList .var
  | varid : DocCmd "%varid%".toList .varid

/-- "someRandomText": a non-empty text without blank and without `|` that is not a `%…` word
    (the operators `%` and `%=` are ordinary texts) -/
def PlainLit (s : Str) : Prop :=
  s ≠ [] ∧ ' ' ∉ s ∧ '|' ∉ s ∧ (s.head? ≠ some '%' ∨ s = ['%'] ∨ s = ['%', '='])

instance (s : Str) : Decidable (PlainLit s) := by unfold PlainLit; exact inferInstance

/-- what may stand between the `|` of "int|void|char": a `%cmd%` or a text -/
inductive DocAtom : Str → Atom → Prop
  | cmd {s : Str} {c : Cmd} : DocCmd s c → DocAtom s (.cmd c)
  | lit {s : Str} : PlainLit s → DocAtom s (.lit s)

inductive DocAtoms : List Str → List Atom → Prop
  | nil : DocAtoms [] []
  | cons {a : Str} {A : Atom} {r : List Str} {R : List Atom} : DocAtom a A → DocAtoms r R → DocAtoms (a :: r) (A :: R)

/-- disambiguation 1: a word that starts with `[` and contains `]` is read as a character class -/
def Bracketed (w : Str) : Prop := w.head? = some '[' ∧ ']' ∈ w

/-- disambiguation 2: a word that starts with `!!` is read as a negation -/
def Bang (w : Str) : Prop := w.take 2 = ['!', '!']

instance (w : Str) : Decidable (Bracketed w) := by unfold Bracketed; exact inferInstance

instance (w : Str) : Decidable (Bang w) := by unfold Bang; exact inferInstance

/-- `a|b|c` -/
def bars : List Str → Str
  | [] => []
  | [a] => a
  | a :: b :: r => a ++ '|' :: bars (b :: r)

inductive DocWord : Str → Word → Prop
  /-- "[abc]" -/
  | cls (cs : Str) : cs ≠ [] → ' ' ∉ cs → DocWord ('[' :: (cs ++ [']'])) (.cls cs)
  /-- "!!else" (alternatives are recognised first: no `|` in the text) -/
  | neg (s : Str) : s ≠ [] → ' ' ∉ s → '|' ∉ s → DocWord ('!' :: '!' :: s) (.neg s)
  /-- "%name%", "someRandomText" -/
  | one (a : Str) (A : Atom) : DocAtom a A → ¬ Bracketed a → ¬ Bang a → DocWord a (.one A)
  /-- "int|void|char", "int|void|char|": `ps` = the texts between the `|` (at least two, only the last
      may be empty = "or no token"), `as` = the meaning of the non-empty ones -/
  | alts (ps : List Str) (as : List Atom) : 2 ≤ ps.length → (∀ a ∈ ps.dropLast, a ≠ []) →
      DocAtoms (ps.filter (· ≠ [])) as → ¬ Bracketed (bars ps) → ¬ Bang (bars ps) →
      DocWord (bars ps) (.alts as (ps.any (· = [])))

/-- "combined ... by separating tokens with a space": words separated by one or more blanks,
    blanks in front and behind allowed -/
inductive DocPattern : Str → List Word → Prop
  | nil : DocPattern [] []
  | blank (p : Str) (Ws : List Word) : DocPattern p Ws → DocPattern (' ' :: p) Ws
  | last (w : Str) (W : Word) : DocWord w W → DocPattern w [W]
  | word (w : Str) (W : Word) (p : Str) (Ws : List Word) :
      DocWord w W → DocPattern p Ws → DocPattern (w ++ ' ' :: p) (W :: Ws)

/-- what may follow a word inside a pattern: the end or a blank -/
def restOK (s : Str) : Prop := s = [] ∨ ∃ r, s = ' ' :: r

theorem splitOn_nosep (c : Char) (w : Str) (hw : c ∉ w) : splitOn c w = [w] := by
  rw [splitOn_eq, List.splitOn_eq_singleton hw]

theorem splitOn_append_sep (c : Char) (w r : Str) (hw : c ∉ w) :
    splitOn c (w ++ c :: r) = w :: splitOn c r := by
  rw [splitOn_eq, splitOn_eq, List.splitOn_append_cons_self_of_not_mem hw]

theorem words_space (r : Str) : words (' ' :: r) = words r := by
  simp [words, splitOn]

theorem words_nil : words [] = [] := by simp [words, splitOn]

theorem skipSpaces_eq (p : Str) : skipSpaces p = p.dropWhile (· = ' ') := by
  fun_induction skipSpaces p with
  | case1 r ih => simpa using ih
  | case2 s h =>
    cases s with
    | nil => rfl
    | cons c r => simp [show c ≠ ' ' from fun e => h r (e ▸ rfl)]

theorem words_skipSpaces (p : Str) : words (skipSpaces p) = words p := by
  fun_induction skipSpaces p with
  | case1 r ih => rw [ih, words_space]
  | case2 s h => rfl

theorem words_word (w : Str) (hne : w ≠ []) (hw : ' ' ∉ w) : words w = [w] := by
  simp [words, splitOn_nosep ' ' w hw, hne]

theorem words_word_rest (w r : Str) (hne : w ≠ []) (hw : ' ' ∉ w) :
    words (w ++ ' ' :: r) = w :: words r := by
  simp [words, splitOn_append_sep ' ' w r hw, hne]

theorem skipWord_eq (p : Str) : skipWord p = p.dropWhile (· ≠ ' ') := by
  induction p with
  | nil => rfl
  | cons c r ih => by_cases h : c = ' ' <;> simp [skipWord, h, ih]

theorem skipWord_restOK (p : Str) : restOK (skipWord p) := by
  induction p with
  | nil => exact .inl rfl
  | cons c r ih =>
    by_cases h : c = ' '
    · exact .inr ⟨r, by simp [skipWord, h]⟩
    · simpa [skipWord, h] using ih

theorem takeWhile_nospace (p : Str) : ' ' ∉ p.takeWhile (· ≠ ' ') :=
  fun hx => of_decide_eq_true (List.all_eq_true.1 List.all_takeWhile ' ' hx) rfl

theorem first_word (p : Str) :
    p = p.takeWhile (· ≠ ' ') ++ skipWord p ∧ restOK (skipWord p) ∧ ' ' ∉ p.takeWhile (· ≠ ' ') :=
  ⟨by rw [skipWord_eq]; exact List.takeWhile_append_dropWhile.symm, skipWord_restOK p, takeWhile_nospace p⟩

theorem bars_eq : ∀ ps, bars ps = ['|'].intercalate ps :=
  Text.eq_intercalate rfl (fun _ => rfl) fun _ _ _ => rfl

theorem bars_splitOn (w : Str) : bars (splitOn '|' w) = w := by
  rw [splitOn_eq, bars_eq, List.intercalate_splitOn]

theorem cls_shape (w : Str) (h : clsCond w) :
    ∃ cs, cs ≠ [] ∧ w = '[' :: (cs ++ [']']) ∧ (w.drop 1).dropLast = cs := by
  obtain ⟨hl, hh, hlast⟩ := h
  obtain ⟨ys, rfl⟩ := List.getLast?_eq_some_iff.mp hlast
  cases ys with
  | nil => simp at hl
  | cons c cs =>
    simp only [List.cons_append, List.head?_cons, Option.some.injEq] at hh
    subst hh
    refine ⟨cs, ?_, rfl, by simp⟩
    intro e
    subst e
    simp at hl

theorem findIdx_eq (c : Char) : ∀ w : Str, findIdx c w = w.idxOf? c
  | [] => rfl
  | x :: r => by simp [findIdx, findIdx_eq c r, List.idxOf?, List.findIdx?_cons]

theorem findIdx_none_iff (c : Char) (w : Str) : findIdx c w = none ↔ c ∉ w :=
  findIdx_eq c w ▸ List.idxOf?_eq_none_iff

theorem altCond_mem (w : Str) (h : altCond w = true) : '|' ∈ w :=
  Classical.not_not.1 fun hn => by simp [altCond, (findIdx_none_iff '|' w).2 hn] at h

theorem splitOn_two (c : Char) (w : Str) (h : c ∈ w) : ∃ a b r, splitOn c w = a :: b :: r :=
  splitOn_eq c w ▸ Text.splitOn_of_mem h

theorem getLast?_append_cons {α : Type} (l : List α) (x : α) (l' : List α) :
    (l ++ x :: l').getLast? = (x :: l').getLast? := by
  rw [List.getLast?_append, List.getLast?_cons]
  rfl

theorem take_two_eq (w : Str) (a b : Char) (h : w.take 2 = [a, b]) : w = a :: b :: w.drop 2 := by
  cases w with
  | nil => simp at h
  | cons x w =>
    cases w with
    | nil => simp at h
    | cons y w => simp at h; simp [h.1, h.2]

theorem docCmd_text : ∀ c : Cmd, DocCmd c.text.toList c
  | .any => .any | .assign => .assign | .bool => .bool | .char => .char | .comp => .comp | .num => .num
  | .cop => .cop | .op => .op | .or => .or | .oror => .oror | .str => .str | .type => .type | .name => .name
  | .var => .var | .varid => .varid

theorem docCmd_spell (s : Str) (c : Cmd) : DocCmd s c ↔ s = c.spell := by
  rw [← Cmd.text_toList]
  constructor
  · intro h; cases h <;> rfl
  · rintro rfl; exact docCmd_text c

theorem spell_head_pct : ∀ c : Cmd, c.spell.head? = some '%' ∧ c.spell ≠ ['%'] ∧ c.spell ≠ ['%', '='] := by
  decide +kernel

theorem plainLit_not_cmd (s : Str) (h : PlainLit s) : Cmd.ofStr s = none := by
  cases hc : Cmd.ofStr s with
  | none => rfl
  | some c =>
    have := Cmd.ofStr_some s c hc
    subst this
    obtain ⟨h1, h2, h3⟩ := spell_head_pct c
    rcases h.2.2.2 with h' | h' | h'
    · exact absurd h1 h'
    · exact absurd h' h2
    · exact absurd h' h3

theorem isCmdOrPlain_none (a : Str) (h : Cmd.ofStr a = none) : isCmdOrPlain a = true ↔ PlainLit a := by
  simp only [isCmdOrPlain, h, PlainLit, Bool.and_eq_true, Bool.or_eq_true, Bool.not_eq_true', decide_eq_true_eq, ne_eq,
    List.contains_eq_mem, decide_eq_false_iff_not, or_assoc]
  exact ⟨fun ⟨⟨⟨h1, h3⟩, h2⟩, h4⟩ => ⟨h1, h2, h3, h4⟩,
    fun ⟨h1, h2, h3, h4⟩ => ⟨⟨⟨h1, h3⟩, h2⟩, h4⟩⟩

theorem docAtom_iff (a : Str) (A : Atom) : DocAtom a A ↔ isCmdOrPlain a = true ∧ Atom.ofStr a = A := by
  constructor
  · intro h
    cases h with
    | cmd hc =>
      rw [(docCmd_spell _ _).1 hc]
      simp [isCmdOrPlain, Atom.ofStr, Cmd.ofStr_spell]
    | lit hl =>
      have hn := plainLit_not_cmd a hl
      exact ⟨(isCmdOrPlain_none a hn).2 hl, by simp [Atom.ofStr, hn]⟩
  · rintro ⟨h, rfl⟩
    cases hc : Cmd.ofStr a with
    | some c =>
      simp only [Atom.ofStr, hc]
      exact .cmd ((docCmd_spell _ _).2 (Cmd.ofStr_some a c hc))
    | none =>
      simp only [Atom.ofStr, hc]
      exact .lit ((isCmdOrPlain_none a hc).1 h)

theorem spell_chars : ∀ c : Cmd, ∀ x ∈ c.spell, x ≠ '|' ∧ x ≠ ' ' := by decide +kernel

theorem docAtom_chars (a : Str) (A : Atom) (h : DocAtom a A) : a ≠ [] ∧ ' ' ∉ a ∧ '|' ∉ a := by
  cases h with
  | cmd hc =>
    rw [(docCmd_spell _ _).1 hc]
    rename_i c
    have := spell_chars c
    refine ⟨by cases c <;> decide, fun hm => (this _ hm).2 rfl, fun hm => (this _ hm).1 rfl⟩
  | lit hl => exact ⟨hl.1, hl.2.1, hl.2.2.1⟩

theorem isCmdOrPlain_chars (a : Str) (h : isCmdOrPlain a = true) : a ≠ [] ∧ ' ' ∉ a ∧ '|' ∉ a :=
  docAtom_chars a _ ((docAtom_iff a _).2 ⟨h, rfl⟩)

theorem splitOn_bars : ∀ (ps : List Str), ps ≠ [] → (∀ a ∈ ps, '|' ∉ a) → splitOn '|' (bars ps) = ps :=
  fun ps hne h => by rw [splitOn_eq, bars_eq, List.splitOn_intercalate '|' h hne]

theorem mem_bars : ∀ (ps : List Str) (x : Char), x ∈ bars ps → x = '|' ∨ ∃ a ∈ ps, x ∈ a := by
  intro ps
  induction ps with
  | nil => intro x h; simp [bars] at h
  | cons a r ih =>
    intro x h
    cases r with
    | nil => simp only [bars] at h; exact Or.inr ⟨a, by simp, h⟩
    | cons b r' =>
      simp only [bars, List.mem_append, List.mem_cons] at h
      rcases h with h | h | h
      · exact Or.inr ⟨a, by simp, h⟩
      · exact Or.inl h
      · rcases ih x h with h' | ⟨a', ha', hx⟩
        · exact Or.inl h'
        · exact Or.inr ⟨a', by simp [ha'], hx⟩

theorem bars_head (a b : Str) (r : List Str) (ha : a ≠ []) : (bars (a :: b :: r)).head? = a.head? := by
  cases a with
  | nil => exact absurd rfl ha
  | cons x a' => simp [bars]

theorem altCond_of (w : Str) (x : Char) (w' : Str) (hw : w = x :: w') (hx : x ≠ '|') (hm : '|' ∈ w') : altCond w = true := by
  subst hw
  cases hf : findIdx '|' w' with
  | none => exact absurd hm ((findIdx_none_iff '|' w').1 hf)
  | some n => simp [altCond, findIdx, hx, hf]

theorem altCond_false_of (w : Str) (h : '|' ∉ w) : altCond w = false := by
  simp [altCond, (findIdx_none_iff '|' w).2 h]

theorem clsCond_bracketed (w : Str) (h : clsCond w) : Bracketed w :=
  ⟨h.2.1, List.mem_of_getLast? h.2.2⟩

theorem docAtoms_iff (xs : List Str) (as : List Atom) :
    DocAtoms xs as ↔ (∀ a ∈ xs, isCmdOrPlain a = true) ∧ xs.map Atom.ofStr = as := by
  constructor
  · intro h
    induction h with
    | nil => simp
    | cons h1 _ ih =>
      obtain ⟨ha, rfl⟩ := (docAtom_iff _ _).1 h1
      obtain ⟨hr, rfl⟩ := ih
      exact ⟨List.forall_mem_cons.2 ⟨ha, hr⟩, rfl⟩
  · rintro ⟨h, rfl⟩
    induction xs with
    | nil => exact .nil
    | cons a r ih =>
      obtain ⟨ha, hr⟩ := List.forall_mem_cons.1 h
      exact .cons ((docAtom_iff a _).2 ⟨ha, rfl⟩) (ih hr)

/-- the two conjuncts of `wordWF` about the texts between the `|` say what `DocWord.alts` asks of them -/
theorem partsWF_iff (ps : List Str) (hne : ps ≠ []) :
    (ps.dropLast.all isCmdOrPlain = true ∧
      (match ps.getLast? with | some l => decide (l = []) || isCmdOrPlain l | none => false) = true) ↔
      (∀ a ∈ ps.dropLast, a ≠ []) ∧ ∀ a ∈ ps.filter (· ≠ []), isCmdOrPlain a = true := by
  obtain ⟨ys, l, rfl⟩ : ∃ ys l, ps = ys ++ [l] := ⟨_, _, (List.dropLast_concat_getLast hne).symm⟩
  simp only [List.dropLast_concat, List.getLast?_concat, List.all_eq_true, Bool.or_eq_true, decide_eq_true_eq,
    List.filter_append, List.mem_append, List.mem_filter, ne_eq, decide_not, Bool.not_eq_true', decide_eq_false_iff_not]
  constructor
  · rintro ⟨h1, h2⟩
    refine ⟨fun a ha => (isCmdOrPlain_chars a (h1 a ha)).1, ?_⟩
    rintro a (⟨ha, -⟩ | ⟨ha, hae⟩)
    · exact h1 a ha
    · simp only [List.mem_singleton] at ha
      subst ha
      exact h2.resolve_left hae
  · rintro ⟨h1, h2⟩
    refine ⟨fun a ha => h2 a (.inl ⟨ha, h1 a ha⟩), ?_⟩
    by_cases hl : l = []
    · exact .inl hl
    · exact .inr (h2 l (.inr ⟨by simp, hl⟩))

theorem not_bracketed_iff (w : Str) :
    (decide (w.head? = some '[') && w.contains ']') = false ↔ ¬ Bracketed w := by
  simp [Bracketed]

theorem docWord_ofStr (w : Str) (W : Word) (h : DocWord w W) : wordWF w = true ∧ Word.ofStr w = W := by
  cases h with
  | cls cs hne hsp =>
    have hc : clsCond ('[' :: (cs ++ [']'])) := by
      refine ⟨?_, rfl, ?_⟩
      · cases cs with
        | nil => exact absurd rfl hne
        | cons c cs' => simp
      · rw [show ('[' :: (cs ++ [']'])) = ('[' :: cs) ++ [']'] from rfl, List.getLast?_concat]
    have hof := ofStr_cls _ hc
    have hcs : (List.drop 1 ('[' :: (cs ++ [']']))).dropLast = cs := by simp
    rw [hcs] at hof
    exact ⟨by simp [wordWF, hof], hof⟩
  | neg s hne hsp hbar =>
    have hnc : ¬ clsCond ('!' :: '!' :: s) := fun hc => by
      have := hc.2.1; simp at this
    have hac : altCond ('!' :: '!' :: s) = false := altCond_false_of _ (by
      simp only [List.mem_cons, not_or]
      exact ⟨by decide, by decide, hbar⟩)
    have hof := ofStr_neg _ hnc hac (by simp)
    simp only [List.drop_succ_cons, List.drop_zero] at hof
    refine ⟨?_, hof⟩
    simp [wordWF, hof, hne, hbar]
  | one _ A hA hnb hng =>
    obtain ⟨hne, hsp, hbar⟩ := docAtom_chars w A hA
    have hnc : ¬ clsCond w := fun hc => hnb (clsCond_bracketed w hc)
    have hac : altCond w = false := altCond_false_of w hbar
    obtain ⟨hcp, hA'⟩ := (docAtom_iff w A).1 hA
    have hof := ofStr_one w hnc hac hng
    rw [hA'] at hof
    refine ⟨?_, hof⟩
    simp only [wordWF, hof, hcp, (not_bracketed_iff w).2 hnb]
    simp [hbar]
  | alts ps as hlen hdl hfa hnb hng =>
    obtain ⟨hcp, hmap⟩ := (docAtoms_iff _ _).1 hfa
    have hparts : ∀ a ∈ ps, '|' ∉ a := by
      intro a ha
      by_cases hae : a = []
      · subst hae; simp
      · exact (isCmdOrPlain_chars a (hcp a (by simp [ha, hae]))).2.2
    have hne : ps ≠ [] := by intro e; subst e; simp at hlen
    have hsplit := splitOn_bars ps hne hparts
    have hpw := (partsWF_iff ps hne).2 ⟨hdl, hcp⟩
    obtain ⟨a, b, r, rfl⟩ : ∃ a b r, ps = a :: b :: r := by
      cases ps with
      | nil => simp at hlen
      | cons a r =>
        cases r with
        | nil => simp at hlen
        | cons b r' => exact ⟨a, b, r', rfl⟩
    have hane : a ≠ [] := hdl a (by simp)
    have hnc : ¬ clsCond (bars (a :: b :: r)) := fun hc => hnb (clsCond_bracketed _ hc)
    have hac : altCond (bars (a :: b :: r)) = true := by
      cases a with
      | nil => exact absurd rfl hane
      | cons x a' =>
        have hx : x ≠ '|' := fun e => hparts (x :: a') (by simp) (by simp [e])
        exact altCond_of _ x (a' ++ '|' :: bars (b :: r)) (by simp [bars]) hx (by simp)
    have hof := ofStr_alts _ hnc hac
    rw [hsplit, hmap] at hof
    refine ⟨?_, hof⟩
    have hng' : ¬ List.take 2 (bars (a :: b :: r)) = ['!', '!'] := hng
    simp only [wordWF, hof, hsplit, Bool.and_eq_true, Bool.not_eq_true', decide_eq_false_iff_not]
    exact ⟨⟨⟨hng', (not_bracketed_iff _).2 hnb⟩, hpw.1⟩, hpw.2⟩

theorem ofStr_docWord (w : Str) (hsp : ' ' ∉ w) (hwf : wordWF w = true) : DocWord w (Word.ofStr w) := by
  unfold wordWF at hwf
  rcases ofStr_cases w with ⟨hc, hof⟩ | ⟨hc, ha, hof⟩ | ⟨hc, _, hb, hof⟩ | ⟨hc, _, hb, hof⟩ <;>
    rw [hof] at hwf ⊢
  · obtain ⟨cs, hne, hweq, hcs⟩ := cls_shape w hc
    rw [hcs]
    have : ' ' ∉ cs := fun hm => hsp (by rw [hweq]; simp [hm])
    rw [hweq]
    exact .cls cs hne this
  · simp only [Bool.and_eq_true, Bool.not_eq_true', decide_eq_false_iff_not] at hwf
    obtain ⟨⟨⟨h1, h2⟩, h3⟩, h4⟩ := hwf
    obtain ⟨a, b, r, hs⟩ := splitOn_two '|' w (altCond_mem w ha)
    have hb := bars_splitOn w
    obtain ⟨hdl, hcp⟩ := (partsWF_iff _ (splitOn_ne_nil '|' w)).1 ⟨h3, h4⟩
    have := DocWord.alts (splitOn '|' w) (((splitOn '|' w).filter (· ≠ [])).map Atom.ofStr)
      (by rw [hs]; simp) hdl ((docAtoms_iff _ _).2 ⟨hcp, rfl⟩)
      (by rw [hb]; exact (not_bracketed_iff w).1 h2) (by rw [hb]; exact h1)
    rw [hb] at this
    exact this
  · simp only [Bool.and_eq_true, decide_eq_true_eq, Bool.not_eq_true', List.contains_eq_mem,
      decide_eq_false_iff_not, ne_eq] at hwf
    have hweq := take_two_eq w '!' '!' hb
    have := DocWord.neg (w.drop 2) hwf.1 (fun hm => hsp (List.mem_of_mem_drop hm)) hwf.2
    rw [← hweq] at this
    exact this
  · simp only [Bool.and_eq_true, Bool.not_eq_true'] at hwf
    exact .one w _ ((docAtom_iff w _).2 ⟨hwf.1.1, rfl⟩) ((not_bracketed_iff w).1 hwf.1.2) hb

theorem docWord_chars (w : Str) (W : Word) (h : DocWord w W) : w ≠ [] ∧ ' ' ∉ w := by
  cases h with
  | cls cs hne hsp => exact ⟨by simp, by simp [hsp]⟩
  | neg s hne hsp hbar => exact ⟨by simp, by simp [hsp]⟩
  | one _ A hA _ _ => exact ⟨(docAtom_chars w A hA).1, (docAtom_chars w A hA).2.1⟩
  | alts ps as hlen hdl hfa _ _ =>
    constructor
    · cases ps with
      | nil => simp at hlen
      | cons a r =>
        cases r with
        | nil => simp at hlen
        | cons b r' =>
          have := hdl a (by simp)
          cases a with
          | nil => exact absurd rfl this
          | cons x a' => simp [bars]
    · intro hx
      rcases mem_bars ps ' ' hx with h | ⟨a, ha, hxa⟩
      · exact absurd h (by decide)
      · have hae : a ≠ [] := by intro e; subst e; simp at hxa
        exact (isCmdOrPlain_chars a (((docAtoms_iff _ _).1 hfa).1 a (by simp [ha, hae]))).2.1 hxa

theorem docPattern_parse (p : Str) (Ws : List Word) (h : DocPattern p Ws) : patternWF p = true ∧ parse p = Ws := by
  induction h with
  | nil => simp [patternWF, parse, words_nil]
  | blank p Ws _ ih => simpa [patternWF, parse, words_space] using ih
  | last w W hw =>
    obtain ⟨hne, hsp⟩ := docWord_chars w W hw
    obtain ⟨h1, h2⟩ := docWord_ofStr w W hw
    simp [patternWF, parse, words_word w hne hsp, h1, h2]
  | word w W p Ws hw _ ih =>
    obtain ⟨hne, hsp⟩ := docWord_chars w W hw
    obtain ⟨h1, h2⟩ := docWord_ofStr w W hw
    have ih1 : (words p).all wordWF = true := by simpa [patternWF] using ih.1
    have ih2 : (words p).map Word.ofStr = Ws := by simpa [parse] using ih.2
    simp [patternWF, parse, words_word_rest w p hne hsp, h1, h2, ih1, ih2]

theorem parse_docPattern (p : Str) : patternWF p = true → DocPattern p (parse p) := by
  induction hn : p.length using Nat.strongRecOn generalizing p with
  | _ n ih =>
    subst hn
    intro hwf
    cases p with
    | nil => simpa [parse, words_nil] using DocPattern.nil
    | cons c r =>
      by_cases hc : c = ' '
      · subst hc
        have hwf' : patternWF r = true := by simpa [patternWF, words_space] using hwf
        simpa [parse, words_space] using DocPattern.blank r (parse r) (ih r.length (by simp) r rfl hwf')
      · obtain ⟨hsplit, hrest, hsp⟩ := first_word (c :: r)
        have hwne : (c :: r).takeWhile (· ≠ ' ') ≠ [] := by simp [hc]
        generalize (c :: r).takeWhile (· ≠ ' ') = w at hsplit hsp hwne
        generalize skipWord (c :: r) = rest at hsplit hrest
        rcases hrest with rfl | ⟨rest', rfl⟩
        · rw [List.append_nil] at hsplit
          rw [hsplit] at hwf ⊢
          have hw : wordWF w = true := by simpa [patternWF, words_word w hwne hsp] using hwf
          simpa [parse, words_word w hwne hsp] using DocPattern.last w _ (ofStr_docWord w hsp hw)
        · rw [hsplit] at hwf ih ⊢
          have hw : wordWF w = true ∧ patternWF rest' = true := by
            simpa [patternWF, words_word_rest w rest' hwne hsp] using hwf
          simpa [parse, words_word_rest w rest' hwne hsp] using
            DocPattern.word w _ rest' _ (ofStr_docWord w hsp hw.1)
              (ih rest'.length (by simp only [List.length_append, List.length_cons]; omega) rest' rfl hw.2)

/-- the texts between the `|` of an alternatives word with their meanings, as the interpreter walks over them: only the last
    one may be empty (`opt`) -/
inductive DocParts : List Str → List Atom → Bool → Prop
  | empty : DocParts [[]] [] true
  | last {a : Str} {A : Atom} : DocAtom a A → DocParts [a] [A] false
  | cons {a : Str} {A : Atom} {ps : List Str} {as : List Atom} {opt : Bool} :
      DocAtom a A → DocParts ps as opt → DocParts (a :: ps) (A :: as) opt

theorem DocParts.ne_nil {ps : List Str} {as : List Atom} {opt : Bool} (h : DocParts ps as opt) :
    ∃ b r, ps = b :: r := by
  cases h <;> exact ⟨_, _, rfl⟩

theorem docParts_of : ∀ (ps : List Str) (as : List Atom), ps ≠ [] → (∀ a ∈ ps.dropLast, a ≠ []) →
    DocAtoms (ps.filter (· ≠ [])) as → DocParts ps as (ps.any (· = []))
  | [], _, h, _, _ => absurd rfl h
  | [a], as, _, _, hfa => by
    by_cases ha : a = []
    · subst ha
      cases hfa
      exact .empty
    · simp only [List.filter_cons, ha, ne_eq, not_false_eq_true, decide_true, if_true, List.filter_nil] at hfa
      cases hfa with
      | cons hA hnil =>
        cases hnil
        simpa [ha] using DocParts.last hA
  | a :: b :: r, as, _, hd, hfa => by
    have ha : a ≠ [] := hd a (by simp)
    rw [List.filter_cons_of_pos (by simpa using ha)] at hfa
    cases hfa with
    | cons hA hrest =>
      have := docParts_of (b :: r) _ (by simp) (fun x hx => hd x (by simp [hx])) hrest
      rw [List.any_cons, decide_eq_false ha, Bool.false_or]
      exact .cons hA this

/-- "has an empty alternative" = "ends with `|`" -/
theorem docParts_opt {ps : List Str} {as : List Atom} {opt : Bool} (h : DocParts ps as opt) :
    opt = true ↔ ('|' :: bars ps).getLast? = some '|' := by
  induction h with
  | empty => simp [bars]
  | @last a _ hA =>
    obtain ⟨hne, _, hbar⟩ := docAtom_chars _ _ hA
    obtain ⟨y, ys, rfl⟩ := List.exists_cons_of_ne_nil hne
    simp only [bars, Bool.false_eq_true, false_iff, List.getLast?_cons_cons]
    exact fun e => hbar (List.mem_of_getLast? e)
  | cons hA hps ih =>
    obtain ⟨b, r, rfl⟩ := hps.ne_nil
    rw [bars, ← List.cons_append, getLast?_append_cons]
    exact ih

/-- what the interpreter tests on the null token: the word is longer than one byte and ends with `|` -/
theorem docParts_null {ps : List Str} {as : List Atom} {opt : Bool} (h : DocParts ps as opt) (hne : bars ps ≠ []) :
    opt = true ↔ ((bars ps).length > 1 ∧ (bars ps).getLast? = some '|') := by
  cases h with
  | empty => exact absurd rfl hne
  | @last a _ hA =>
    have hbar := (docAtom_chars _ _ hA).2.2
    simpa [bars] using fun _ e => hbar (List.mem_of_getLast? e)
  | @cons a _ ps _ _ hA hps =>
    obtain ⟨b, r, rfl⟩ := hps.ne_nil
    have := List.length_pos_iff.2 (docAtom_chars _ _ hA).1
    rw [docParts_opt hps]
    simp only [bars, getLast?_append_cons, List.length_append, List.length_cons]
    exact ⟨fun h => ⟨by omega, h⟩, fun h => h.2⟩

end Cppcheck.Match
