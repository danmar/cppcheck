import Cppcheck.Model.Lockset

/-! C16 — helper lemmas: paths of a disciplined statement are disciplined flat events; the lockset invariant of the
interleaving semantics; executable runs are reachable states. -/
namespace Cppcheck.Lockset

theorem contains_iff {H : List Mtx} {m : Mtx} : H.contains m = true ↔ m ∈ H := by
  simp

theorem balancedFrom_nil {H : List Mtx} : balancedFrom H [] = true ↔ H = [] := by
  simp [balancedFrom, List.isEmpty_iff]

theorem balancedFrom_cons {H : List Mtx} {op : Op} {ops : List Op} :
    balancedFrom H (op :: ops) = true ↔ lockOK H op = true ∧ balancedFrom (heldAfter H op) ops = true := by
  simp [balancedFrom]

theorem disciplinedFrom_cons {g : GuardMap} {H : List Mtx} {op : Op} {ops : List Op} :
    disciplinedFrom g H (op :: ops) = true ↔ accOK g H op = true ∧ disciplinedFrom g (heldAfter H op) ops = true := by
  simp [disciplinedFrom]

theorem lockOK_toOp (H : List Mtx) (a : Acc) : lockOK H a.toOp = true := by
  cases a <;> rfl

theorem heldAfter_toOp (H : List Mtx) (a : Acc) : heldAfter H a.toOp = H := by
  cases a <;> rfl

theorem path_ok {g : GuardMap} {s : Stmt} {p : List Op} {d : Bool} (hp : Path s p d) :
    ∀ (H : List Mtx) (k : List Op), s.balanced H = true ∧ s.disciplined g H = true →
      balancedFrom H k = true ∧ disciplinedFrom g H k = true →
      balancedFrom H (p ++ k) = true ∧ disciplinedFrom g H (p ++ k) = true := by
  induction hp with
  | abort _ | skip | loopDone => intro H k _ hk; simpa using hk
  | acc a =>
    intro H k hs hk
    simp only [List.cons_append, List.nil_append, balancedFrom_cons, disciplinedFrom_cons, heldAfter_toOp]
    exact ⟨⟨lockOK_toOp H a, hk.1⟩, by simpa [Stmt.disciplined] using hs.2, hk.2⟩
  | seqAbort _ ih | altL _ ih =>
    intro H k hs hk
    simp only [Stmt.balanced, Stmt.disciplined, Bool.and_eq_true] at hs
    exact ih H k ⟨hs.1.1, hs.2.1⟩ hk
  | seq _ _ ih1 ih2 =>
    intro H k hs hk
    simp only [Stmt.balanced, Stmt.disciplined, Bool.and_eq_true] at hs
    rw [List.append_assoc]
    exact ih1 H _ ⟨hs.1.1, hs.2.1⟩ (ih2 H k ⟨hs.1.2, hs.2.2⟩ hk)
  | @locked m b p d _ ih =>
    -- the body runs with `m` held and is followed by the release, which gives the continuation its lock set back
    intro H k hs hk
    simp only [Stmt.balanced, Stmt.disciplined, Bool.and_eq_true] at hs
    have hk' : balancedFrom (m :: H) (Op.rel m :: k) = true ∧ disciplinedFrom g (m :: H) (Op.rel m :: k) = true := by
      simpa [balancedFrom_cons, disciplinedFrom_cons, lockOK, accOK, heldAfter] using hk
    have := ih (m :: H) (Op.rel m :: k) ⟨hs.1.2, hs.2⟩ hk'
    simp only [List.cons_append, List.append_assoc, balancedFrom_cons, disciplinedFrom_cons]
    refine ⟨⟨?_, ?_⟩, ?_, ?_⟩
    · simpa [lockOK] using hs.1.1
    · simpa [heldAfter] using this.1
    · simp [accOK]
    · simpa [heldAfter] using this.2
  | altR _ ih =>
    intro H k hs hk
    simp only [Stmt.balanced, Stmt.disciplined, Bool.and_eq_true] at hs
    exact ih H k ⟨hs.1.2, hs.2.2⟩ hk
  | loopIter _ _ ih1 ih2 =>
    intro H k hs hk
    rw [List.append_assoc]
    exact ih1 H _ (by simpa only [Stmt.balanced, Stmt.disciplined] using hs) (ih2 H k hs hk)
  | loopAbort _ ih | scopePass _ ih | scopeCatch _ ih =>
    intro H k hs hk; exact ih H k (by simpa only [Stmt.balanced, Stmt.disciplined] using hs) hk

theorem somePath_path (s : Stmt) : Path s s.somePath true := by
  induction s with
  | skip => exact .skip
  | acc a => exact .acc a
  | seq s t ihs iht => exact .seq ihs iht
  | locked m b ih => exact .locked ih
  | alt s t ihs _ => exact .altL ihs
  | loop b ih =>
    have := Path.loopIter ih (Path.loopDone (b := b))
    simpa [Stmt.somePath] using this
  | scope b ih => exact .scopePass ih

structure Inv (g : GuardMap) (s : State) : Prop where
  idle : ∀ (i : Nat) (t : Thread), s.threads[i]? = some t → mayRun s.phase i = false → t.rest = []
  wok : ∀ (i : Nat) (t : Thread), i ≠ 0 → s.threads[i]? = some t →
    balancedFrom t.held t.rest = true ∧ disciplinedFrom g t.held t.rest = true
  excl : ∀ (i j : Nat) (ti tj : Thread) (m : Mtx), i ≠ j → s.threads[i]? = some ti → s.threads[j]? = some tj → m ∈ ti.held → m ∉ tj.held

/-- the main thread and a worker never may run in the same phase -/
theorem mayRun_workers {ph : Phase} {i j : Nat} (hi : mayRun ph i = true) (hj : mayRun ph j = true) (hij : i ≠ j) :
    i ≠ 0 ∧ j ≠ 0 := by
  cases ph <;> simp [mayRun] at hi hj
  · exact absurd (hi.trans hj.symm) hij
  · exact ⟨hi, hj⟩

theorem inv_init (g : GuardMap) (n : Nat) : Inv g (init n) := by
  have hidle : ∀ (i : Nat) (t : Thread), (init n).threads[i]? = some t → t = idle :=
    fun _ _ h => List.eq_of_mem_replicate (List.mem_of_getElem? h)
  refine ⟨?_, ?_, ?_⟩
  · intro i t h _; rw [hidle i t h]; rfl
  · intro i t _ h; rw [hidle i t h]; exact ⟨rfl, rfl⟩
  · intro i j ti tj m _ hi _ hm; rw [hidle i ti hi] at hm; cases hm

theorem lockFree_get {s : State} {m : Mtx} (h : lockFreeB s m = true) {j : Nat} {t : Thread}
    (ht : s.threads[j]? = some t) : m ∉ t.held := by
  have hmem : t ∈ s.threads := List.mem_of_getElem? ht
  have := List.all_eq_true.mp h t hmem
  simpa using this

theorem allIdle_get {s : State} (h : allIdle s = true) {j : Nat} {t : Thread}
    (ht : s.threads[j]? = some t) : t.rest = [] := by
  have hmem : t ∈ s.threads := List.mem_of_getElem? ht
  have := List.all_eq_true.mp h t hmem
  simpa [List.isEmpty_iff] using this

theorem mem_heldAfter {H : List Mtx} {op : Op} {m : Mtx} (h : m ∈ heldAfter H op) :
    m ∈ H ∨ op = .acq m := by
  cases op with
  | acq m' =>
    simp only [heldAfter, List.mem_cons] at h
    rcases h with h | h
    · right; rw [h]
    · left; exact h
  | rel m' => left; exact List.mem_of_mem_erase h
  | read _ | write _ | atomic _ => left; exact h

theorem inv_set {g : GuardMap} {s : State} {i : Nat} {old new : Thread} (hinv : Inv g s)
    (hrun : mayRun s.phase i = true) (hget : s.threads[i]? = some old)
    (hw : i ≠ 0 → balancedFrom new.held new.rest = true ∧ disciplinedFrom g new.held new.rest = true)
    (hx : ∀ m ∈ new.held, m ∈ old.held ∨ ∀ (j : Nat) (t : Thread), s.threads[j]? = some t → m ∉ t.held) :
    Inv g { s with threads := s.threads.set i new } := by
  have hset : ∀ {j t}, ({ s with threads := s.threads.set i new } : State).threads[j]? = some t →
      (j = i ∧ t = new) ∨ (j ≠ i ∧ s.threads[j]? = some t) := by
    intro j t ht
    have ht' : (s.threads.set i new)[j]? = some t := ht
    by_cases hji : i = j
    · rw [← hji, List.getElem?_set_self (List.getElem?_eq_some_iff.mp hget).1] at ht'
      exact Or.inl ⟨hji.symm, (Option.some.inj ht').symm⟩
    · rw [List.getElem?_set_ne hji] at ht'; exact Or.inr ⟨Ne.symm hji, ht'⟩
  refine ⟨?_, ?_, ?_⟩
  · intro j t ht (hj : mayRun s.phase j = false)
    rcases hset ht with ⟨rfl, _⟩ | ⟨_, ht'⟩
    · rw [hrun] at hj; cases hj
    · exact hinv.idle j t ht' hj
  · intro j t hj ht
    rcases hset ht with ⟨hji, rfl⟩ | ⟨_, ht'⟩
    · exact hw (hji ▸ hj)
    · exact hinv.wok j t hj ht'
  · intro j k tj tk m hjk hj hk hm hmk
    rcases hset hj with ⟨hji, rfl⟩ | ⟨hji, hj'⟩ <;> rcases hset hk with ⟨hki, rfl⟩ | ⟨hki, hk'⟩
    · exact hjk (hji.trans hki.symm)
    · rcases hx m hm with h | h
      · exact hinv.excl i k old tk m (fun e => hki e.symm) hget hk' h hmk
      · exact h k tk hk' hmk
    · rcases hx m hmk with h | h
      · exact hinv.excl j i tj old m hji hj' hget hm h
      · exact h j tj hj' hm
    · exact hinv.excl j k tj tk m hjk hj' hk' hm hmk

theorem inv_step {W M : List Op → Prop} {g : GuardMap}
    (hW : ∀ b, W b → balancedFrom [] b = true ∧ disciplinedFrom g [] b = true)
    {s s' : State} {a : Act} (hinv : Inv g s) (hstep : Step W M s a s') : Inv g s' := by
  cases hstep with
  | @start i H body hrun hget hbody =>
    refine inv_set hinv hrun hget (fun hi0 => ?_) (fun m hm => Or.inl hm)
    -- a worker that is idle holds nothing, so its new body is scanned from the empty set
    have hH : H = [] := balancedFrom_nil.mp (hinv.wok i ⟨H, []⟩ hi0 hget).1
    subst hH
    exact hW body (by simpa [hi0] using hbody)
  | @exec i H op rest hrun hget hen =>
    refine inv_set hinv hrun hget (fun hi0 => ?_) (fun m hm => ?_)
    · have hold := hinv.wok i ⟨H, op :: rest⟩ hi0 hget
      exact ⟨(balancedFrom_cons.mp hold.1).2, (disciplinedFrom_cons.mp hold.2).2⟩
    · rcases mem_heldAfter hm with h | h
      · exact Or.inl h
      · subst h
        exact Or.inr fun j t ht => lockFree_get (by simpa [enabledOp] using hen) ht
  -- the phase changes only when every thread is idle
  | spawn _ hidle | join _ hidle => exact ⟨fun _ _ ht _ => allIdle_get hidle ht, hinv.wok, hinv.excl⟩

theorem inv_reach {W M : List Op → Prop} {g : GuardMap}
    (hW : ∀ b, W b → balancedFrom [] b = true ∧ disciplinedFrom g [] b = true)
    {n : Nat} {s : State} (h : Reach W M n s) : Inv g s := by
  induction h with
  | init => exact inv_init g n
  | step _ hs ih => exact inv_step hW ih hs

/-- both touch one location and one of them writes it, so the location is guarded by a mutex, which both hold -/
theorem conflict_guard {g : GuardMap} {H H' : List Mtx} {a b : Op} (hc : conflict a b = true)
    (ha : accOK g H a = true) (hb : accOK g H' b = true) : ∃ m, m ∈ H ∧ m ∈ H' := by
  revert hc
  fun_cases conflict a b
  -- the cases are numbered in the order of `conflict`'s branches: the fourth is the catch-all `false`
  case case4 => nofun
  all_goals
    rename_i x y
    intro hc
    obtain rfl : x = y := beq_iff_eq.mp hc
    simp only [accOK] at ha hb
    cases hg : g x with
    | readOnly => simp [hg] at ha hb
    | mutex m => exact ⟨m, by simpa [hg] using ha, by simpa [hg] using hb⟩

theorem inv_no_race {g : GuardMap} {s : State} (hinv : Inv g s) : ¬ Race s := by
  rintro ⟨i, j, ti, tj, a, b, hij, hi, hj, ha, hb, hc⟩
  obtain ⟨ra, hra⟩ := List.head?_eq_some_iff.mp ha
  obtain ⟨rb, hrb⟩ := List.head?_eq_some_iff.mp hb
  -- neither thread is idle, so both may run
  have hri : mayRun s.phase i = true := Bool.of_not_eq_false fun h => by rw [hinv.idle i ti hi h] at hra; cases hra
  have hrj : mayRun s.phase j = true := Bool.of_not_eq_false fun h => by rw [hinv.idle j tj hj h] at hrb; cases hrb
  obtain ⟨hi0, hj0⟩ := mayRun_workers hri hrj hij
  have wi := (hinv.wok i ti hi0 hi).2
  have wj := (hinv.wok j tj hj0 hj).2
  rw [hra] at wi
  rw [hrb] at wj
  obtain ⟨m, hm, hm'⟩ := conflict_guard hc (disciplinedFrom_cons.mp wi).1 (disciplinedFrom_cons.mp wj).1
  exact hinv.excl i j ti tj m hij hi hj hm hm'

theorem stepFn_reach (T : Tables) {n : Nat} {s : State} (a : Sched)
    (h : Reach (· ∈ T.worker) (· ∈ T.main) n s) : Reach (· ∈ T.worker) (· ∈ T.main) n (stepFn T s a) := by
  cases a with
  | start i k =>
    simp only [stepFn]
    split
    · rename_i H body hget hk
      split
      · rename_i hrun
        refine .step h (Step.start (i := i) (H := H) (body := body) hrun hget ?_)
        have hmem := List.mem_of_getElem? hk
        by_cases hi : i = 0 <;> simpa [hi] using hmem
      · exact h
    · exact h
  | exec i =>
    simp only [stepFn]
    split
    · rename_i H op rest hget
      split
      · rename_i hc
        simp only [Bool.and_eq_true] at hc
        exact .step h (Step.exec (i := i) (H := H) (op := op) (rest := rest) hc.1 hget hc.2)
      · exact h
    · exact h
  | spawn =>
    simp only [stepFn]
    split
    · rename_i hc
      simp only [Bool.and_eq_true, beq_iff_eq] at hc
      exact .step h (Step.spawn hc.1 hc.2)
    · exact h
  | join =>
    simp only [stepFn]
    split
    · rename_i hc
      simp only [Bool.and_eq_true, beq_iff_eq] at hc
      exact .step h (Step.join hc.1 hc.2)
    · exact h

theorem raceB_of_race {s : State} (h : Race s) : raceB s = true := by
  obtain ⟨i, j, ti, tj, a, b, hij, hi, hj, ha, hb, hc⟩ := h
  have hil : i < s.threads.length := (List.getElem?_eq_some_iff.mp hi).1
  have hjl : j < s.threads.length := (List.getElem?_eq_some_iff.mp hj).1
  unfold raceB
  rw [List.any_eq_true]
  refine ⟨i, List.mem_range.mpr hil, ?_⟩
  rw [List.any_eq_true]
  refine ⟨j, List.mem_range.mpr hjl, ?_⟩
  simp [hij, hi, hj, ha, hb, hc]

theorem race_of_raceB {s : State} (h : raceB s = true) : Race s := by
  unfold raceB at h
  rw [List.any_eq_true] at h
  obtain ⟨i, _, h⟩ := h
  rw [List.any_eq_true] at h
  obtain ⟨j, _, h⟩ := h
  simp only [Bool.and_eq_true, bne_iff_ne, ne_eq] at h
  obtain ⟨hij, h⟩ := h
  split at h
  · rename_i ti tj hi hj
    split at h
    · rename_i a b ha hb
      exact ⟨i, j, ti, tj, a, b, hij, hi, hj, ha, hb, h⟩
    · cases h
  · cases h

end Cppcheck.Lockset
