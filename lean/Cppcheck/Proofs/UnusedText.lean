import Cppcheck.Proofs.Unused
import Cppcheck.Proofs.CtuChecks
/-
C22 — the `<FileInfo check="CheckUnusedFunctions">` summary: round trip through a cache file that holds it alone, and the real
cache file with all six summaries, read by both handlers.
-/
namespace Cppcheck.Unused
open Cppcheck.Wire Cppcheck.Ctu

def Decl.TextOk (d : Decl) : Bool := XmlSafe d.file && XmlSafe d.name && inS 32 d.line && inS 32 d.col
def TU.TextOk (t : TU) : Bool := t.decls.all Decl.TextOk && t.calls.all fun c => XmlSafe c.name

def fdNames : List Str := ["file".toList, "functionName".toList, "lineNumber".toList, "column".toList]
def fdVals (d : Decl) : List Str := [toxml d.file, toxml d.name, showInt d.line, showInt d.col]
def fdElem (d : Decl) : Elem := .mk "functiondecl".toList (fdNames.zip (fdVals d)) []
def fcallElem (n : Str) : Elem := .mk "functioncall".toList (["functionName".toList].zip [toxml n]) []

theorem fdNames_ok : NamesOK fdNames = true := by decide +kernel
theorem fcallNames_ok : NamesOK ["functionName".toList] = true := by decide +kernel

-- the two writers inside `analyzerInfo`, under names
def declText (d : Decl) : Str :=
  "    <functiondecl".toList ++ attr "file" (toxml d.file) ++ attr "functionName" (toxml d.name)
    ++ attr "lineNumber" (showInt d.line) ++ attr "column" (showInt d.col) ++ "/>\n".toList
def callText (c : Str) : Str := "    <functioncall".toList ++ attr "functionName" (toxml c) ++ "/>\n".toList

theorem analyzerInfo_eq (t : TU) : analyzerInfo t = t.decls.flatMap declText ++ (callSet t).flatMap callText := rfl

theorem decl_renders (d : Decl) : Renders 0 (declText d) [fdElem d] := by
  have e : declText d = "    ".toList ++ headText "functiondecl".toList (fdNames.zip (fdVals d)) ++ '/' :: '>' :: "\n".toList := by
    unfold declText headText
    rw [show "    <functiondecl".toList = "    ".toList ++ '<' :: "functiondecl".toList by simp,
      show "/>\n".toList = '/' :: '>' :: "\n".toList by simp]
    simp only [fdNames, fdVals, List.zip_cons_cons, List.zip_nil_right, attr_render, ← renderAttrs_append, List.append_assoc,
      List.cons_append, List.nil_append]
  rw [e]
  refine renders_closed 0 _ (by decide +kernel) (by decide) (attrsOK_zip _ _ fdNames_ok ?_)
  simp only [fdVals, List.mem_cons, List.mem_nil_iff, or_false, forall_eq_or_imp, forall_eq]
  exact ⟨clean_toxml _, clean_toxml _, clean_int _, clean_int _⟩

theorem call_renders (c : Str) : Renders 0 (callText c) [fcallElem c] := by
  have e : callText c
      = "    ".toList ++ headText "functioncall".toList (["functionName".toList].zip [toxml c]) ++ '/' :: '>' :: "\n".toList := by
    unfold callText headText
    rw [show "    <functioncall".toList = "    ".toList ++ '<' :: "functioncall".toList by simp,
      show "/>\n".toList = '/' :: '>' :: "\n".toList by simp]
    simp only [List.zip_cons_cons, List.zip_nil_right, attr_render, List.append_assoc, List.cons_append]
  rw [e]
  exact renders_closed 0 _ (by decide +kernel) (by decide) (attrsOK_zip _ _ fcallNames_ok (by simpa using clean_toxml c))

theorem analyzerInfo_renders (t : TU) : Renders 1 (analyzerInfo t) (t.decls.map fdElem ++ (callSet t).map fcallElem) := by
  rw [analyzerInfo_eq]
  exact renders_mono (by decide) (renders_append
    (renders_list rfl (fun _ _ => List.flatMap_cons) _ fun d _ => decl_renders d)
    (renders_list rfl (fun _ _ => List.flatMap_cons) _ fun c _ => call_renders c))

theorem loadUnusedKids_append (src : Str) (a b : List Elem) (c : Collected) :
    loadUnusedKids src (a ++ b) c = match loadUnusedKids src a c with
      | .ok c' => loadUnusedKids src b c'
      | .threw => .threw := by
  induction a generalizing c with
  | nil => rfl
  | cons e r ih =>
    simp only [List.cons_append, loadUnusedKids]
    -- a branch that goes on does so on `r ++ b`, which is `ih`; one that throws throws on both sides
    split
    · exact ih c
    · split
      · exact ih _
      · split
        · split
          · exact ih c
          · split
            · rfl
            · split
              · rfl
              · exact ih _
        · exact ih c

theorem load_decls (src : Str) : ∀ (l : List Decl) (c : Collected), l.all Decl.TextOk = true →
    loadUnusedKids src (l.map fdElem) c
      = .ok { c with decls := l.foldl (fun mm d => declInsert mm d.name (d.file, d.line, d.col)) c.decls } := by
  intro l
  induction l with
  | nil => intro c _; rfl
  | cons d r ih =>
    intro c h
    simp only [List.all_cons, Bool.and_eq_true] at h
    obtain ⟨hd, hr⟩ := h
    simp only [Decl.TextOk, Bool.and_eq_true] at hd
    obtain ⟨⟨⟨hf, hn⟩, hl⟩, hc⟩ := hd
    have rd : ∀ (i : Nat) {key : String} {v : Str}, fdNames[i]? = some key.toList → (fdVals d)[i]? = some v →
        attrStr (fdElem d) key = some (attrDecode v) := attrStr_zip fdNames_ok _ _
    have hname : (fdElem d).name = "functiondecl".toList := rfl
    have hne : ("functiondecl".toList = "functioncall".toList) = False := by simp
    simp only [List.map_cons, loadUnusedKids, rd 0 rfl rfl, rd 1 rfl rfl, rd 2 rfl rfl, rd 3 rfl rfl, hname, hne, if_false, if_true,
      Option.getD_some, attrDecode_showInt, strToIntS_showInt _ _ _ (inS32_bounds _ hl).1 (inS32_bounds _ hl).2 (inS32_64 _ hl),
      strToIntS_showInt _ _ _ (inS32_bounds _ hc).1 (inS32_bounds _ hc).2 (inS32_64 _ hc), decode_safe _ hn, decode_safe _ hf]
    rw [ih _ hr]
    rfl

theorem load_calls (src : Str) : ∀ (l : List Str) (c : Collected), (l.all fun n => XmlSafe n) = true →
    loadUnusedKids src (l.map fcallElem) c = .ok { c with calls := l.foldl setInsert c.calls } := by
  intro l
  induction l with
  | nil => intro c _; rfl
  | cons n r ih =>
    intro c h
    simp only [List.all_cons, Bool.and_eq_true] at h
    have b1 : attrStr (fcallElem n) "functionName" = some (attrDecode (toxml n)) := attrStr_zip fcallNames_ok _ _ 0 rfl rfl
    have hname : (fcallElem n).name = "functioncall".toList := rfl
    simp only [List.map_cons, loadUnusedKids, b1, hname, if_true, decode_safe _ h.1]
    rw [ih _ h.2]
    rfl

theorem callSet_safe (t : TU) (h : (t.calls.all fun c => XmlSafe c.name) = true) : ((callSet t).all fun n => XmlSafe n) = true := by
  apply List.all_eq_true.mpr
  intro n hn
  rw [mem_callSet] at hn
  obtain ⟨c, hc, rfl⟩ := List.mem_map.mp hn
  exact List.all_eq_true.mp h c hc

def unusedElems (t : TU) : List Elem := t.decls.map fdElem ++ (callSet t).map fcallElem

/-- the handler on the `<FileInfo check="CheckUnusedFunctions">` element of a translation unit -/
theorem collectStep_unused (src : Str) (c : Collected) (t : TU) (h : t.TextOk = true) :
    collectStep src (.ok c) ("CheckUnusedFunctions".toList, infoElem "CheckUnusedFunctions".toList (unusedElems t))
      = .ok (collectTU c t) := by
  simp only [TU.TextOk, Bool.and_eq_true] at h
  have hu : isUnusedCheck "CheckUnusedFunctions".toList = true := by decide +kernel
  simp only [collectStep, hu, if_true, infoElem, Elem.kids, unusedElems]
  rw [loadUnusedKids_append, load_decls src _ _ h.1]
  simp only
  rw [load_calls src _ _ (callSet_safe t h.2)]
  rfl

theorem collectStep_other (src : Str) (c : Collected) (ce : Str × Elem) (h : isUnusedCheck ce.1 = false) :
    collectStep src (.ok c) ce = .ok c := by
  simp [collectStep, h]

theorem collectStep_nokids (src : Str) (acc : Coll) (c n : Str) (as : List (Str × Str)) :
    collectStep src acc (c, .mk n as []) = acc := by
  cases acc with
  | threw => rfl
  | ok d => simp only [collectStep]; split <;> rfl

theorem collect_kids_one {h : Nat} (src : Str) (x : Info) (r : Renders h x.text x.elems) (hh : h + 2 < 500) (acc : Coll) :
    x.kids.foldl (collectStep src) acc = collectStep src acc x.entry := by
  unfold Info.kids
  split
  · rename_i he
    rw [he] at r
    rw [Info.entry, renders_empty r hh, infoElem, collectStep_nokids]
    rfl
  · rfl

theorem collect_kids {h : Nat} (src : Str) (infos : List Info) (hi : ∀ x ∈ infos, x.Ok h) (hh : h + 2 < 500) (acc : Coll) :
    (infos.flatMap Info.kids).foldl (collectStep src) acc = (infos.map Info.entry).foldl (collectStep src) acc := by
  rw [List.foldl_flatMap, List.foldl_map]
  exact List.foldl_rel (r := (· = ·)) rfl fun x hx acc _ e => e ▸ collect_kids_one src x (hi x hx).2 hh acc

theorem collectFile_storeFile (src : Str) (c : Collected) (hash : Nat) (infos : List Info) (hi : ∀ x ∈ infos, x.Ok 1) :
    collectFile src c (storeFile hash (infos.map Info.pair)) = (infos.map Info.entry).foldl (collectStep src) (.ok c) := by
  simp only [collectFile, loadFile_storeFile hash infos hi]
  exact collect_kids src infos hi (by decide) _

theorem collect_fold_other (src : Str) (c : Collected) : ∀ l : List (Str × Elem), (∀ ce ∈ l, isUnusedCheck ce.1 = false) →
    l.foldl (collectStep src) (.ok c) = .ok c :=
  fun l h => List.foldlRecOn (motive := (· = Coll.ok c)) l _ rfl fun _ e x hx => e ▸ collectStep_other src c x (h x hx)

theorem unusedName_ok : RawSafe "CheckUnusedFunctions".toList = true := by decide +kernel

theorem collectText_analyzerInfo (src : Str) (c : Collected) (t : TU) (h : t.TextOk = true) :
    collectText src c (analyzerInfo t) = .ok (collectTU c t) :=
  (collectFile_storeFile src c 1 [⟨"CheckUnusedFunctions".toList, analyzerInfo t, unusedElems t⟩]
    (List.forall_mem_singleton.2 ⟨unusedName_ok, analyzerInfo_renders t⟩)).trans (collectStep_unused src c t h)

theorem collectViaText_eq : ∀ (tus : List TU) (c : Collected), (∀ t ∈ tus, t.TextOk = true) →
    tus.foldl textStep (Coll.ok c) = .ok (tus.foldl collectTU c) :=
  fun _ _ h => List.foldl_rel (r := fun a c => a = Coll.ok c) rfl fun t ht _ c e =>
    e ▸ collectText_analyzerInfo [] c t (h t ht)

def sixInfos (simp : Str → Str) (t : TUSummary) (u : TU) : List Info :=
  t.fiveInfos simp ++ [⟨"CheckUnusedFunctions".toList, analyzerInfo u, unusedElems u⟩]

theorem storeAll_eq (simp : Str → Str) (hash : Nat) (t : TUSummary) (u : TU) :
    storeAll simp hash t u = storeFile hash ((sixInfos simp t u).map Info.pair) := by
  simp only [storeAll, TUSummary.infos, sixInfos, TUSummary.fiveInfos, List.map_cons, List.map_nil, List.map_append, Info.pair]

theorem sixInfos_renders (simp : Str → Str) (t : TUSummary) (u : TU) (h : t.Ok simp = true) : ∀ x ∈ sixInfos simp t u, x.Ok 1 :=
  List.forall_mem_append.2 ⟨fiveInfos_renders simp t h, List.forall_mem_singleton.2 ⟨unusedName_ok, analyzerInfo_renders u⟩⟩

theorem checkKind_unused : checkKind "CheckUnusedFunctions".toList = 5 := by decide +kernel

theorem handleInfo_unused (wp : WholeProgram) (e : Elem) : handleInfo wp ("CheckUnusedFunctions".toList, e) = some wp := by
  simp only [handleInfo, checkKind_unused]

/-- the whole-program handler ignores the unused-function element -/
theorem handle_storeAll (simp : Str → Str) (t : TUSummary) (u : TU) (h : t.Ok simp = true) (wp : WholeProgram) :
    handleInfos ((sixInfos simp t u).map Info.entry) wp = some (addInMemory wp t) := by
  rw [sixInfos, List.map_append, handleInfos_append, handle_store simp t h wp]
  simp only [Option.bind_some, List.map_cons, List.map_nil, Info.entry, handleInfos, handleInfo_unused]

/-- the unused-function handler ignores the five other elements -/
theorem fiveInfos_not_unused (simp : Str → Str) (t : TUSummary) : ∀ ce ∈ (t.fiveInfos simp).map Info.entry, isUnusedCheck ce.1 = false := by
  simp only [TUSummary.fiveInfos, List.map_cons, List.map_nil, Info.entry, List.forall_mem_cons, List.not_mem_nil, false_imp_iff,
    implies_true, and_true]
  decide +kernel

theorem collect_storeAll (simp : Str → Str) (t : TUSummary) (u : TU) (hu : u.TextOk = true) (src : Str) (c : Collected) :
    ((sixInfos simp t u).map Info.entry).foldl (collectStep src) (.ok c) = .ok (collectTU c u) := by
  rw [sixInfos, List.map_append, List.foldl_append, collect_fold_other src c _ (fiveInfos_not_unused simp t)]
  exact collectStep_unused src c u hu

theorem storeAll_both (simp : Str → Str) (hash : Nat) (t : TUSummary) (u : TU) (h : t.Ok simp = true) (hu : u.TextOk = true)
    (wp : WholeProgram) (src : Str) (c : Collected) :
    fromBuildDir [storeAll simp hash t u] wp = some (addInMemory wp t)
    ∧ collectFile src c (storeAll simp hash t u) = .ok (collectTU c u) := by
  rw [storeAll_eq]
  exact ⟨by rw [fromBuildDir_storeFile _ _ (sixInfos_renders simp t u h), handle_storeAll simp t u h wp]; rfl,
    (collectFile_storeFile src c _ _ (sixInfos_renders simp t u h)).trans (collect_storeAll simp t u hu src c)⟩

theorem collectFiles_storeAll (simp : Str → Str) : ∀ (l : List (Nat × TUSummary × TU)) (c : Collected),
    (∀ x ∈ l, x.2.1.Ok simp = true ∧ x.2.2.TextOk = true) →
    (l.map fun x => storeAll simp x.1 x.2.1 x.2.2).foldl fileStep (Coll.ok c)
      = .ok ((l.map (·.2.2)).foldl collectTU c) := by
  intro l c h
  rw [List.foldl_map, List.foldl_map]
  exact List.foldl_rel (r := fun a c => a = Coll.ok c) rfl fun x hx _ c e =>
    e ▸ (storeAll_both simp x.1 x.2.1 x.2.2 (h x hx).1 (h x hx).2 WholeProgram.empty [] c).2

theorem fromBuildDir_storeAll (simp : Str → Str) : ∀ (l : List (Nat × TUSummary × TU)) (wp : WholeProgram),
    (∀ x ∈ l, x.2.1.Ok simp = true) →
    fromBuildDir (l.map fun x => storeAll simp x.1 x.2.1 x.2.2) wp = some ((l.map (·.2.1)).foldl addInMemory wp)
  | [], _, _ => rfl
  | x :: r, wp, h => by
    have hx := h x List.mem_cons_self
    rw [List.map_cons, storeAll_eq, fromBuildDir_storeFile _ _ (sixInfos_renders simp x.2.1 x.2.2 hx),
      handle_storeAll simp x.2.1 x.2.2 hx wp, Option.bind_some]
    exact fromBuildDir_storeAll simp r _ (fun y hy => h y (List.mem_cons_of_mem _ hy))

end Cppcheck.Unused
