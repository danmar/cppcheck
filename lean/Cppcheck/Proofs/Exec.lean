import Cppcheck.Model.Exec
import Cppcheck.Proofs.Serialize
import Cppcheck.Proofs.Dedup
import Cppcheck.Proofs.ListSet
/-
Helper lemmas for the executor theorems (C15).  `Inv` is the gate / sink invariant that does not depend on the order in which
messages arrive: each of the three executors ends with it on an empty pool, and any two such ends agree (`Inv.agree`).  The
process system goes through an abstraction whose pipes hold events instead of bytes; its invariant is that events are neither
lost nor read twice.
-/
namespace Cppcheck.Exec
open Cppcheck.Wire Cppcheck.Serialize

/-- a message that `hasToLog` lets through unless its text was seen before -/
def Passes (cfg : Cfg) (m : Msg) : Prop :=
  m.severity ≠ .internal ∧ cfg.supG (sview cfg.simp m) = false ∧ cfg.keyGate m ≠ []

theorem gate_cases (cfg : Cfg) (hE : cfg.emitDuplicates = false) (el : List Str) (m : Msg) :
    (m.severity = .internal ∧ gate cfg el m = (true, el)) ∨
    (m.severity ≠ .internal ∧ ¬ Passes cfg m ∧ gate cfg el m = (false, el)) ∨
    (Passes cfg m ∧ cfg.keyGate m ∈ el ∧ gate cfg el m = (false, el)) ∨
    (Passes cfg m ∧ cfg.keyGate m ∉ el ∧ gate cfg el m = (true, cfg.keyGate m :: el)) := by
  unfold gate Passes
  by_cases h1 : m.severity = .internal
  · simp [h1]
  · by_cases h2 : cfg.supG (sview cfg.simp m) = true
    · simp [h1, h2]
    · have h2' : cfg.supG (sview cfg.simp m) = false := by simpa using h2
      by_cases h3 : cfg.keyGate m = []
      · simp [h1, h2', h3]
      · have h3' : (cfg.keyGate m).isEmpty = false := List.isEmpty_eq_false_iff.2 h3
        by_cases h4 : cfg.keyGate m ∈ el
        · simp [h1, h2', h3, h3', hE, h4]
        · simp [h1, h2', h3, h3', hE, h4]

/-- the schedule-independent invariant of gate + sink.  `rem`: messages not yet passed to the gate,
    `held`: messages that passed the gate and are not yet printed. -/
structure Inv (cfg : Cfg) (All rem held : List Msg) (el : List Str) (sink : Sink) : Prop where
  shown_eq : sink.shown = sink.reported.map cfg.key2
  nodup : sink.shown.Nodup
  reported : ∀ m ∈ sink.reported, m ∈ All ∧ Passes cfg m
  held_ok : ∀ m ∈ held, m ∈ All ∧ (m.severity = .internal ∨ Passes cfg m)
  covered : ∀ m ∈ All, Passes cfg m → cfg.keyGate m ∈ el ∨ m ∈ rem
  el_ok : ∀ k ∈ el, (∃ m ∈ held, m.severity ≠ .internal ∧ cfg.keyGate m = k) ∨
            (∃ m ∈ All, Passes cfg m ∧ cfg.keyGate m = k ∧ cfg.key2 m ∈ sink.shown)
  rem_sub : ∀ m ∈ rem, m ∈ All

theorem Inv.init (cfg : Cfg) (All : List Msg) : Inv cfg All All [] [] {} where
  shown_eq := rfl
  nodup := List.nodup_nil
  reported := by intro m hm; cases hm
  held_ok := by intro m hm; cases hm
  covered := fun m hm _ => Or.inr hm
  el_ok := by intro k hk; cases hk
  rem_sub := fun _ h => h

theorem Inv.congr {cfg : Cfg} {All rem held rem' held' : List Msg} {el : List Str} {sink : Sink}
    (h : Inv cfg All rem held el sink) (hr : ∀ x, x ∈ rem' ↔ x ∈ rem) (hh : ∀ x, x ∈ held' ↔ x ∈ held) :
    Inv cfg All rem' held' el sink where
  shown_eq := h.shown_eq
  nodup := h.nodup
  reported := h.reported
  held_ok := fun m hm => h.held_ok m ((hh m).1 hm)
  covered := fun m hm hp => (h.covered m hm hp).imp id (fun x => (hr m).2 x)
  el_ok := fun k hk => (h.el_ok k hk).imp (fun ⟨m, hm, h1⟩ => ⟨m, (hh m).2 hm, h1⟩) id
  rem_sub := fun m hm => h.rem_sub m ((hr m).1 hm)

theorem gate_spec (cfg : Cfg) (hE : cfg.emitDuplicates = false) (el : List Str) (m : Msg) :
    ((gate cfg el m).1 = true → m.severity = .internal ∨ Passes cfg m) ∧
    (Passes cfg m → cfg.keyGate m ∈ (gate cfg el m).2) ∧
    (∀ k ∈ el, k ∈ (gate cfg el m).2) ∧
    (∀ k ∈ (gate cfg el m).2, k ∈ el ∨ (k = cfg.keyGate m ∧ (gate cfg el m).1 = true ∧ m.severity ≠ .internal)) := by
  rcases gate_cases cfg hE el m with ⟨hi, hg⟩ | ⟨hi, hnp, hg⟩ | ⟨hp, hk, hg⟩ | ⟨hp, hk, hg⟩ <;> rw [hg]
  · exact ⟨fun _ => Or.inl hi, fun hp => absurd hi hp.1, fun _ => id, fun _ => Or.inl⟩
  · exact ⟨fun h => (by cases h), fun hp => absurd hp hnp, fun _ => id, fun _ => Or.inl⟩
  · exact ⟨fun h => (by cases h), fun _ => hk, fun _ => id, fun _ => Or.inl⟩
  · exact ⟨fun _ => Or.inr hp, fun _ => List.mem_cons_self .., fun _ => List.mem_cons_of_mem _,
      fun k hk' => (List.mem_cons.1 hk').elim (fun e => Or.inr ⟨e, rfl, hp.1⟩) Or.inl⟩

theorem Inv.gate {cfg : Cfg} (hE : cfg.emitDuplicates = false) {All rem held rem' held' : List Msg} {el : List Str}
    {sink : Sink} (h : Inv cfg All rem held el sink) (m : Msg) (hr : rem.Perm (m :: rem'))
    (hh : ∀ x, x ∈ held' ↔ x ∈ held ∨ ((gate cfg el m).1 = true ∧ x = m)) :
    Inv cfg All rem' held' (gate cfg el m).2 sink := by
  obtain ⟨g1, g2, g3, g4⟩ := gate_spec cfg hE el m
  refine ⟨h.shown_eq, h.nodup, h.reported, fun x hx => ?_, fun x hx hp => ?_, fun k hk => ?_,
    fun x hx => h.rem_sub x (hr.mem_iff.2 (List.mem_cons_of_mem _ hx))⟩
  · rcases (hh x).1 hx with hx | ⟨hok, rfl⟩
    · exact h.held_ok x hx
    · exact ⟨h.rem_sub x (hr.mem_iff.2 (List.mem_cons_self ..)), g1 hok⟩
  · rcases h.covered x hx hp with hc | hc
    · exact Or.inl (g3 _ hc)
    · rcases List.mem_cons.1 (hr.mem_iff.1 hc) with rfl | e
      · exact Or.inl (g2 hp)
      · exact Or.inr e
  · rcases g4 k hk with hk | ⟨rfl, hok, hi⟩
    · exact (h.el_ok k hk).imp (fun ⟨x, hx, h1⟩ => ⟨x, (hh x).2 (Or.inl hx), h1⟩) id
    · exact Or.inl ⟨m, (hh m).2 (Or.inr ⟨hok, rfl⟩), hi, rfl⟩

theorem isBookkeeping_internal (m : Msg) (h : isBookkeeping m = true) : m.severity = .internal := by
  unfold isBookkeeping at h
  simp only [Bool.and_eq_true, decide_eq_true_eq] at h
  exact h.1

theorem sinkStep_eq (cfg : Cfg) (hE : cfg.emitDuplicates = false) (s : Sink) (m : Msg) :
    (sinkStep cfg s m).shown = (if m.severity ≠ .internal ∧ cfg.key2 m ∉ s.shown then cfg.key2 m :: s.shown else s.shown) ∧
    (sinkStep cfg s m).reported = (if m.severity ≠ .internal ∧ cfg.key2 m ∉ s.shown then m :: s.reported else s.reported) := by
  have hc : ∀ b : Bool, (if b then { s with crit := true } else s).shown = s.shown ∧
      (if b then { s with crit := true } else s).reported = s.reported := by intro b; cases b <;> exact ⟨rfl, rfl⟩
  unfold sinkStep
  by_cases hi : m.severity = .internal
  · split <;> simp [hi, hc]
  · have hb : isBookkeeping m = false := Bool.eq_false_iff.2 fun hb => hi (isBookkeeping_internal m hb)
    by_cases hk : cfg.key2 m ∈ s.shown <;> simp [hb, hi, hk, hE, hc]

theorem sinkStep_spec (cfg : Cfg) (hE : cfg.emitDuplicates = false) (s : Sink) (m : Msg)
    (h1 : s.shown = s.reported.map cfg.key2) (h2 : s.shown.Nodup) :
    (sinkStep cfg s m).shown = (sinkStep cfg s m).reported.map cfg.key2 ∧ (sinkStep cfg s m).shown.Nodup ∧
    (∀ k, k ∈ (sinkStep cfg s m).shown ↔ k ∈ s.shown ∨ (m.severity ≠ .internal ∧ cfg.key2 m = k)) ∧
    (∀ x ∈ (sinkStep cfg s m).reported, x ∈ s.reported ∨ (x = m ∧ m.severity ≠ .internal)) := by
  obtain ⟨e1, e2⟩ := sinkStep_eq cfg hE s m
  rw [e1, e2]
  split
  · rename_i hn
    refine ⟨by rw [h1]; rfl, List.nodup_cons.2 ⟨hn.2, h2⟩, fun k => ?_, fun x hx => ?_⟩
    · rw [List.mem_cons, or_comm, eq_comm]
      exact or_congr_right (and_iff_right hn.1).symm
    · exact (List.mem_cons.1 hx).elim (fun e => Or.inr ⟨e, hn.1⟩) Or.inl
  · rename_i hn
    exact ⟨h1, h2, fun k => ⟨Or.inl, fun h => h.elim id fun ⟨hi, e⟩ => e ▸ Classical.not_not.1 fun hk => hn ⟨hi, hk⟩⟩,
      fun x => Or.inl⟩

theorem Inv.print {cfg : Cfg} (hE : cfg.emitDuplicates = false) {All rem held held' : List Msg} {el : List Str}
    {sink : Sink} (h : Inv cfg All rem held el sink) (m : Msg) (hh : held.Perm (m :: held')) :
    Inv cfg All rem held' el (sinkStep cfg sink m) := by
  obtain ⟨hmAll, hmp⟩ := h.held_ok m (hh.mem_iff.2 (List.mem_cons_self ..))
  obtain ⟨a, b, c, d⟩ := sinkStep_spec cfg hE sink m h.shown_eq h.nodup
  refine ⟨a, b, fun x hx => ?_, fun x hx => h.held_ok x (hh.mem_iff.2 (List.mem_cons_of_mem _ hx)), h.covered,
    fun k hk => ?_, h.rem_sub⟩
  · rcases d x hx with hx | ⟨rfl, hi⟩
    · exact h.reported x hx
    · exact ⟨hmAll, hmp.resolve_left hi⟩
  · rcases h.el_ok k hk with ⟨x, hx, hxi, hxk⟩ | ⟨x, hx, h2, h3, h4⟩
    · rcases List.mem_cons.1 (hh.mem_iff.1 hx) with rfl | e
      · exact Or.inr ⟨x, hmAll, hmp.resolve_left hxi, hxk, (c _).2 (Or.inr ⟨hxi, rfl⟩)⟩
      · exact Or.inl ⟨x, e, hxi, hxk⟩
    · exact Or.inr ⟨x, hx, h2, h3, (c _).2 (Or.inl h4)⟩

theorem Inv.deliver {cfg : Cfg} (hE : cfg.emitDuplicates = false) {All rem : List Msg} {m : Msg} {el : List Str} {sink : Sink}
    (h : Inv cfg All (m :: rem) [] el sink) :
    Inv cfg All rem [] (Exec.gate cfg el m).2 (if (Exec.gate cfg el m).1 then sinkStep cfg sink m else sink) := by
  -- `Exec.gate`: a bare `gate` is `Inv.gate` in this namespace
  have h1 := Inv.gate hE (held' := if (Exec.gate cfg el m).1 then [m] else []) h m (.refl _) (by
    intro x
    cases (Exec.gate cfg el m).1 <;> simp)
  cases hg : (Exec.gate cfg el m).1 with
  | false => simpa [hg] using h1
  | true =>
    simp only [hg, ↓reduceIte] at h1 ⊢
    exact Inv.print hE h1 m (.refl _)

theorem Inv.final {cfg : Cfg} {All : List Msg} {el : List Str} {sink : Sink} (h : Inv cfg All [] [] el sink)
    (hk : ∀ m ∈ All, ∀ m' ∈ All, cfg.keyGate m = cfg.keyGate m' → cfg.key2 m = cfg.key2 m') (k : Str) :
    k ∈ sink.shown ↔ ∃ m ∈ All, Passes cfg m ∧ cfg.key2 m = k := by
  constructor
  · intro hks
    rw [h.shown_eq] at hks
    obtain ⟨m, hm, e⟩ := List.mem_map.1 hks
    exact ⟨m, (h.reported m hm).1, (h.reported m hm).2, e⟩
  · rintro ⟨m, hm, hp, e⟩
    rcases h.covered m hm hp with hc | hc
    · rcases h.el_ok _ hc with ⟨x, hx, _⟩ | ⟨x, hx, _, hxk, hxs⟩
      · cases hx
      · rw [← e, ← hk x hx m hm hxk]; exact hxs
    · cases hc

theorem Inv.sink_congr {cfg : Cfg} {All rem held : List Msg} {el : List Str} {s s' : Sink}
    (h : Inv cfg All rem held el s) (h1 : s'.shown = s.shown) (h2 : s'.reported = s.reported) :
    Inv cfg All rem held el s' :=
  ⟨by rw [h1, h2]; exact h.shown_eq, h1 ▸ h.nodup, h2 ▸ h.reported, h.held_ok, h.covered, h1 ▸ h.el_ok, h.rem_sub⟩

theorem Inv.agree {β : Type} {cfg : Cfg} {All : List Msg} {el el' : List Str} {s s' : Sink}
    (hk : ∀ m ∈ All, ∀ m' ∈ All, cfg.keyGate m = cfg.keyGate m' → cfg.key2 m = cfg.key2 m')
    (h : Inv cfg All [] [] el s) (h' : Inv cfg All [] [] el' s') (obs : Msg → β)
    (hobs : ∀ m ∈ All, ∀ m' ∈ All, cfg.key2 m = cfg.key2 m' → obs m = obs m') :
    (s.reported.map obs).Perm (s'.reported.map obs) := by
  refine Dedup.perm_map_of_perm_keys cfg.key2 obs _ _ ?_ fun x hx y hy e => hobs x (h.reported x hx).1 y (h'.reported y hy).1 e
  rw [← h.shown_eq, ← h'.shown_eq]
  apply (List.perm_ext_iff_of_nodup h.nodup h'.nodup).2
  intro k
  rw [h.final hk k, h'.final hk k]

/-! ### the per-file logger with (-j1) and without (-jN) the global suppressions -/

/-- what survives `hasToLog`'s suppression test -/
def keep (cfg : Cfg) (m : Msg) : Bool := m.severity = .internal || !cfg.supG (sview cfg.simp m)

@[simp] theorem keep_asInternal (cfg : Cfg) (m : Msg) : keep cfg (asInternal m) = true := by
  simp [keep, asInternal]

theorem sview_fwd (simp : Str → Str) (r : Raw) : sview simp r.fwd = sview simp r.msg := by
  unfold Raw.fwd
  split <;> rfl

theorem fwd_severity (r : Raw) : r.fwd.severity = r.msg.severity := by
  unfold Raw.fwd
  split <;> rfl

/-- `sS`: duplicate filter of the -j1 logger (`logOne cfg true`), `sT`: of a -jN worker's (`logOne cfg false`).  They agree on `P`,
    the texts of the findings both report; `sT` may hold more (before 9907ad7: the text of a finding that only a global suppression
    matches).  The filters of the suppressed findings are not related: nothing forwarded that survives `keep` depends on them. -/
def SeenRel (P : Str → Prop) (sS sT : Seen) : Prop := ∀ k, P k → (k ∈ sT.shown ↔ k ∈ sS.shown)

/-- what `logOne_rel` asks of one `reportErr` call (`keyOK`, `safetyOK`, `dedupOK` as propositions) -/
structure LogOK (cfg : Cfg) (P : Str → Prop) (r : Raw) : Prop where
  key_ne : cfg.key r.msg ≠ []
  safe : cfg.safety = true → cfg.critical r.msg.id = true →
    cfg.supG (sview cfg.simp r.msg) = false ∧ cfg.supGX (sview cfg.simp r.msg) = false
  plain : r.plain cfg = true → P (cfg.key r.msg)
  global : cfg.dedupFix = false → r.globalOnly cfg = true → ¬ P (cfg.key r.msg)

theorem logOne_suppressed (cfg : Cfg) (hE : cfg.emitDuplicates = false) (g : Bool) (seen : Seen) (r : Raw)
    (hi : r.msg.severity ≠ .internal) (hrep : r.reportable = true) (hkey : cfg.key r.msg ≠ [])
    (hs : (r.locSup || (g && cfg.supG (sview cfg.simp r.msg))) = true) :
    logOne cfg g seen r =
      (if (cfg.safety && cfg.critical r.msg.id) = true then
         (if (r.locSupX || (g && cfg.supGX (sview cfg.simp r.msg))) = true then [asInternal r.msg] else [r.msg])
       else [],
       { seen with suppressed := seen.suppressed.insert (cfg.key r.msg) },
       cfg.safety && cfg.critical r.msg.id) := by
  unfold logOne
  by_cases hm : cfg.key r.msg ∈ seen.suppressed <;>
    simp only [hi, hrep, hs, hE, hm, List.isEmpty_eq_false_iff.2 hkey, Bool.true_and, Bool.true_or, Bool.not_true, Bool.not_false,
      Bool.false_eq_true, ↓reduceIte, Bool.and_assoc, decide_true, decide_false, List.insert_of_mem, List.insert_of_not_mem,
      not_false_eq_true]

theorem logOne_unsuppressed (cfg : Cfg) (hE : cfg.emitDuplicates = false) (g : Bool) (seen : Seen) (r : Raw)
    (hi : r.msg.severity ≠ .internal) (hrep : r.reportable = true) (hkey : cfg.key r.msg ≠ [])
    (hl : r.locSup = false) (hg : (g && cfg.supG (sview cfg.simp r.msg)) = false) :
    logOne cfg g seen r =
      if (cfg.dedupFix && !g && cfg.supG (sview cfg.simp r.msg)) = true then
        (if cfg.key r.msg ∈ seen.suppressed then [] else [r.fwd],
         { seen with suppressed := seen.suppressed.insert (cfg.key r.msg) }, false)
      else
        (if cfg.key r.msg ∈ seen.shown then [] else [r.fwd],
         { seen with shown := seen.shown.insert (cfg.key r.msg) },
         decide (cfg.key r.msg ∉ seen.shown) && !r.noFail && !cfg.supG (sview cfg.simp r.msg)) := by
  unfold logOne
  cases hG : cfg.supG (sview cfg.simp r.msg)
  · by_cases hm : cfg.key r.msg ∈ seen.shown <;>
      simp [hi, hrep, hl, hG, hE, hm, List.isEmpty_eq_false_iff.2 hkey]
  · have hg' : g = false := by simpa [hG] using hg
    cases hf : cfg.dedupFix
    · by_cases hm : cfg.key r.msg ∈ seen.shown <;>
        simp [hi, hrep, hl, hG, hg', hE, hm, List.isEmpty_eq_false_iff.2 hkey]
    · by_cases hm : cfg.key r.msg ∈ seen.suppressed <;>
        simp [hi, hrep, hl, hG, hg', hE, hm, List.isEmpty_eq_false_iff.2 hkey]

theorem logOne_rel (cfg : Cfg) (hE : cfg.emitDuplicates = false) (P : Str → Prop) (sS sT : Seen) (r : Raw)
    (hrel : SeenRel P sS sT) (hok : LogOK cfg P r) :
    (logOne cfg true sS r).1 = (logOne cfg false sT r).1.filter (keep cfg) ∧
    (logOne cfg true sS r).2.2 = (logOne cfg false sT r).2.2 ∧
    SeenRel P (logOne cfg true sS r).2.1 (logOne cfg false sT r).2.1 := by
  obtain ⟨hkey, hsafe, hP, hnP⟩ := hok
  by_cases hi : r.msg.severity = .internal
  · simp [logOne, hi, keep, hrel]
  cases hrep : r.reportable
  · simp [logOne, hi, hrep, hrel]
  cases hl : r.locSup
  case true =>
    -- suppressed by both loggers; under --safety a critical id is forwarded, and no global suppression matches it
    rw [logOne_suppressed cfg hE true sS r hi hrep hkey (by rw [hl]; rfl),
      logOne_suppressed cfg hE false sT r hi hrep hkey (by rw [hl]; rfl)]
    refine ⟨?_, rfl, hrel⟩
    cases hc : (cfg.safety && cfg.critical r.msg.id)
    · rfl
    · simp only [Bool.and_eq_true] at hc
      obtain ⟨hg, hgx⟩ := hsafe hc.1 hc.2
      cases r.locSupX
      · simp [keep, hg, hgx]
      · simp [hgx]
  case false =>
    cases hg : cfg.supG (sview cfg.simp r.msg)
    case false =>
      -- reported by both loggers: the text is in `P`
      have hmem := hrel _ (hP (by simp [Raw.plain, hi, hrep, hl, hg]))
      rw [logOne_unsuppressed cfg hE true sS r hi hrep hkey hl (by rw [hg]; rfl),
        logOne_unsuppressed cfg hE false sT r hi hrep hkey hl rfl]
      simp only [hg, Bool.and_false, Bool.false_eq_true, ↓reduceIte, hmem]
      refine ⟨?_, trivial, fun k hk => ?_⟩
      · split
        · rfl
        · simp [keep, sview_fwd, hg]
      · simp only [List.mem_insert_iff, hrel k hk]
    case true =>
      -- only a global suppression matches: -j1 suppresses, -jN forwards and leaves the finding to `hasToLog`
      have hnc : (cfg.safety && cfg.critical r.msg.id) = false := by
        cases hs : cfg.safety <;> cases hc : cfg.critical r.msg.id <;> try rfl
        have := (hsafe hs hc).1
        rw [hg] at this
        cases this
      have hkeepf : keep cfg r.fwd = false := by simp [keep, fwd_severity, hi, sview_fwd, hg]
      rw [logOne_suppressed cfg hE true sS r hi hrep hkey (by rw [hg, hl]; rfl),
        logOne_unsuppressed cfg hE false sT r hi hrep hkey hl rfl]
      simp only [hnc, hg, Bool.not_false, Bool.and_true, Bool.false_eq_true, ↓reduceIte, Bool.not_true, Bool.and_false]
      cases hf : cfg.dedupFix
      · -- before 9907ad7 the worker enters the text in the filter of the reported findings; it is not in `P`
        simp only [Bool.false_eq_true, ↓reduceIte]
        refine ⟨?_, trivial, fun k hk => ?_⟩
        · split <;> simp [hkeepf]
        · have hne : k ≠ cfg.key r.msg := fun e => hnP hf (by simp [Raw.globalOnly, hi, hrep, hl, hg]) (e ▸ hk)
          simp only [List.mem_insert_iff, hne, false_or, hrel k hk]
      · simp only [↓reduceIte]
        refine ⟨?_, trivial, hrel⟩
        split <;> simp [hkeepf]

theorem logRun_cons (cfg : Cfg) (g : Bool) (seen : Seen) (r : Raw) (rs : List Raw) :
    logRun cfg g seen (r :: rs) =
      ((logOne cfg g seen r).1 ++ (logRun cfg g (logOne cfg g seen r).2.1 rs).1,
       (logOne cfg g seen r).2.2 || (logRun cfg g (logOne cfg g seen r).2.1 rs).2) := by
  simp only [logRun]

theorem logRun_rel (cfg : Cfg) (hE : cfg.emitDuplicates = false) (P : Str → Prop) :
    ∀ (rs : List Raw) (sS sT : Seen), SeenRel P sS sT → (∀ r ∈ rs, LogOK cfg P r) →
      (logRun cfg true sS rs).1 = (logRun cfg false sT rs).1.filter (keep cfg) ∧
      (logRun cfg true sS rs).2 = (logRun cfg false sT rs).2 := by
  intro rs
  induction rs with
  | nil => exact fun _ _ _ _ => ⟨rfl, rfl⟩
  | cons r rs ih =>
    intro sS sT hrel hok
    obtain ⟨h1, h2, h3⟩ := logOne_rel cfg hE P sS sT r hrel (hok r (List.mem_cons_self ..))
    obtain ⟨i1, i2⟩ := ih _ _ h3 fun a ha => hok a (List.mem_cons_of_mem _ ha)
    rw [logRun_cons, logRun_cons]
    simp only [List.filter_append, h1, h2, i1, i2, and_self]

theorem mem_ite_or {α : Type} {c : Prop} [Decidable c] {a b : List α} {x : α} (h : x ∈ if c then a else b) :
    x ∈ a ∨ x ∈ b := by
  split at h
  · exact Or.inl h
  · exact Or.inr h

theorem logOne_mem (cfg : Cfg) (g : Bool) (seen : Seen) (r : Raw) (m : Msg) (h : m ∈ (logOne cfg g seen r).1) :
    m = r.msg ∨ m = r.fwd ∨ m = asInternal r.msg := by
  unfold logOne at h
  extract_lets v suppressed crit fwdCrit k bucketS seen' ex at h
  generalize (!cfg.emitDuplicates && decide (k ∈ if bucketS = true then seen.suppressed else seen.shown)) = dup at h
  clear_value seen' ex suppressed crit
  simp only [apply_ite Prod.fst] at h
  have hc : ∀ x ∈ fwdCrit, x = r.msg ∨ x = r.fwd ∨ x = asInternal r.msg := by
    intro x hx
    simp only [fwdCrit] at hx
    split at hx
    · split at hx
      · exact Or.inr (Or.inr (List.mem_singleton.1 hx))
      · exact Or.inl (List.mem_singleton.1 hx)
    · cases hx
  clear_value fwdCrit
  have hf : m ∈ fwdCrit ++ [r.fwd] → m = r.msg ∨ m = r.fwd ∨ m = asInternal r.msg := fun h =>
    (List.mem_append.1 h).elim (hc m) (fun h => Or.inr (Or.inl (List.mem_singleton.1 h)))
  rcases mem_ite_or h with h | h
  · exact Or.inl (List.mem_singleton.1 h)
  rcases mem_ite_or h with h | h
  · cases h
  rcases mem_ite_or h with h | h
  · exact hc m h
  rcases mem_ite_or h with h | h
  · exact hc m h
  rcases mem_ite_or h with h | h
  · exact hc m h
  · exact hf h

theorem logRun_mem (cfg : Cfg) (g : Bool) : ∀ (rs : List Raw) (seen : Seen) (m : Msg), m ∈ (logRun cfg g seen rs).1 →
    ∃ r ∈ rs, m = r.msg ∨ m = r.fwd ∨ m = asInternal r.msg := by
  intro rs
  induction rs with
  | nil => intro seen m h; simp [logRun] at h
  | cons r rs ih =>
    intro seen m h
    rw [logRun_cons] at h
    simp only [List.mem_append] at h
    rcases h with h | h
    · exact ⟨r, by simp, logOne_mem cfg g seen r m h⟩
    · obtain ⟨r', hr', h'⟩ := ih _ m h
      exact ⟨r', by simp [hr'], h'⟩

variable {F : Type}

/-- forwarded messages of one file / its exit bit, as a worker of -jN produces them -/
def outN (cfg : Cfg) (raws : F → List Raw) (f : F) : List Msg := (logRun cfg false {} (raws f)).1
def exN (cfg : Cfg) (raws : F → List Raw) (f : F) : Nat := (logRun cfg false {} (raws f)).2.toNat

/-! ### the thread system -/

/-- `Inv`'s `rem` and `held` for the thread system -/
def tRem (cfg : Cfg) (raws : F → List Raw) (s : TState F) : List Msg :=
  s.files.flatMap (outN cfg raws) ++ s.workers.flatMap (·.pending)

def tHeld (s : TState F) : List Msg := s.workers.flatMap fun w => w.held.toList

structure TInv (cfg : Cfg) (raws : F → List Raw) (All : List Msg) (total : Nat) (s : TState F) : Prop where
  inv : Inv cfg All (tRem cfg raws s) (tHeld s) s.el s.sink
  res : s.result + (s.files.map (exN cfg raws)).sum = total

theorem tstep_inv (cfg : Cfg) (hE : cfg.emitDuplicates = false) (raws : F → List Raw) (All : List Msg) (total : Nat)
    (s s' : TState F) (l : TLabel) (h : TInv cfg raws All total s) (hs : tstep cfg raws s l = some s') :
    TInv cfg raws All total s' := by
  cases l with
  | next i =>
    simp only [tstep] at hs
    split at hs
    · cases hs
    · rename_i w hw
      split at hs
      · cases hs
      · rename_i hcond
        have hp : w.pending = [] := by
          cases hpp : w.pending with
          | nil => rfl
          | cons x r => simp [hpp] at hcond
        split at hs <;> (simp only [Option.some.injEq] at hs; subst hs)
        · refine ⟨?_, h.res⟩
          simp only [tRem, tHeld]
          rw [ListSet.flatMap_set_of_eq _ hw, ListSet.flatMap_set_of_eq _ hw]
          · exact h.inv
          · rfl
          · rfl
        · rename_i f fs hf
          obtain ⟨R, h1, h2⟩ := ListSet.mem_flatMap_set (·.pending) hw
          refine ⟨h.inv.congr (fun x => ?_) (fun x => ?_), ?_⟩
          · simp only [tRem, hf, List.flatMap_cons, List.mem_append, h1, h2, hp, outN, List.not_mem_nil, false_or,
              or_assoc, or_left_comm]
          · simp only [tHeld]
            rw [ListSet.flatMap_set_of_eq _ hw]
            rfl
          · have := h.res
            simp only [hf, List.map_cons, List.sum_cons, exN] at this ⊢
            omega
  | gate i =>
    simp only [tstep] at hs
    split at hs
    · cases hs
    · rename_i w hw
      split at hs
      · rename_i m rest hpend hheld
        simp only [Option.some.injEq] at hs
        subst hs
        have hp := (ListSet.perm_flatMap_set (y := { w with pending := rest, held := if (gate cfg s.el m).1 then some m else none })
          (f := fun w : Worker => w.pending) hw hpend).append_left (s.files.flatMap (outN cfg raws))
        refine ⟨Inv.gate hE h.inv m (hp.trans List.perm_middle) (fun x => ?_), h.res⟩
        obtain ⟨R, h1, h2⟩ := ListSet.mem_flatMap_set (fun w => w.held.toList) hw
        simp only [tHeld, h1, h2, hheld, Option.toList_none, List.not_mem_nil, false_or]
        cases (gate cfg s.el m).1 <;> simp [or_comm, eq_comm]
      · cases hs
  | print i =>
    simp only [tstep] at hs
    split at hs
    · cases hs
    · rename_i w hw
      split at hs
      · rename_i m hheld
        simp only [Option.some.injEq] at hs
        subst hs
        have hp := ListSet.perm_flatMap_set (y := { w with held := none }) (f := fun w : Worker => w.held.toList) hw
          (by rw [hheld]; rfl)
        refine ⟨?_, h.res⟩
        simp only [tRem]
        rw [ListSet.flatMap_set_of_eq _ hw]
        · exact Inv.print hE h.inv m hp
        · rfl
      · cases hs

theorem trun_inv (cfg : Cfg) (hE : cfg.emitDuplicates = false) (raws : F → List Raw) (All : List Msg) (total : Nat) :
    ∀ (σ : List TLabel) (s s' : TState F), TInv cfg raws All total s → trun cfg raws s σ = some s' →
      TInv cfg raws All total s' := by
  intro σ
  induction σ with
  | nil => intro s s' h hs; simp [trun] at hs; subst hs; exact h
  | cons l σ ih =>
    intro s s' h hs
    simp only [trun] at hs
    split at hs
    · cases hs
    · rename_i s1 h1
      exact ih s1 s' (tstep_inv cfg hE raws All total s s1 l h h1) hs

theorem tinit_inv (cfg : Cfg) (raws : F → List Raw) (files : List F) (jobs : Nat) :
    TInv cfg raws (forwarded cfg raws files) ((files.map (exN cfg raws)).sum) (tinit files jobs) := by
  have hw : ∀ g : Worker → List Msg, g {} = [] → (List.replicate jobs ({} : Worker)).flatMap g = [] := fun g hg =>
    List.flatMap_eq_nil_iff.2 fun w hw => by rw [List.eq_of_mem_replicate hw, hg]
  refine ⟨(Inv.init cfg (forwarded cfg raws files)).congr (fun x => ?_) (fun x => ?_), by simp [tinit]⟩
  · simp [tRem, tinit, hw (·.pending) rfl, forwarded, outN]
  · simp [tHeld, tinit, hw (fun w => w.held.toList) rfl]

theorem tterminal (cfg : Cfg) (raws : F → List Raw) (All : List Msg) (total : Nat) (s : TState F)
    (h : TInv cfg raws All total s) (ht : s.terminal = true) : Inv cfg All [] [] s.el s.sink ∧ s.result = total := by
  simp only [TState.terminal, Bool.and_eq_true, List.isEmpty_iff, List.all_eq_true, Option.isNone_iff_eq_none] at ht
  obtain ⟨hf, hw⟩ := ht
  have h1 : tRem cfg raws s = [] := by
    rw [tRem, hf]
    exact List.flatMap_eq_nil_iff.2 fun w hw' => (hw w hw').1.2
  have h2 : tHeld s = [] := List.flatMap_eq_nil_iff.2 fun w hw' => by rw [(hw w hw').2]; rfl
  have hI := h.inv
  have hr := h.res
  rw [h1, h2] at hI
  rw [hf] at hr
  exact ⟨hI, hr⟩

/-! ### the single executor -/

/-- the three per-file hypotheses, as propositions -/
def FilesOK (cfg : Cfg) (raws : F → List Raw) (files : List F) : Prop :=
  ∀ f ∈ files, keyOK cfg (raws f) = true ∧ safetyOK cfg (raws f) = true ∧ dedupOK cfg (raws f) = true

theorem logRun_single_eq (cfg : Cfg) (hE : cfg.emitDuplicates = false) (rs : List Raw)
    (h1 : keyOK cfg rs = true) (h2 : safetyOK cfg rs = true) (h3 : dedupOK cfg rs = true) :
    (logRun cfg true {} rs).1 = (logRun cfg false {} rs).1.filter (keep cfg) ∧
    (logRun cfg true {} rs).2 = (logRun cfg false {} rs).2 := by
  simp only [keyOK, List.all_eq_true, Bool.and_eq_true, Bool.not_eq_true'] at h1
  refine logRun_rel cfg hE (fun k => ∃ r ∈ rs, r.plain cfg = true ∧ cfg.key r.msg = k) rs {} {} (fun _ _ => Iff.rfl)
    fun r hr => ⟨fun e => ?_, fun hs hc => ?_, fun hp => ⟨r, hr, hp, rfl⟩, fun hf hg ⟨r', hr', hp, e⟩ => ?_⟩
  · have := (h1 r hr).1
    rw [e] at this
    simp at this
  · simp only [safetyOK, hs, Bool.not_true, Bool.false_or, List.all_eq_true, Bool.or_eq_true, Bool.not_eq_true',
      Bool.and_eq_true] at h2
    rcases h2 r hr with h | h
    · rw [hc] at h; cases h
    · exact h
  · simp only [dedupOK, hf, Bool.false_or, List.all_eq_true, Bool.not_eq_true', Bool.and_eq_false_iff, beq_eq_false_iff_ne] at h3
    rcases h3 r hr r' hr' with (h | h) | h
    · rw [hg] at h; cases h
    · rw [hp] at h; cases h
    · exact h e.symm

theorem forwarded_key_ne (cfg : Cfg) (raws : F → List Raw) (files : List F) (hok : FilesOK cfg raws files)
    (m : Msg) (hm : m ∈ forwarded cfg raws files) (hi : m.severity ≠ .internal) : cfg.keyGate m ≠ [] := by
  simp only [forwarded, List.mem_flatMap] at hm
  obtain ⟨f, hf, hm⟩ := hm
  obtain ⟨r, hr, hcase⟩ := logRun_mem cfg false (raws f) {} m hm
  have h1 := (hok f hf).1
  simp only [keyOK, List.all_eq_true, Bool.and_eq_true, Bool.not_eq_true'] at h1
  have := h1 r hr
  rcases hcase with e | e | e
  · subst e
    intro e
    rw [e] at this
    simp at this
  · subst e
    intro e
    rw [e] at this
    simp at this
  · subst e
    exact absurd rfl hi

/-- the sequential run is the schedule that delivers in order.  It has no gate, but what the gate would drop as a duplicate
    the sink drops: a gate key already seen belongs to a shown text (`el_ok`), which `hk` makes the text of this message -/
theorem Inv.seq {cfg : Cfg} (hE : cfg.emitDuplicates = false) {All : List Msg}
    (hk : ∀ m ∈ All, ∀ m' ∈ All, cfg.keyGate m = cfg.keyGate m' → cfg.key2 m = cfg.key2 m')
    (hne : ∀ m ∈ All, m.severity ≠ .internal → cfg.keyGate m ≠ []) :
    ∀ (L : List Msg) (el : List Str) (s : Sink), Inv cfg All L [] el s →
      ∃ el', Inv cfg All [] [] el' ((L.filter (keep cfg)).foldl (sinkStep cfg) s) := by
  intro L
  induction L with
  | nil => exact fun el s h => ⟨el, h⟩
  | cons m L ih =>
    intro el s h
    have hm := h.rem_sub m (List.mem_cons_self ..)
    have hd := Inv.deliver hE h
    rcases gate_cases cfg hE el m with ⟨hi, hg⟩ | ⟨hi, hnp, hg⟩ | ⟨hp, hin, hg⟩ | ⟨hp, hin, hg⟩ <;> rw [hg] at hd
    · rw [List.filter_cons_of_pos (by simp [keep, hi])]
      exact ih _ _ hd
    · have hs : cfg.supG (sview cfg.simp m) = true := by
        cases hs : cfg.supG (sview cfg.simp m)
        · exact absurd ⟨hi, hs, hne m hm hi⟩ hnp
        · rfl
      rw [List.filter_cons_of_neg (by simp [keep, hi, hs])]
      exact ih _ _ hd
    · have hshown : cfg.key2 m ∈ s.shown := by
        rcases h.el_ok _ hin with ⟨x, hx, _⟩ | ⟨x, hx, _, hxk, hxs⟩
        · cases hx
        · rw [← hk x hx m hm hxk]; exact hxs
      rw [List.filter_cons_of_pos (by simp [keep, hp.2.1])]
      refine ih _ _ (hd.sink_congr ?_ ?_)
      · simp [(sinkStep_eq cfg hE s m).1, hshown]
      · simp [(sinkStep_eq cfg hE s m).2, hshown]
    · rw [List.filter_cons_of_pos (by simp [keep, hp.2.1])]
      exact ih _ _ hd

theorem runSingle_eq (cfg : Cfg) (raws : F → List Raw) :
    ∀ (files : List F) (o : Outcome),
      files.foldl (singleFile cfg raws) o =
        { sink := (files.flatMap fun f => (logRun cfg true {} (raws f)).1).foldl (sinkStep cfg) o.sink,
          result := o.result + (files.map fun f => (logRun cfg true {} (raws f)).2.toNat).sum } := by
  intro files
  induction files with
  | nil => intro o; simp
  | cons f fs ih =>
    intro o
    simp only [List.foldl_cons, ih, singleFile, List.flatMap_cons, List.foldl_append, List.map_cons, List.sum_cons]
    congr 1
    omega

theorem single_final (cfg : Cfg) (hE : cfg.emitDuplicates = false) (raws : F → List Raw) (files : List F)
    (hok : FilesOK cfg raws files)
    (hk : ∀ m ∈ forwarded cfg raws files, ∀ m' ∈ forwarded cfg raws files, cfg.keyGate m = cfg.keyGate m' → cfg.key2 m = cfg.key2 m') :
    (∃ el, Inv cfg (forwarded cfg raws files) [] [] el (runSingle cfg raws files).sink) ∧
    (runSingle cfg raws files).result = (files.map (exN cfg raws)).sum := by
  have hflat : (files.flatMap fun f => (logRun cfg true {} (raws f)).1) = (forwarded cfg raws files).filter (keep cfg) := by
    clear hk
    simp only [forwarded]
    induction files with
    | nil => rfl
    | cons f fs ih =>
      have := hok f (by simp)
      simp only [List.flatMap_cons, List.filter_append, (logRun_single_eq cfg hE (raws f) this.1 this.2.1 this.2.2).1]
      rw [ih (fun g hg => hok g (by simp [hg]))]
  have hsum : (files.map fun f => (logRun cfg true {} (raws f)).2.toNat) = files.map (exN cfg raws) := by
    apply List.map_congr_left
    intro f hf
    have := hok f hf
    simp only [exN, (logRun_single_eq cfg hE (raws f) this.1 this.2.1 this.2.2).2]
  unfold runSingle
  rw [runSingle_eq, hflat, hsum]
  exact ⟨Inv.seq hE hk (forwarded_key_ne cfg raws files hok) _ _ _ (Inv.init cfg _), by simp⟩

/-! ### the parent of the process executor, as a fold over a list of events -/

/-- the suppressions the parent will have received once these events are read -/
def supsOf (cfg : Cfg) (evs : List Ev) : List Suppr :=
  evs.filterMap fun e => match e with
    | .suppr inl s => (match supprDecode cfg.simp inl (supprEncode s) with
      | .ok s' => some s'
      | .error _ => none)
    | _ => none

/-- effect of one complete, well-formed message on the parent (abstract view of `handleRead`): new state, pipe closed -/
def applyEv (cfg : Cfg) (p : Parent) : Ev → Parent × Bool
  | .err m =>
    ({ p with el := (gate cfg p.el m).2, sink := if (gate cfg p.el m).1 then sinkStep cfg p.sink m else p.sink }, false)
  | .suppr inl s => ({ p with recv := p.recv ++ supsOf cfg [.suppr inl s] }, false)
  | .done n => ({ p with result := p.result + n }, true)

def errsOf (evs : List Ev) : List Msg := evs.filterMap fun e => match e with | .err m => some m | _ => none
def doneSum (evs : List Ev) : Nat := (evs.filterMap fun e => match e with | .done n => some n | _ => none).sum

theorem errsOf_append (a b : List Ev) : errsOf (a ++ b) = errsOf a ++ errsOf b := by simp [errsOf, List.filterMap_append]

theorem doneSum_append (a b : List Ev) : doneSum (a ++ b) = doneSum a + doneSum b := by
  simp [doneSum, List.filterMap_append, List.sum_append]

theorem applyEv_result (cfg : Cfg) (p : Parent) (ev : Ev) : (applyEv cfg p ev).1.result = p.result + doneSum [ev] := by
  cases ev <;> rfl

theorem applyEv_recv (cfg : Cfg) (p : Parent) (ev : Ev) : (applyEv cfg p ev).1.recv = p.recv ++ supsOf cfg [ev] := by
  cases ev with
  | suppr inl s => rfl
  | _ => exact (List.append_nil _).symm

def readAll (cfg : Cfg) (p : Parent) (evs : List Ev) : Parent := evs.foldl (fun p ev => (applyEv cfg p ev).1) p

theorem readAll_snoc (cfg : Cfg) (p : Parent) (evs : List Ev) (ev : Ev) :
    readAll cfg p (evs ++ [ev]) = (applyEv cfg (readAll cfg p evs) ev).1 := by
  rw [readAll, List.foldl_append]
  rfl

theorem readAll_spec (cfg : Cfg) (All : List Msg) : ∀ (evs : List Ev) (p : Parent) (R : List Msg),
    (readAll cfg p evs).result = p.result + doneSum evs ∧ (readAll cfg p evs).recv = p.recv ++ supsOf cfg evs ∧
    (cfg.emitDuplicates = false → Inv cfg All (errsOf evs ++ R) [] p.el p.sink →
      Inv cfg All R [] (readAll cfg p evs).el (readAll cfg p evs).sink) := by
  intro evs
  induction evs with
  | nil => exact fun p R => ⟨rfl, (List.append_nil _).symm, fun _ h => h⟩
  | cons ev evs ih =>
    intro p R
    obtain ⟨h1, h2, h3⟩ := ih (applyEv cfg p ev).1 R
    refine ⟨?_, ?_, fun hE h => h3 hE ?_⟩
    · show (readAll cfg (applyEv cfg p ev).1 evs).result = _
      rw [h1, applyEv_result, Nat.add_assoc]
      exact congrArg _ (doneSum_append [ev] evs).symm
    · show (readAll cfg (applyEv cfg p ev).1 evs).recv = _
      rw [h2, applyEv_recv, List.append_assoc]
      exact congrArg _ List.filterMap_append.symm
    · cases ev with
      | err m => exact Inv.deliver hE h
      | _ => exact h

def allEvs (cfg : Cfg) (raws : F → List Raw) (sups : F → List (Bool × Suppr)) (files : List F) : List Ev :=
  files.flatMap (childEvents cfg raws sups)

theorem filterMap_const_none {α β : Type} (l : List α) : l.filterMap (fun _ => (none : Option β)) = [] :=
  List.filterMap_eq_nil_iff.2 fun _ _ => rfl

theorem filterMap_childEvents {β : Type} (g : Ev → Option β) (cfg : Cfg) (raws : F → List Raw)
    (sups : F → List (Bool × Suppr)) (f : F) :
    (childEvents cfg raws sups f).filterMap g =
      (outN cfg raws f).filterMap (fun m => g (.err m)) ++ (sups f).filterMap (fun p => g (.suppr p.1 p.2)) ++
        (g (.done (exN cfg raws f))).toList := by
  simp only [childEvents, outN, exN, List.filterMap_append, List.filterMap_map, Function.comp_def, List.filterMap_cons,
    List.filterMap_nil]
  cases g (Ev.done (logRun cfg false {} (raws f)).2.toNat) <;> rfl

theorem childEvents_errs (cfg : Cfg) (raws : F → List Raw) (sups : F → List (Bool × Suppr)) (f : F) :
    errsOf (childEvents cfg raws sups f) = outN cfg raws f := by
  simp [errsOf, filterMap_childEvents, filterMap_const_none]

theorem childEvents_done (cfg : Cfg) (raws : F → List Raw) (sups : F → List (Bool × Suppr)) (f : F) :
    doneSum (childEvents cfg raws sups f) = exN cfg raws f := by
  simp [doneSum, filterMap_childEvents, filterMap_const_none]

theorem supsOf_childEvents (cfg : Cfg) (raws : F → List Raw) (sups : F → List (Bool × Suppr)) (f : F) :
    supsOf cfg (childEvents cfg raws sups f) = decodedSups cfg (sups f) := by
  simp only [supsOf, decodedSups, filterMap_childEvents, filterMap_const_none, List.nil_append, Option.toList_none,
    List.append_nil]
  rfl

theorem errsOf_allEvs (cfg : Cfg) (raws : F → List Raw) (sups : F → List (Bool × Suppr)) (files : List F) :
    errsOf (allEvs cfg raws sups files) = forwarded cfg raws files := by
  rw [errsOf, allEvs, List.filterMap_flatMap]
  exact congrArg (List.flatMap · files) (funext (childEvents_errs cfg raws sups))

theorem doneSum_allEvs (cfg : Cfg) (raws : F → List Raw) (sups : F → List (Bool × Suppr)) (files : List F) :
    doneSum (allEvs cfg raws sups files) = (files.map (exN cfg raws)).sum := by
  induction files with
  | nil => rfl
  | cons f fs ih => rw [allEvs, List.flatMap_cons, doneSum_append, childEvents_done, List.map_cons, List.sum_cons, ← ih, allEvs]

theorem supsOf_allEvs (cfg : Cfg) (raws : F → List Raw) (sups : F → List (Bool × Suppr)) (files : List F) :
    supsOf cfg (allEvs cfg raws sups files) = files.flatMap fun f => decodedSups cfg (sups f) := by
  rw [supsOf, allEvs, List.filterMap_flatMap]
  exact congrArg (List.flatMap · files) (funext (supsOf_childEvents cfg raws sups))

theorem readAll_perm (cfg : Cfg) (raws : F → List Raw) (sups : F → List (Bool × Suppr)) (files : List F) (evs : List Ev)
    (h : evs.Perm (allEvs cfg raws sups files)) :
    (cfg.emitDuplicates = false →
      Inv cfg (forwarded cfg raws files) [] [] (readAll cfg {} evs).el (readAll cfg {} evs).sink) ∧
    (readAll cfg {} evs).result = (files.map (exN cfg raws)).sum ∧
    (readAll cfg {} evs).recv.Perm (files.flatMap fun f => decodedSups cfg (sups f)) := by
  obtain ⟨h1, h2, h3⟩ := readAll_spec cfg (forwarded cfg raws files) evs {} []
  refine ⟨fun hE => h3 hE ((Inv.init cfg _).congr (fun x => ?_) (fun _ => Iff.rfl)), ?_, ?_⟩
  · rw [List.append_nil, ← errsOf_allEvs cfg raws sups]
    exact (h.filterMap _).mem_iff
  · rw [h1, ← doneSum_allEvs cfg raws sups]
    exact (Nat.zero_add _).trans (h.filterMap _).sum_nat
  · rw [h2, ← supsOf_allEvs]
    exact h.filterMap _

/-! ### the process system -/

theorem supprEncode_ne_nil (s : Suppr) : (supprEncode s).isEmpty = false := by
  unfold supprEncode
  cases s.toStr <;> simp

theorem deserialize_good (cfg : Cfg) (m : Msg) (h : (Ev.err m).good cfg = true) :
    deserialize cfg.simp (serialize m) = .ok m ∧ (serialize m).length < two32 := by
  simp only [Ev.good, Bool.and_eq_true, decide_eq_true_eq] at h
  obtain ⟨⟨h1, h2⟩, h3⟩ := h
  refine ⟨?_, h2⟩
  have := deserialize_serialize_aux cfg.simp m h1
  rw [h3] at this
  exact this

theorem parentRead_frame (cfg : Cfg) (p : Parent) (ev : Ev) (rest : Str) (h : ev.good cfg = true) :
    parentRead cfg p (ev.frame ++ rest) =
      if (applyEv cfg p ev).2 then .closed (applyEv cfg p ev).1 else .cont (applyEv cfg p ev).1 rest := by
  cases ev with
  | err m =>
    obtain ⟨hd, hl⟩ := deserialize_good cfg m h
    simp only [Ev.frame, parentRead, readFrame_frame '2' (serialize m) rest (by decide) hl, ↓reduceIte, hd, applyEv,
      Bool.false_eq_true]
  | suppr inl s =>
    simp only [Ev.good, Bool.and_eq_true, decide_eq_true_eq] at h
    obtain ⟨hl, hdec⟩ := h
    cases hd : supprDecode cfg.simp inl (supprEncode s) with
    | error e => simp [hd] at hdec
    | ok s' =>
      cases inl
      · simp [Ev.frame, parentRead, readFrame_frame '4' (supprEncode s) rest (by decide) hl, supprEncode_ne_nil, applyEv,
          supsOf, hd]
      · simp [Ev.frame, parentRead, readFrame_frame '3' (supprEncode s) rest (by decide) hl, supprEncode_ne_nil, applyEv,
          supsOf, hd]
  | done n =>
    -- `done` carries the exit bit of the file (0 or 1: `Ev.good`)
    have hn : ∀ n, n ≤ 1 → stoi (render n) = some (n : Int) ∧ (render n).length < two32 := by decide
    simp only [Ev.good, decide_eq_true_eq] at h
    obtain ⟨h1, h2⟩ := hn n h
    simp [Ev.frame, parentRead, readFrame_frame '5' (render n) rest (by decide) h2, h1, applyEv, addResult]

/-- a worker whose pipe holds whole events instead of bytes (proof device; `conc` gives the modelled worker back) -/
structure AChild where
  todo : List Ev
  sent : List Ev := []
  exited : Bool := false
  isOpen : Bool := true
  reaped : Bool := false

def AChild.conc (c : AChild) : Child :=
  { todo := c.todo, pipe := c.sent.flatMap Ev.frame, exited := c.exited, isOpen := c.isOpen, reaped := c.reaped }

structure AState (F : Type) where
  files : List F
  children : List AChild := []
  parent : Parent := {}
  /-- the events the parent has read so far, oldest first (`conc` forgets them) -/
  read : List Ev := []

def AState.conc (a : AState F) : PState F :=
  { files := a.files, children := a.children.map AChild.conc, parent := a.parent, dead := false }

theorem frame_ne_nil (ev : Ev) : ev.frame ≠ [] := by
  cases ev with
  | err m => simp [Ev.frame, Serialize.frame]
  | suppr inl s => cases inl <;> simp [Ev.frame, Serialize.frame]
  | done n => simp [Ev.frame, Serialize.frame]

theorem pipe_isEmpty (l : List Ev) : (l.flatMap Ev.frame).isEmpty = l.isEmpty := by
  cases l with
  | nil => rfl
  | cons ev r =>
    have := frame_ne_nil ev
    cases h : ev.frame with
    | nil => exact absurd h this
    | cons x y => simp [h]

def AChild.evs (c : AChild) : List Ev := c.sent ++ c.todo

/-- the events the parent has not read yet -/
def aOut (cfg : Cfg) (raws : F → List Raw) (sups : F → List (Bool × Suppr)) (a : AState F) : List Ev :=
  allEvs cfg raws sups a.files ++ a.children.flatMap (·.evs)

def Ends (evs : List Ev) : Prop := ∃ pre n, evs = pre ++ [Ev.done n] ∧ ∀ e ∈ pre, ∀ k, e ≠ Ev.done k

theorem Ends.ne_nil {evs : List Ev} (h : Ends evs) : evs ≠ [] := by
  obtain ⟨pre, n, e, _⟩ := h
  rw [e]
  exact List.append_ne_nil_of_right_ne_nil _ (List.cons_ne_nil _ _)

theorem Ends.tail {ev : Ev} {evs : List Ev} (h : Ends (ev :: evs)) :
    (∃ k, ev = Ev.done k ∧ evs = []) ∨ ((∀ k, ev ≠ Ev.done k) ∧ Ends evs) := by
  obtain ⟨pre, n, e, hpre⟩ := h
  cases pre with
  | nil =>
    simp only [List.nil_append, List.cons.injEq] at e
    exact Or.inl ⟨n, e.1, e.2⟩
  | cons x pre =>
    simp only [List.cons_append, List.cons.injEq] at e
    exact Or.inr ⟨fun k => e.1 ▸ hpre x (List.mem_cons_self ..) k, pre, n, e.2, fun y hy => hpre y (List.mem_cons_of_mem _ hy)⟩

theorem childEvents_ends (cfg : Cfg) (raws : F → List Raw) (sups : F → List (Bool × Suppr)) (f : F) :
    Ends (childEvents cfg raws sups f) := by
  refine ⟨_, _, rfl, ?_⟩
  intro e he k
  simp only [List.mem_append, List.mem_map] at he
  rcases he with ⟨m, _, rfl⟩ | ⟨p, _, rfl⟩ <;> simp

/-- shape of a worker: `done` is its last event; once the parent has read it nothing is left -/
structure ChildOK (c : AChild) : Prop where
  exited_ok : c.exited = true → c.todo = []
  open_ok : c.isOpen = true → Ends c.evs
  closed_ok : c.isOpen = false → c.evs = []

/-- conservation: every event of the run has been read or is still to come, none twice; the parent is what reading makes of
    those read -/
structure AInv (cfg : Cfg) (raws : F → List Raw) (sups : F → List (Bool × Suppr)) (files : List F) (a : AState F) : Prop where
  conserve : (a.read ++ aOut cfg raws sups a).Perm (allEvs cfg raws sups files)
  parent_eq : a.parent = readAll cfg {} a.read
  shape : ∀ c ∈ a.children, ChildOK c

theorem AInv.shuffle {cfg : Cfg} {raws : F → List Raw} {sups : F → List (Bool × Suppr)} {files : List F} {a : AState F}
    (h : AInv cfg raws sups files a) {fs : List F} {cs : List AChild}
    (hp : (aOut cfg raws sups { a with files := fs, children := cs }).Perm (aOut cfg raws sups a))
    (hok : ∀ c ∈ cs, ChildOK c) : AInv cfg raws sups files { a with files := fs, children := cs } where
  conserve := (hp.append_left a.read).trans h.conserve
  parent_eq := h.parent_eq
  shape := hok

theorem AInv.silent {cfg : Cfg} {raws : F → List Raw} {sups : F → List (Bool × Suppr)} {files : List F}
    {a : AState F} (h : AInv cfg raws sups files a) {i : Nat} {c c' : AChild} (hc : a.children[i]? = some c)
    (hev : c'.evs = c.evs) (hok : ChildOK c') :
    AInv cfg raws sups files { a with children := a.children.set i c' } :=
  h.shuffle (by rw [aOut, aOut, ListSet.flatMap_set_of_eq _ hc hev]) (ListSet.forall_mem_set h.shape i hok)

theorem AInv.fork {cfg : Cfg} {raws : F → List Raw} {sups : F → List (Bool × Suppr)} {files : List F}
    {a : AState F} (h : AInv cfg raws sups files a) {f : F} {fs : List F} (hf : a.files = f :: fs) :
    AInv cfg raws sups files
      { a with files := fs, children := a.children ++ [{ todo := childEvents cfg raws sups f }] } := by
  refine h.shuffle ?_ fun c hc => ?_
  · simp only [aOut, allEvs, hf, List.flatMap_cons, List.flatMap_append, List.flatMap_nil, List.append_nil, AChild.evs,
      List.nil_append]
    rw [← List.append_assoc, List.append_assoc (childEvents cfg raws sups f)]
    exact List.perm_append_comm
  · rcases List.mem_append.1 hc with hc | hc
    · exact h.shape c hc
    · rw [List.mem_singleton.1 hc]
      exact ⟨fun e => (by cases e), fun _ => childEvents_ends cfg raws sups f, fun e => (by cases e)⟩

theorem AInv.read {cfg : Cfg} {raws : F → List Raw} {sups : F → List (Bool × Suppr)}
    {files : List F} {a : AState F} (h : AInv cfg raws sups files a) {i : Nat} {c c' : AChild} {ev : Ev}
    (hc : a.children[i]? = some c) (hev : c.evs = ev :: c'.evs) (hok : ChildOK c') :
    AInv cfg raws sups files
      { a with parent := (applyEv cfg a.parent ev).1, children := a.children.set i c', read := a.read ++ [ev] } := by
  have hp : (aOut cfg raws sups a).Perm (ev :: aOut cfg raws sups { a with children := a.children.set i c' }) :=
    ((ListSet.perm_flatMap_set hc hev).append_left _).trans List.perm_middle
  refine ⟨?_, ?_, ListSet.forall_mem_set h.shape i hok⟩
  · rw [List.append_assoc]
    exact (hp.symm.append_left a.read).trans h.conserve
  · show _ = readAll cfg {} (a.read ++ [ev])
    rw [readAll_snoc, ← h.parent_eq]

/-- the byte-level model simulates the abstract one -/
theorem pstep_inv (cfg : Cfg) (jobs : Nat) (raws : F → List Raw)
    (sups : F → List (Bool × Suppr)) (files : List F)
    (hgood : ∀ ev ∈ allEvs cfg raws sups files, ev.good cfg = true)
    (a : AState F) (h : AInv cfg raws sups files a) (l : PLabel) (s' : PState F)
    (hs : pstep cfg jobs raws sups a.conc l = some s') :
    ∃ a', s' = a'.conc ∧ AInv cfg raws sups files a' := by
  cases l with
  | fork =>
    simp only [pstep, AState.conc, Bool.false_eq_true, ↓reduceIte] at hs
    split at hs
    · cases hs
    · rename_i f fs hf
      obtain rfl := Option.some.inj (Option.ite_none_right_eq_some.1 hs).2
      exact ⟨_, by simp [AState.conc, AChild.conc], h.fork hf⟩
  | send i =>
    simp only [pstep, AState.conc, List.getElem?_map] at hs
    cases hc : a.children[i]? with
    | none => simp [hc] at hs
    | some c =>
      obtain ⟨s1, s2, s3⟩ := h.shape c (List.mem_of_getElem? hc)
      simp only [hc, Option.map_some, AChild.conc] at hs
      split at hs
      · cases hs
      · rename_i ev rest htodo
        obtain ⟨hex, hs⟩ := Option.ite_none_left_eq_some.1 hs
        obtain rfl := Option.some.inj hs
        have hevs : ({ c with todo := rest, sent := c.sent ++ [ev] } : AChild).evs = c.evs := by
          simp [AChild.evs, htodo]
        exact ⟨_, by simp [AState.conc, AChild.conc, List.map_set, List.flatMap_append],
          h.silent hc hevs ⟨fun e => absurd e hex, fun ho => hevs ▸ s2 ho, fun ho => hevs ▸ s3 ho⟩⟩
  | exit i =>
    simp only [pstep, AState.conc, List.getElem?_map] at hs
    cases hc : a.children[i]? with
    | none => simp [hc] at hs
    | some c =>
      obtain ⟨s1, s2, s3⟩ := h.shape c (List.mem_of_getElem? hc)
      simp only [hc, Option.map_some, AChild.conc] at hs
      obtain ⟨hcond, hs⟩ := Option.ite_none_left_eq_some.1 hs
      obtain rfl := Option.some.inj hs
      have htodo : c.exited = false ∧ c.todo = [] := by simpa using hcond
      exact ⟨_, by simp [AState.conc, AChild.conc, List.map_set],
        h.silent hc (c' := { c with exited := true }) rfl ⟨fun _ => htodo.2, s2, s3⟩⟩
  | reap i =>
    simp only [pstep, AState.conc, List.getElem?_map, Bool.false_eq_true, ↓reduceIte] at hs
    cases hc : a.children[i]? with
    | none => simp [hc] at hs
    | some c =>
      obtain ⟨s1, s2, s3⟩ := h.shape c (List.mem_of_getElem? hc)
      simp only [hc, Option.map_some, AChild.conc] at hs
      obtain rfl := Option.some.inj (Option.ite_none_left_eq_some.1 hs).2
      exact ⟨_, by simp [AState.conc, AChild.conc, List.map_set],
        h.silent hc (c' := { c with reaped := true }) rfl ⟨s1, s2, s3⟩⟩
  | read i =>
    simp only [pstep, AState.conc, List.getElem?_map, Bool.false_eq_true, ↓reduceIte] at hs
    cases hc : a.children[i]? with
    | none => simp [hc] at hs
    | some c =>
      obtain ⟨s1, s2, s3⟩ := h.shape c (List.mem_of_getElem? hc)
      simp only [hc, Option.map_some, AChild.conc, pipe_isEmpty] at hs
      obtain ⟨hcond, hs⟩ := Option.ite_none_left_eq_some.1 hs
      simp only [Bool.or_eq_true, Bool.not_eq_true', Bool.and_eq_true, not_or, Bool.not_eq_false, not_and] at hcond
      obtain ⟨hopen, hne⟩ := hcond
      have hends := s2 hopen
      cases hsent : c.sent with
      | nil =>
        -- an open pipe at end-of-file cannot occur: `done` has not been read yet
        have hex : c.exited = true := by simpa using hne (by simp [hsent])
        exact absurd (by simp [AChild.evs, hsent, s1 hex]) hends.ne_nil
      | cons ev rest =>
        -- what is in a pipe is still to be read, so it is one of the run's events
        have hev : ev.good cfg = true := hgood ev <| h.conserve.subset <| List.mem_append_right _ <|
          List.mem_append_right _ <| List.mem_flatMap.2 ⟨c, List.mem_of_getElem? hc, by simp [AChild.evs, hsent]⟩
        simp only [AChild.evs, hsent, List.cons_append] at hends
        rw [hsent, List.flatMap_cons, parentRead_frame cfg a.parent ev _ hev] at hs
        rcases hends.tail with ⟨k, rfl, hnil⟩ | ⟨hnd, hends'⟩
        · -- the end marker: nothing else is left in this worker
          obtain ⟨hrest, htodo⟩ := List.append_eq_nil_iff.1 hnil
          obtain rfl := Option.some.inj hs
          exact ⟨_, by simp [AState.conc, AChild.conc, List.map_set],
            h.read hc (ev := .done k) (c' := { c with sent := [], isOpen := false })
              (by simp [AChild.evs, hsent, hrest, htodo])
              ⟨fun _ => htodo, fun e => (by cases e), fun _ => htodo⟩⟩
        · have hcl : (applyEv cfg a.parent ev).2 = false := by
            cases ev with
            | done k => exact absurd rfl (hnd k)
            | _ => rfl
          simp only [hcl, Bool.false_eq_true, ↓reduceIte] at hs
          obtain rfl := Option.some.inj hs
          exact ⟨_, by simp [AState.conc, AChild.conc, List.map_set],
            h.read hc (ev := ev) (c' := { c with sent := rest }) (by simp only [AChild.evs, hsent, List.cons_append])
              ⟨s1, fun _ => hends', fun ho => by rw [hopen] at ho; cases ho⟩⟩

theorem prun_inv (cfg : Cfg) (jobs : Nat) (raws : F → List Raw)
    (sups : F → List (Bool × Suppr)) (files : List F)
    (hgood : ∀ ev ∈ allEvs cfg raws sups files, ev.good cfg = true) :
    ∀ (σ : List PLabel) (a : AState F) (s' : PState F), AInv cfg raws sups files a →
      prun cfg jobs raws sups a.conc σ = some s' → ∃ a', s' = a'.conc ∧ AInv cfg raws sups files a' := by
  intro σ
  induction σ with
  | nil => intro a s' h hs; exact ⟨a, (Option.some.inj hs).symm, h⟩
  | cons l σ ih =>
    intro a s' h hs
    simp only [prun] at hs
    split at hs
    · cases hs
    · rename_i s1 h1
      obtain ⟨a1, rfl, h1'⟩ := pstep_inv cfg jobs raws sups files hgood a h l s1 h1
      exact ih a1 s' h1' hs

def ainit (files : List F) : AState F := { files := files }

theorem ainit_inv (cfg : Cfg) (raws : F → List Raw) (sups : F → List (Bool × Suppr)) (files : List F) :
    AInv cfg raws sups files (ainit files) := by
  refine ⟨?_, rfl, fun c hc => by cases hc⟩
  rw [aOut, ainit, List.flatMap_nil, List.append_nil]
  exact .refl _

theorem childEvents_good (cfg : Cfg) (raws : F → List Raw) (sups : F → List (Bool × Suppr)) (files : List F)
    (h1 : ∀ m ∈ forwarded cfg raws files, (Ev.err m).good cfg = true)
    (h2 : ∀ f ∈ files, ∀ p ∈ sups f, (Ev.suppr p.1 p.2).good cfg = true) :
    ∀ ev ∈ allEvs cfg raws sups files, ev.good cfg = true := by
  intro ev hev
  obtain ⟨f, hf, hev⟩ := List.mem_flatMap.1 hev
  simp only [childEvents, List.mem_append, List.mem_map, List.mem_singleton] at hev
  rcases hev with (⟨m, hm, rfl⟩ | ⟨p, hp, rfl⟩) | rfl
  · exact h1 m (by simp only [forwarded, List.mem_flatMap]; exact ⟨f, hf, hm⟩)
  · exact h2 f hf p hp
  · cases (logRun cfg false {} (raws f)).2 <;> simp [Ev.good]

theorem prun_pinit (cfg : Cfg) (jobs : Nat) (raws : F → List Raw)
    (sups : F → List (Bool × Suppr)) (files : List F)
    (hmsg : ∀ m ∈ forwarded cfg raws files, (Ev.err m).good cfg = true)
    (hsup : ∀ f ∈ files, ∀ p ∈ sups f, (Ev.suppr p.1 p.2).good cfg = true)
    (σ : List PLabel) (s' : PState F) (hrun : prun cfg jobs raws sups (pinit files) σ = some s') :
    ∃ a', s' = a'.conc ∧ AInv cfg raws sups files a' :=
  prun_inv cfg jobs raws sups files (childEvents_good cfg raws sups files hmsg hsup) σ (ainit files) s'
    (ainit_inv cfg raws sups files) hrun

theorem aterminal (cfg : Cfg) (raws : F → List Raw) (sups : F → List (Bool × Suppr)) (files : List F)
    (a : AState F) (h : AInv cfg raws sups files a) (ht : a.conc.terminal = true) :
    a.read.Perm (allEvs cfg raws sups files) := by
  simp only [PState.terminal, AState.conc, Bool.not_false, Bool.true_and, Bool.and_eq_true, List.isEmpty_iff,
    List.all_eq_true, List.mem_map, forall_exists_index, and_imp, forall_apply_eq_imp_iff₂, AChild.conc,
    Bool.not_eq_true'] at ht
  obtain ⟨hf, hc⟩ := ht
  have hout : aOut cfg raws sups a = [] := by
    rw [aOut, hf]
    exact List.flatMap_eq_nil_iff.2 fun c hcm => (h.shape c hcm).closed_ok (hc c hcm).1
  have hperm := h.conserve
  rw [hout, List.append_nil] at hperm
  exact hperm

end Cppcheck.Exec
