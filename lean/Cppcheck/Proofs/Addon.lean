import Cppcheck.Model.Addon
import Cppcheck.Proofs.FirstOfKey
/-
C34 — helper lemmas: members of an object, the duplicate filter, the conversion loop and the summaries (both end at the
first object whose conversion throws), validation, the location array.
-/
namespace Cppcheck.Addon
open Cppcheck.Wire

theorem lookup_cons (k k' : String) (v : V) (r : Fields) :
    lookup k ((k'.toList, v) :: r) = if k' = k then some v else lookup k r := by
  simp only [lookup, String.toList_inj]

theorem lookup_nil (k : String) : lookup k [] = none := rfl

theorem has_of_getStr {k : String} {f : Fields} {s : Str} (h : getStr k f = some s) : has k f = true := by
  unfold getStr at h
  unfold has
  cases hl : lookup k f <;> simp_all

theorem dedupAux_eq (fs : List Finding) (seen) : dedupAux fs seen = FirstOfKey.firsts Finding.key seen fs :=
  FirstOfKey.eq_firsts (f := fun s l => dedupAux l s) (fun _ => rfl) (fun s x r h => by simp [dedupAux, h])
    (fun s x r h => by simp [dedupAux, h]) seen fs

theorem dedup_eq (fs : List Finding) : dedup fs = FirstOfKey.firsts Finding.key [] fs := dedupAux_eq fs []

theorem dedup_sublist (fs : List Finding) : (dedup fs).Sublist fs :=
  dedup_eq fs ▸ FirstOfKey.firsts_sublist _ [] fs
theorem dedup_nodup (fs : List Finding) : ((dedup fs).map Finding.key).Nodup :=
  dedup_eq fs ▸ FirstOfKey.nodup_keys_firsts _ [] fs
/-- the first finding of every rendered text survives, and only that one -/
theorem dedup_find (fs : List Finding) (k) :
    (dedup fs).find? (fun g => g.key = k) = fs.find? (fun g => g.key = k) :=
  dedup_eq fs ▸ FirstOfKey.find?_firsts _ [] fs k (by simp)
theorem dedup_eq_self (fs : List Finding) (h : (fs.map Finding.key).Nodup) : dedup fs = fs :=
  (dedup_eq fs).trans (FirstOfKey.firsts_eq_self _ [] fs (by simp) h)

/-- every finding's rendered text is shown (by the first finding that renders to it) -/
theorem dedup_complete (fs : List Finding) (f : Finding) (h : f ∈ fs) : ∃ g ∈ dedup fs, g.key = f.key :=
  dedup_eq fs ▸ List.mem_map.1 ((FirstOfKey.mem_keys_firsts _ [] fs _).2 ⟨List.not_mem_nil, List.mem_map_of_mem h⟩)

def reported (o : Opts) (ob : ObjLine) : Option Finding :=
  match convert o ob with | .report f => some f | _ => none

theorem reported_eq_some {o : Opts} {ob : ObjLine} {f : Finding} : reported o ob = some f ↔ convert o ob = .report f := by
  unfold reported
  cases convert o ob <;> simp

theorem throws_cons (o : Opts) (ob : ObjLine) (r : List ObjLine) :
    throws o (ob :: r) = (decide (convert o ob = .throw) || throws o r) := rfl

theorem throws_false_iff (o : Opts) (objs : List ObjLine) :
    throws o objs = false ↔ ∀ ob ∈ objs, convert o ob ≠ .throw := by
  simp [throws]

theorem relayObjs_eq (o : Opts) (objs : List ObjLine) :
    relayObjs o objs = (if throws o objs then Outcome.failed else .ok)
      ((objs.takeWhile fun ob => convert o ob ≠ .throw).filterMap (reported o)) := by
  induction objs with
  | nil => rfl
  | cons ob r ih =>
    rw [relayObjs, throws_cons, ih]
    cases hc : convert o ob with
    | throw => simp [List.takeWhile, hc]
    | skip => simp [List.takeWhile, reported, hc]
    | report f => cases throws o r <;> simp [List.takeWhile, reported, hc]

theorem relayObjs_findings (o : Opts) (objs : List ObjLine) :
    (relayObjs o objs).findings = (objs.takeWhile fun ob => convert o ob ≠ .throw).filterMap (reported o) := by
  rw [relayObjs_eq]; split <;> rfl

theorem relayObjs_isFailed (o : Opts) (objs : List ObjLine) : (relayObjs o objs).isFailed = throws o objs := by
  rw [relayObjs_eq]; cases throws o objs <;> rfl

theorem summaryObjs_eq (o : Opts) (objs : List ObjLine) :
    summaryObjs o objs = (objs.takeWhile fun ob => convert o ob ≠ .throw).filter fun ob => has "summary" ob.fields := by
  fun_induction summaryObjs o objs with
  | case1 => rfl
  | case2 ob r hs ih =>
    have hc : convert o ob = .skip := by simp [convert, hs]
    rw [List.takeWhile_cons_of_pos (by simp [hc]), List.filter_cons, if_pos hs, ih]
  | case3 ob r hs hc => rw [List.takeWhile_cons_of_neg (by simp [hc])]; rfl
  | case4 ob r hs hc ih => rw [List.takeWhile_cons_of_pos (by simpa using hc), List.filter_cons, if_neg hs, ih]

theorem Outcome.eq_ok {r : Outcome} (h : r.isFailed = false) : r = .ok r.findings := by
  cases r with
  | ok fs => rfl
  | failed fs => cases h

def objsOf (lines : List Line) : List ObjLine := lines.filterMap fun | .obj ob => some ob | _ => none

theorem mem_objsOf {ob : ObjLine} {lines : List Line} : ob ∈ objsOf lines ↔ Line.obj ob ∈ lines := by
  unfold objsOf
  rw [List.mem_filterMap]
  constructor
  · rintro ⟨l, hl, h⟩
    cases l <;> cases h
    exact hl
  · exact fun h => ⟨_, h, rfl⟩

theorem validate_eq (lines : List Line) : validate lines = if Line.notBrace ∈ lines then none else some (objsOf lines) := by
  induction lines with
  | nil => rfl
  | cons l r ih =>
    cases l <;> simp only [validate, ih, objsOf, List.filterMap_cons, List.mem_cons, reduceCtorEq, false_or, true_or, if_true]
    split <;> rfl

theorem validate_objsOf (lines : List Line) (h : ∀ l ∈ lines, l ≠ .notBrace) : validate lines = some (objsOf lines) := by
  rw [validate_eq, if_neg (fun hm => h _ hm rfl)]

theorem validate_none_iff : ∀ lines : List Line, validate lines = none ↔ Line.notBrace ∈ lines := by
  intro lines
  rw [validate_eq]
  split <;> simp [*]

/-- one element of the `loc` array gives exactly one location, with its four members -/
def locItem (it : Option Fields) (l : Loc) : Prop :=
  ∃ f, it = some f ∧ getStr "file" f = some l.file ∧ getInt "linenr" f = some l.line ∧
    getInt "column" f = some l.col ∧ getStr "info" f = some l.info

def locItems : List (Option Fields) → List Loc → Prop
  | [], [] => True
  | it :: r, l :: ls => locItem it l ∧ locItems r ls
  | _, _ => False

theorem convLocs_eq_some_iff (items : List (Option Fields)) (ls : List Loc) :
    convLocs items = some ls ↔ locItems items ls := by
  fun_induction convLocs items generalizing ls with
  | case1 => cases ls <;> simp [locItems]
  | case2 r => cases ls <;> simp [locItems, locItem]
  | case3 f r fl l c i ls' h5 h4 h3 h2 h1 ih =>
    cases ls with
    | nil => simp [locItems]
    | cons l' ls'' =>
      cases l'
      simp only [locItems, locItem, ← ih, h1, h2, h3, h4, h5, Option.some.injEq, exists_eq_left', List.cons.injEq, Loc.mk.injEq, and_assoc]
  | case4 f r hno ih =>
    cases ls with
    | nil => simp [locItems]
    | cons l' ls'' =>
      simp only [reduceCtorEq, false_iff]
      rintro ⟨⟨f', hf, h1, h2, h3, h4⟩, h5⟩
      cases hf
      exact hno _ _ _ _ _ h1 h2 h3 h4 ((ih _).mpr h5)

end Cppcheck.Addon
