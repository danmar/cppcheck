import Cppcheck.Model.CondTypeRange
import Cppcheck.Proofs.CondKnown
/-
C03 — soundness of the models of `checkCompareValueOutOfTypeRange` (`outOfRange_sound`) and of `comparison()` (the verdict
tables for `&` and `|` on bit patterns, then on the value of an `&` / `|` node with a number token), and what ties both to
`findings`.
-/
namespace Cppcheck.CondExpr

theorem rangeVerdict_flip {op : BinOp} {i : Nat} {k lo hi : Int} (hi0 : i ≠ 0) :
    rangeVerdict op i k lo hi = rangeVerdict (flipOp op) 0 k lo hi := by
  have h0 : (i == 0) = false := by simpa using hi0
  unfold rangeVerdict
  rw [h0]
  cases op <;> rfl

/-- the verdict table of `checkCompareValueOutOfTypeRange` is right for every value of the interval it was given -/
theorem rangeVerdict_sound {op : BinOp} {i : Nat} {k lo hi : Int} {b : Bool}
    (h : rangeVerdict op i k lo hi = some b) (hlo : lo ≤ 0) (hhi : 0 ≤ hi) (x : Int) (h1 : lo ≤ x) (h2 : x ≤ hi) :
    (if i = 0 then cmpZ op k x else cmpZ op x k) = b := by
  have first : ∀ {op b}, rangeVerdict op 0 k lo hi = some b → cmpZ op k x = b := by
    clear h
    intro op b h
    unfold rangeVerdict at h
    by_cases hk : (k == 0) = true
    · rw [if_pos hk] at h; cases h
    rw [if_neg hk] at h
    simp only [beq_iff_eq] at hk
    simp only [beq_self_eq_true, if_true] at h
    by_cases hout : (decide (k < lo) || decide (k > hi)) = true
    · -- outside the interval `k` lies on the side its sign says, and so does every comparison
      rw [if_pos hout] at h
      obtain rfl := Option.some.inj h
      have hside : (k < x ∧ k < 0) ∨ (x < k ∧ 0 < k) := by
        simp only [Bool.or_eq_true, decide_eq_true_eq] at hout; omega
      cases op <;> simp [cmpZ] <;> omega
    rw [if_neg hout] at h
    by_cases hkl : (k == lo) = true
    · -- `k = lo`: `k <= x` holds, `k > x` does not
      rw [if_pos hkl] at h
      obtain rfl : k = lo := by simpa using hkl
      split at h
      · rename_i ho
        obtain rfl : op = .le := by simpa using ho
        obtain rfl := Option.some.inj h
        simp [cmpZ, h1]
      · split at h
        · rename_i ho
          obtain rfl : op = .gt := by simpa using ho
          obtain rfl := Option.some.inj h
          simp [cmpZ]; omega
        · cases h
    · -- `k = hi`: `k >= x` holds, `k < x` does not
      rw [if_neg hkl] at h
      split at h
      · rename_i ho
        simp only [Bool.and_eq_true, Bool.or_eq_true, beq_iff_eq] at ho
        obtain rfl := Option.some.inj h
        obtain ⟨rfl, rfl | rfl⟩ := ho <;> simp [cmpZ] <;> omega
      · cases h
  by_cases hi0 : i = 0
  · subst hi0; exact first h
  · rw [rangeVerdict_flip hi0] at h
    rw [if_neg hi0, ← cmpZ_flip]
    exact first h

theorem typeBits_toVT (t : Ty) : typeBits (toVT t).type = t.bits := by
  obtain ⟨r, s⟩ := t
  cases r <;> rfl

/-- the interval computed from a value type covers the C type with that value type; when that is not signed it reaches 1
    (for `vtOK`'s other case, a 0/1-valued token) -/
theorem typeInterval_covers {tvt : VT} {vvt : Option VT} {lo hi : Int} (h : typeInterval tvt vvt = some (lo, hi)) :
    lo ≤ 0 ∧ 0 ≤ hi ∧ (tvt.sign ≠ .signed → 1 ≤ hi) ∧ ∀ t : Ty, toVT t = tvt → ∀ x, inRange t x → lo ≤ x ∧ x ≤ hi := by
  unfold typeInterval at h
  simp only at h
  generalize hn : typeBits tvt.type = n at h
  split at h
  · cases h
  rename_i hb
  simp only [Bool.or_eq_true, beq_iff_eq, decide_eq_true_eq, not_or] at hb
  -- with `n` bits: `lo` is `0` or `-2^(n-1)`, `hi` is `2^n - 1` or its half `2^(n-1) - 1`
  have hp : (2 : Int) ^ n = 2 ^ (n - 1) * 2 := by rw [← Int.pow_succ]; congr 1; omega
  have hpos := Int.pow_pos (n := 2) (m := n - 1) (by decide)
  obtain ⟨rfl, rfl⟩ := Prod.mk.inj (Option.some.inj h)
  refine ⟨?_, ?_, fun hs => ?_, ?_⟩
  · split <;> omega
  · repeat' split <;> omega
  · rw [if_pos (by simpa using hs)]; omega
  rintro t rfl x ⟨h1, h2⟩
  rw [typeBits_toVT] at hn
  subst hn
  unfold tmin at h1
  unfold tmax at h2
  cases hs : t.signed <;> simp only [toVT, hs, if_true, if_false, Bool.false_eq_true] at h1 h2 ⊢
  · exact ⟨h1, h2⟩
  · refine ⟨h1, ?_⟩
    show x ≤ if (decide (t.bits ≥ 32) && notSigned vvt true) = true then _ else _
    split <;> omega

theorem vtOK_interval {S ρ e tvt vvt lo hi Y} (hv : vtOK S e = true) (ht : e.ann.vt = some tvt)
    (hi' : typeInterval tvt vvt = some (lo, hi)) (he : eval S ρ e = some Y) : lo ≤ 0 ∧ 0 ≤ hi ∧ lo ≤ Y ∧ Y ≤ hi := by
  obtain ⟨c1, c2, c3, c4⟩ := typeInterval_covers hi'
  refine ⟨c1, c2, ?_⟩
  simp only [vtOK, ht, Bool.or_eq_true, Bool.and_eq_true, beq_iff_eq, bne_iff_ne] at hv
  rcases hv with hv | ⟨⟨_, hsg⟩, hb⟩
  · exact c4 _ hv.symm Y (eval_inRange S ρ e Y he)
  · have := c3 hsg
    rcases (isBoolVal_eval hb he).1 with rfl | rfl <;> omega

theorem outOfRange_spec {op : BinOp} {i : Nat} {valueTok typeTok : Expr} {b : Bool}
    (h : outOfRange op i valueTok typeTok = some b) :
    ∃ k tvt lo hi, valueTok.ann.known = some k ∧ typeTok.ann.vt = some tvt ∧
      typeInterval tvt valueTok.ann.vt = some (lo, hi) ∧ rangeVerdict op i k lo hi = some b := by
  unfold outOfRange at h
  split at h
  · rename_i k tvt hk ht
    simp only [Option.ite_none_left_eq_some] at h
    obtain ⟨_, _, h⟩ := h
    split at h
    · cases h
    · exact ⟨k, tvt, _, _, hk, ht, by assumption, h⟩
  · cases h

theorem outOfRange_sound {S ρ a op l r v b}
    (hc : op.isCmp = true) (gl : annOK S l = true) (gr : annOK S r = true) (hs : cmpSafe S (.bin a op l r) = true)
    (hvl : vtOK S l = true) (hvr : vtOK S r = true)
    (h : outOfRange op 0 l r = some b ∨ outOfRange op 1 r l = some b)
    (he : eval S ρ (.bin a op l r) = some v) : v = b2i b := by
  rcases h with h | h
  · obtain ⟨k, tvt, lo, hi, hk, ht, hint, hv⟩ := outOfRange_spec h
    obtain ⟨Y, hY, rfl⟩ := cmp_known_left hs hc gl hk he
    obtain ⟨b1, b2, b3, b4⟩ := vtOK_interval hvr ht hint hY
    rw [cmpZ_flip, ← rangeVerdict_sound hv b1 b2 Y b3 b4]; rfl
  · obtain ⟨k, tvt, lo, hi, hk, ht, hint, hv⟩ := outOfRange_spec h
    obtain ⟨X, hX, rfl⟩ := cmp_known_right hs hc gr hk he
    obtain ⟨b1, b2, b3, b4⟩ := vtOK_interval hvl ht hint hX
    rw [← rangeVerdict_sound hv b1 b2 X b3 b4]; rfl

theorem bitCmpVerdict_n1 {bitop op : BinOp} {uns : Bool} {n1 n2 : Int} {b : Bool}
    (hv : bitCmpVerdict bitop op uns n1 n2 = some b) : 0 ≤ n1 := by
  by_cases hn : n1 < 0
  · rw [bitCmpVerdict, if_pos hn] at hv; cases hv
  · omega

/-- `comparison()`: `(X & num1) op num2` -/
theorem bitAnd_verdict_sound {op : BinOp} {uns : Bool} {n1 n2 : Int} {b : Bool}
    (h : bitCmpVerdict .band op uns n1 n2 = some b) (p : Nat) :
    cmpZ op ((p &&& n1.toNat : Nat) : Int) n2 = b := by
  have hn1 := bitCmpVerdict_n1 h
  have hle : ((p &&& n1.toNat : Nat) : Int) ≤ n1 := by
    have := @Nat.and_le_right p n1.toNat
    omega
  rw [bitCmpVerdict, if_neg (by omega)] at h
  by_cases ho : (op == .eq || op == .ne) = true
  · -- `==`, `!=`: the value can only be n2 if the bits of n2 are among those of n1
    rw [if_pos ho] at h
    simp only [beq_self_eq_true, Bool.true_and, show (BinOp.band == BinOp.bor) = false from rfl, Bool.false_and,
      Bool.or_false, bne_iff_ne, ne_eq, ite_not] at h
    split at h
    · cases h
    · rename_i hq
      have hne : ((p &&& n1.toNat : Nat) : Int) ≠ n2 := by
        intro e
        apply hq
        have e' : p &&& n1.toNat = n2.toNat := by omega
        rw [← e', Nat.and_comm p, ← Nat.and_assoc, Nat.and_self]
      obtain rfl := Option.some.inj h
      simp only [Bool.or_eq_true, beq_iff_eq] at ho
      rcases ho with rfl | rfl <;> simp [cmpZ, hne]
  · -- `<`, `>=` below n2; `<=`, `>` not above
    rw [if_neg ho, if_pos (show (BinOp.band == .band) = true from rfl)] at h
    by_cases h1 : ((op == .ge || op == .lt) && decide (n1 < n2)) = true
    · rw [if_pos h1] at h
      simp only [Bool.or_eq_true, Bool.and_eq_true, beq_iff_eq, decide_eq_true_eq] at h1
      rcases h1 with ⟨rfl | rfl, hlt⟩
      · obtain rfl : false = b := Option.some.inj h
        simp [cmpZ]; omega
      · obtain rfl : true = b := Option.some.inj h
        simp [cmpZ]; omega
    · rw [if_neg h1] at h
      split at h
      · rename_i h3
        simp only [Bool.or_eq_true, Bool.and_eq_true, beq_iff_eq, decide_eq_true_eq] at h3
        rcases h3 with ⟨rfl | rfl, hlt⟩
        · obtain rfl : true = b := Option.some.inj h
          simp [cmpZ]; omega
        · obtain rfl : false = b := Option.some.inj h
          simp [cmpZ]; omega
      · cases h

/-- `comparison()`: `(X | num1) op num2`, first operand of the `|` unsigned -/
theorem bitOr_verdict_sound {op : BinOp} {n1 n2 : Int} {b : Bool}
    (h : bitCmpVerdict .bor op true n1 n2 = some b) (p : Nat) :
    cmpZ op ((p ||| n1.toNat : Nat) : Int) n2 = b := by
  have hn1 := bitCmpVerdict_n1 h
  have hle : n1 ≤ ((p ||| n1.toNat : Nat) : Int) := by
    have := @Nat.right_le_or p n1.toNat
    omega
  rw [bitCmpVerdict, if_neg (by omega)] at h
  by_cases ho : (op == .eq || op == .ne) = true
  · -- `==`, `!=`: the value can only be n2 if the bits of n1 are among those of n2
    rw [if_pos ho] at h
    simp only [beq_self_eq_true, Bool.true_and, show (BinOp.bor == BinOp.band) = false from rfl, Bool.false_and,
      Bool.false_or, bne_iff_ne, ne_eq, ite_not] at h
    split at h
    · cases h
    · rename_i hq
      have hne : ((p ||| n1.toNat : Nat) : Int) ≠ n2 := by
        intro e
        apply hq
        have e' : p ||| n1.toNat = n2.toNat := by omega
        rw [← e', Nat.or_comm p, ← Nat.or_assoc, Nat.or_self]
      obtain rfl := Option.some.inj h
      simp only [Bool.or_eq_true, beq_iff_eq] at ho
      rcases ho with rfl | rfl <;> simp [cmpZ, hne]
  · -- `<`, `>=` from n2 on; `<=`, `>` above
    rw [if_neg ho, if_neg (show ¬ (BinOp.bor == .band) = true by decide), if_pos (show (BinOp.bor == .bor) = true from rfl),
      if_pos rfl] at h
    by_cases h1 : ((op == .ge || op == .lt) && decide (n1 ≥ n2)) = true
    · rw [if_pos h1] at h
      simp only [Bool.or_eq_true, Bool.and_eq_true, beq_iff_eq, decide_eq_true_eq] at h1
      rcases h1 with ⟨rfl | rfl, hlt⟩
      · obtain rfl : true = b := Option.some.inj h
        simp [cmpZ]; omega
      · obtain rfl : false = b := Option.some.inj h
        simp [cmpZ]; omega
    · rw [if_neg h1] at h
      split at h
      · rename_i h3
        simp only [Bool.or_eq_true, Bool.and_eq_true, beq_iff_eq, decide_eq_true_eq] at h3
        rcases h3 with ⟨rfl | rfl, hlt⟩
        · obtain rfl : false = b := Option.some.inj h
          simp [cmpZ]; omega
        · obtain rfl : true = b := Option.some.inj h
          simp [cmpZ]; omega
      · cases h

theorem evalBin_band_nonneg {ta tb : Ty} {A n V : Int} (hr : inRange tb n) (h0 : 0 ≤ n)
    (h : evalBin .band ta tb A n = some V) : ∃ p : Nat, V = ((p &&& n.toNat : Nat) : Int) := by
  have hin := inRange_uac_nonneg_right ta tb n hr h0
  replace h : wrap (uac ta tb) (Int.ofNat (pat (uac ta tb) (wrap (uac ta tb) A) &&& pat (uac ta tb) (wrap (uac ta tb) n))) = V :=
    Option.some.inj h
  rw [wrap_of_inRange _ _ hin, pat_nonneg h0 hin] at h
  refine ⟨pat (uac ta tb) (wrap (uac ta tb) A), ?_⟩
  rw [← h]
  apply wrap_of_inRange
  apply inRange_natCast
  have := @Nat.and_le_right (pat (uac ta tb) (wrap (uac ta tb) A)) n.toNat
  have := hin.2
  omega

theorem lit_num {S ρ an sp n1 Y} (g : annOK S (.lit an sp) = true) (hn : an.num = some n1) (h0 : 0 ≤ n1)
    (h : eval S ρ (.lit an sp) = some Y) : Y = n1 ∧ inRange (S.lty sp) Y := by
  simp only [annOK, Bool.and_eq_true, beq_iff_eq, decide_eq_true_eq] at g
  obtain ⟨⟨⟨⟨⟨r, _⟩, k⟩, _⟩, _⟩, nk⟩ := g
  rw [hn, k] at nk
  simp only [Option.some.injEq] at nk
  simp only [eval, Option.some.injEq] at h
  rw [wrap_of_inRange _ _ r] at h
  subst h
  rw [nk] at h0
  exact ⟨by rw [nk, toI64_nonneg _ _ r h0], r⟩

theorem lit_num_some {S an sp} (g : annOK S (.lit an sp) = true) : ∃ k, an.num = some k := by
  simp only [annOK, Bool.and_eq_true, beq_iff_eq] at g
  exact ⟨_, by rw [g.2, g.1.1.1.2]⟩

theorem band_node_cmp {S ρ a' x an sp e V op uns n1 n2 b}
    (he : e = .bin a' .band x (.lit an sp) ∨ e = .bin a' .band (.lit an sp) x)
    (g : annOK S e = true) (hnum : an.num = some n1) (hv : bitCmpVerdict .band op uns n1 n2 = some b)
    (hV : eval S ρ e = some V) : cmpZ op V n2 = b := by
  have hn1 := bitCmpVerdict_n1 hv
  have hp : ∃ p : Nat, V = ((p &&& n1.toNat : Nat) : Int) := by
    rcases he with rfl | rfl
    · obtain ⟨A, B, _, hB, hv'⟩ := eval_bin_cop rfl hV
      obtain ⟨rfl, rB⟩ := lit_num (annOK_bin g).2 hnum hn1 hB
      exact evalBin_band_nonneg rB hn1 hv'
    · obtain ⟨A, B, hA, _, hv'⟩ := eval_bin_cop rfl hV
      obtain ⟨rfl, rA⟩ := lit_num (annOK_bin g).1 hnum hn1 hA
      rw [evalBin_comm rfl rfl] at hv'
      exact evalBin_band_nonneg rA hn1 hv'
  obtain ⟨p, rfl⟩ := hp
  exact bitAnd_verdict_sound hv p

theorem evalBin_bor_nonneg {ta tb : Ty} {A n V : Int} (hA : inRange ta A) (a0 : 0 ≤ A) (hn : inRange tb n) (n0 : 0 ≤ n)
    (h : evalBin .bor ta tb A n = some V) : V = ((A.toNat ||| n.toNat : Nat) : Int) := by
  have hinA := inRange_uac_nonneg_left ta tb A hA a0
  have hinn := inRange_uac_nonneg_right ta tb n hn n0
  replace h : wrap (uac ta tb) (Int.ofNat (pat (uac ta tb) (wrap (uac ta tb) A) ||| pat (uac ta tb) (wrap (uac ta tb) n))) = V :=
    Option.some.inj h
  rw [wrap_of_inRange _ _ hinA, wrap_of_inRange _ _ hinn, pat_nonneg a0 hinA, pat_nonneg n0 hinn] at h
  rw [← h]
  apply wrap_of_inRange
  apply inRange_natCast
  -- both are below `2 ^ vbits`, hence so is their `|||`
  rw [tmax_eq]
  have hA2 := hinA.2
  have hn2 := hinn.2
  rw [tmax_eq] at hA2 hn2
  have hAk : A.toNat < 2 ^ (uac ta tb).vbits := (Int.toNat_lt a0).mpr (by push_cast; omega)
  have hnk : n.toNat < 2 ^ (uac ta tb).vbits := (Int.toNat_lt n0).mpr (by push_cast; omega)
  have : ((A.toNat ||| n.toNat : Nat) : Int) < 2 ^ (uac ta tb).vbits := by
    exact_mod_cast Nat.or_lt_two_pow hAk hnk
  omega

theorem unsigned_vt_nonneg {S ρ x X} (hv : vtOK S x = true)
    (hu : unsFlag x = true)
    (hX : eval S ρ x = some X) : 0 ≤ X := by
  unfold vtOK at hv
  unfold unsFlag at hu
  cases hvt : x.ann.vt with
  | none => rw [hvt] at hu; simp at hu
  | some vt =>
    rw [hvt] at hv hu
    simp only [Bool.or_eq_true, Bool.and_eq_true, beq_iff_eq, bne_iff_ne] at hv hu
    rcases hv with hv | ⟨_, hb⟩
    · have hr := eval_inRange S ρ x X hX
      have hsg : (tyOf S x).signed = false := by
        cases hs : (tyOf S x).signed with
        | false => rfl
        | true => rw [hv] at hu; simp [toVT, hs] at hu
      unfold inRange tmin at hr
      rw [hsg] at hr
      simpa using hr.1
    · rcases (isBoolVal_eval hb hX).1 with rfl | rfl <;> decide

theorem bor_node_cmp {S ρ a' x an sp V op n1 n2 b}
    (g : annOK S (.bin a' .bor x (.lit an sp)) = true) (hnum : an.num = some n1)
    (hvx : vtOK S x = true) (hu : unsFlag x = true) (hv : bitCmpVerdict .bor op true n1 n2 = some b)
    (hV : eval S ρ (.bin a' .bor x (.lit an sp)) = some V) : cmpZ op V n2 = b := by
  have hn1 := bitCmpVerdict_n1 hv
  obtain ⟨A, B, hA, hB, hv'⟩ := eval_bin_cop rfl hV
  obtain ⟨rfl, rB⟩ := lit_num (annOK_bin g).2 hnum hn1 hB
  rw [evalBin_bor_nonneg (eval_inRange S ρ x A hA) (unsigned_vt_nonneg hvx hu hA) rB hn1 hv']
  exact bitOr_verdict_sound hv A.toNat

theorem vtAll_root {S e} (h : vtAll S e = true) : vtOK S e = true := by
  cases e <;> simp only [vtAll, Bool.and_eq_true] at h
  · exact h
  · exact h
  · exact h.1
  · exact h.1.1

theorem vtAll_bin {S a op l r} (h : vtAll S (.bin a op l r) = true) : vtAll S l = true ∧ vtAll S r = true := by
  simp only [vtAll, Bool.and_eq_true] at h
  exact ⟨h.1.2, h.2⟩

theorem cmpNodes_sub {S : Sem} : ∀ (c : Expr) {op l r}, (op, l, r) ∈ cmpNodes c → annOK S c = true → cmpSafe S c = true →
    vtAll S c = true →
    op.isCmp = true ∧ annOK S l = true ∧ annOK S r = true ∧ (∀ a, cmpSafe S (.bin a op l r) = true) ∧
      vtAll S l = true ∧ vtAll S r = true
  | .lit _ _, _, _, _, h, _, _, _ => by simp [cmpNodes] at h
  | .var _ _, _, _, _, h, _, _, _ => by simp [cmpNodes] at h
  | .un a o e, op, l, r, h, ga, gs, gv => by
    simp only [cmpNodes] at h
    simp only [vtAll, Bool.and_eq_true] at gv
    exact cmpNodes_sub e h (annOK_un ga) gs gv.2
  | .bin a o x y, op, l, r, h, ga, gs, gv => by
    simp only [cmpNodes, List.mem_append] at h
    obtain ⟨gx, gy⟩ := annOK_bin ga
    obtain ⟨sx, sy⟩ := cmpSafe_bin gs
    obtain ⟨vx, vy⟩ := vtAll_bin gv
    rcases h with (h | h) | h
    · exact cmpNodes_sub x h gx sx vx
    · split at h
      · rename_i hc
        simp only [List.mem_singleton, Prod.mk.injEq] at h
        obtain ⟨rfl, rfl, rfl⟩ := h
        exact ⟨hc, gx, gy, fun a' => by simpa only [cmpSafe] using gs, vx, vy⟩
      · simp at h
    · exact cmpNodes_sub y h gy sy vy

theorem msg_split (A B w : String) : ∃ pre : String, A ++ (B ++ "always ") ++ w ++ "." = pre ++ "always " ++ w ++ "." :=
  ⟨A ++ B, by simp [String.append_assoc]⟩

theorem rangeFinding_spec {op l r f} (h : rangeFinding op l r = some f) :
    (outOfRange op 0 l r = some f.verdict ∨ outOfRange op 1 r l = some f.verdict) ∧
    ∃ pre : String, f.msg = pre ++ "always " ++ boolWord f.verdict ++ "." := by
  have msg : ∀ (A : String) (b : Bool), ∃ pre : String,
      A ++ ". Condition is always " ++ boolWord b ++ "." = pre ++ "always " ++ boolWord b ++ "." := by
    intro A b
    rw [show (". Condition is always " : String) = ". Condition is " ++ "always " from by decide]
    exact msg_split _ _ _
  unfold rangeFinding at h
  simp only at h
  split at h
  · rename_i b hb
    obtain rfl := Option.some.inj h
    exact ⟨Or.inl hb, msg _ _⟩
  · split at h
    · rename_i b hb
      obtain rfl := Option.some.inj h
      exact ⟨Or.inr hb, msg _ _⟩
    · cases h

theorem bitCmpFindingsAux_mem {op : BinOp} {e1 e2 : Expr} {f : Finding} (hf : f ∈ bitCmpFindingsAux op e1 e2) :
    (∃ a bitop x y n1 n2, e1 = .bin a bitop x y ∧ e2.ann.known = some n2 ∧
      n1 ∈ numChildren bitop e1 ∧ bitCmpVerdict bitop op (unsFlag x) n1 n2 = some f.verdict) ∧
    ∃ pre : String, f.msg = pre ++ "always " ++ boolWord f.verdict ++ "." := by
  unfold bitCmpFindingsAux at hf
  split at hf
  · simp at hf
  · rename_i n2 hk
    split at hf
    · simp at hf
    · split at hf
      · rename_i a bitop x y
        split at hf
        · simp only [List.mem_filterMap] at hf
          obtain ⟨n1, hn1, hm⟩ := hf
          split at hm
          · rename_i b hv
            simp only [Option.some.injEq] at hm
            subst hm
            refine ⟨⟨a, bitop, x, y, n1, n2, rfl, hk, hn1, hv⟩, ?_⟩
            show ∃ pre : String, _ ++ "' is always " ++ _ ++ "." = pre ++ "always " ++ _ ++ "."
            rw [show ("' is always " : String) = "' is " ++ "always " from by decide]
            exact msg_split _ _ _
          · simp at hm
        · simp at hf
      · simp at hf

/-- below `x bitop n` / `n bitop x` with a plain operand `x`, `getnumchildren` finds the number token `n` and nothing else -/
theorem numChildren_lit {S : Sem} {bitop : BinOp} {a' x an sp e n1}
    (he : e = .bin a' bitop x (.lit an sp) ∨ e = .bin a' bitop (.lit an sp) x) (hp : plainOperand bitop x = true)
    (g : annOK S e = true) (h : n1 ∈ numChildren bitop e) : an.num = some n1 := by
  have hn : numChildren bitop e = [an.num.getD 0] := by
    rcases he with rfl | rfl <;> cases x <;> simp [numChildren, plainOperand] at hp ⊢ <;>
      exact fun h => absurd h (by simpa using hp)
  obtain ⟨k, hk⟩ : ∃ k, an.num = some k := by
    rcases he with rfl | rfl
    · exact lit_num_some (annOK_bin g).2
    · exact lit_num_some (annOK_bin g).1
  rw [hn, hk, Option.getD_some, List.mem_singleton] at h
  rw [hk, h]

theorem bitCmpFindingsAux_sound {S : Sem} {ρ : Env} {op : BinOp} {e1 e2 : Expr} {f : Finding}
    (hsh : bitShape e1 = true) (hf : f ∈ bitCmpFindingsAux op e1 e2) (g1 : annOK S e1 = true) (w1 : vtAll S e1 = true) :
    ∃ n2, e2.ann.known = some n2 ∧ ∀ X, eval S ρ e1 = some X → cmpZ op X n2 = f.verdict := by
  obtain ⟨a0, bitop, x0, y0, n1, n2, he1, hk, hn1, hv⟩ := (bitCmpFindingsAux_mem hf).1
  refine ⟨n2, hk, fun X hX => ?_⟩
  unfold bitShape at hsh
  split at hsh
  · cases he1
    exact band_node_cmp (Or.inl rfl) g1 (numChildren_lit (Or.inl rfl) hsh g1 hn1) hv hX
  · cases he1
    exact band_node_cmp (Or.inr rfl) g1 (numChildren_lit (Or.inr rfl) hsh g1 hn1) hv hX
  · cases he1
    simp only [Bool.and_eq_true] at hsh
    rw [hsh.2] at hv
    exact bor_node_cmp g1 (numChildren_lit (Or.inl rfl) hsh.1 g1 hn1) (vtAll_root (vtAll_bin w1).1) hsh.2 hv hX
  · cases hsh

end Cppcheck.CondExpr
