import Cppcheck.Model.ConvSpec
import Cppcheck.Proofs.ValueTypeConv
/-
C09 — the code against the language, rule by rule, for every shape (the answers of a platform to the size questions).
Two integer operands of `+ - * / %`: the patched code does not promote and then convert as 6.3.1.8 does (it selects by the
enum value first and repairs the sign afterwards), so the comparison is a Boolean table evaluated on ALL consistent shapes ×
ALL pairs of integer types by the kernel (`arith_tab`; `decide +kernel`, no extra axioms).  Bit operators and `?:` reduce to
this; with one operand the patch's `integerPromotion` is the promotion of 6.3.1.1p2 and the rules follow by unfolding.
-/
namespace Cppcheck.ConvSpec
open Cppcheck.ValueTypeConv

def Shape.consistentAll : List Shape := Shape.all.filter Shape.consistent

theorem Shape.mem_consistentAll (s : Shape) (h : s.consistent = true) : s ∈ Shape.consistentAll :=
  List.mem_filter.mpr ⟨Shape.mem_all s, h⟩

theorem shape_consistent_of_sane (P : Plat) (h : sane P = true) : (P.shape).consistent = true := by
  simp only [sane, Bool.and_eq_true, decide_eq_true_eq] at h
  simp only [Shape.consistent, Plat.shape, Bool.and_eq_true, beq_iff_eq, ← Bool.decide_or, decide_eq_decide,
    Bool.or_eq_true, Bool.not_eq_true', decide_eq_true_eq, decide_eq_false_iff_not]
  omega

theorem CT.mem_ints (t : CT) (h : t.isFloating = false) : t ∈ CT.ints := by
  cases t <;> first | decide | cases h

theorem declVT_isIntegral (t : CT) : (declVT t).isIntegral = !t.isFloating := by cases t <;> rfl

theorem floatRanks_none (a b : CT) (ha : a.isFloating = false) (hb : b.isFloating = false) :
    floatRanks (declVT a) (some (declVT b)) = none := by
  have tab : ∀ a ∈ CT.ints, ∀ b ∈ CT.ints, floatRanks (declVT a) (some (declVT b)) = none := by decide +kernel
  exact tab a (CT.mem_ints a ha) b (CT.mem_ints b hb)

/-- with integer operands the bit operators go through the same block as the arithmetical ones -/
theorem bit_eq_arith (v : Variant) (s : Shape) (cpp : Bool) (a b : CT) (ha : a.isFloating = false) (hb : b.isFloating = false) :
    convCls v s cpp .bit (declVT a) (declVT b) = convCls v s cpp .arith (declVT a) (declVT b) := by
  simp [convCls, floatRanks_none a b ha hb]

/-- the second patch does not touch binary operators -/
theorem fixAB_block_eq_fixA (s : Shape) (t : Bool) (v1 : VT) (v2 : Option VT) :
    integralBlock .fixAB s t false v1 v2 = integralBlock .fixA s t false v1 v2 := by
  simp [integralBlock, integralBlockFix]

theorem fixAB_cls_eq_fixA (s : Shape) (cpp : Bool) (c : OpClass) (v1 v2 : VT) :
    convCls .fixAB s cpp c v1 v2 = convCls .fixA s cpp c v1 v2 := by
  cases c <;> simp [convCls, fixAB_block_eq_fixA, shiftResult]

theorem cls_cpp_irrelevant (v : Variant) (s : Shape) (cpp : Bool) (c : OpClass) (hc : c ≠ .shift) (v1 v2 : VT) :
    convCls v s cpp c v1 v2 = convCls v s false c v1 v2 := by
  cases c <;> first | rfl | exact absurd rfl hc

/-- a floating operand: every state of the code and 6.3.1.8 give the floating type of the highest rank
    (no platform question is asked, so this needs no table over shapes) -/
theorem arith_floating (v : Variant) (s : Shape) (a b : CT) (h : a.isFloating = true ∨ b.isFloating = true) :
    convCls v s false .arith (declVT a) (declVT b) = some (asVT (uac s a b)) := by
  rcases h with h | h
  · cases a <;> cases h <;> cases b <;> rfl
  · cases b <;> cases h <;> cases a <;> rfl

theorem k1_floating (s : Shape) (a b : CT) (h : a.isFloating = true ∨ b.isFloating = true) :
    sameSizeDifferentRankMixedSign s a b = false := by
  rcases h with h | h <;> simp [sameSizeDifferentRankMixedSign, h]

theorem k2_floating (s : Shape) (a : CT) (h : a.isFloating = true) : promotesToUnsigned s a = false := by
  cases a <;> first | rfl | cases h

/-- integer operands (all consistent shapes × all pairs).  The patched code agrees with 6.3.1.8 throughout; the
    unpatched code differs from it inside K1 and agrees outside K1, K2(t1), K2(t2) -/
theorem arith_tab : (Shape.consistentAll.all fun s => CT.ints.all fun a => CT.ints.all fun b =>
    let spec := some (asVT (uac s a b))
    convCls .fixA s false .arith (declVT a) (declVT b) == spec &&
    (if sameSizeDifferentRankMixedSign s a b then convCls .base s false .arith (declVT a) (declVT b) != spec
     else promotesToUnsigned s a || promotesToUnsigned s b ||
       convCls .base s false .arith (declVT a) (declVT b) == spec)) = true := by
  decide +kernel

theorem arith_all (s : Shape) (hs : s.consistent = true) (a b : CT) :
    convCls .fixA s false .arith (declVT a) (declVT b) = some (asVT (uac s a b)) ∧
    (if sameSizeDifferentRankMixedSign s a b then
       convCls .base s false .arith (declVT a) (declVT b) ≠ some (asVT (uac s a b))
     else promotesToUnsigned s a = false → promotesToUnsigned s b = false →
       convCls .base s false .arith (declVT a) (declVT b) = some (asVT (uac s a b))) := by
  by_cases hf : a.isFloating = true ∨ b.isFloating = true
  · rw [k1_floating s a b hf]
    exact ⟨arith_floating .fixA s a b hf, fun _ _ => arith_floating .base s a b hf⟩
  · have ⟨ha, hb⟩ : a.isFloating = false ∧ b.isFloating = false := by simpa using hf
    have := List.all_eq_true.mp (List.all_eq_true.mp (List.all_eq_true.mp arith_tab s (Shape.mem_consistentAll s hs))
      a (CT.mem_ints a ha)) b (CT.mem_ints b hb)
    simp only [Bool.and_eq_true, beq_iff_eq] at this
    refine ⟨this.1, ?_⟩
    split
    · next h1 => simpa [h1] using this.2
    · next h1 =>
      intro h2 h3
      simpa [h1, h2, h3] using this.2

theorem arith_base_partial (s : Shape) (hs : s.consistent = true) (a b : CT)
    (h1 : sameSizeDifferentRankMixedSign s a b = false) (h2 : promotesToUnsigned s a = false)
    (h3 : promotesToUnsigned s b = false) :
    convCls .base s false .arith (declVT a) (declVT b) = some (asVT (uac s a b)) := by
  have := (arith_all s hs a b).2
  rw [h1] at this
  exact this h2 h3

theorem arith_fix_all (v : Variant) (hv : v = .fixA ∨ v = .fixAB) (s : Shape) (hs : s.consistent = true) (a b : CT) :
    convCls v s false .arith (declVT a) (declVT b) = some (asVT (uac s a b)) := by
  rcases hv with rfl | rfl
  · exact (arith_all s hs a b).1
  · exact (fixAB_cls_eq_fixA s false .arith _ _).trans (arith_all s hs a b).1

theorem bit_intOnly (op : BinOp) (h : op.cls = .bit) : op.intOnly = true := by
  cases op <;> first | rfl | cases h

theorem shift_intOnly (op : BinOp) (h : op.cls = .shift) : op.intOnly = true := by
  cases op <;> first | rfl | cases h

theorem wellTyped_ints (op : BinOp) (a b : CT) (hi : op.intOnly = true) (h : wellTypedBin op a b = true) :
    a.isFloating = false ∧ b.isFloating = false := by
  simpa [wellTypedBin, hi] using h

theorem convBin_arith (v : Variant) (s : Shape) (cpp : Bool) (op : BinOp) (t1 t2 : CT)
    (hop : op.cls = .arith ∨ op.cls = .bit) (hwt : wellTypedBin op t1 t2 = true) :
    convBin v s cpp op (declVT t1) (declVT t2) = convCls v s false .arith (declVT t1) (declVT t2) ∧
    specBin s cpp op t1 t2 = uac s t1 t2 := by
  unfold convBin specBin
  rcases hop with hc | hc
  · rw [hc]
    exact ⟨cls_cpp_irrelevant v s cpp .arith (by decide) _ _, rfl⟩
  · obtain ⟨ha, hb⟩ := wellTyped_ints op t1 t2 (bit_intOnly op hc) hwt
    rw [hc, bit_eq_arith v s cpp t1 t2 ha hb]
    exact ⟨cls_cpp_irrelevant v s cpp .arith (by decide) _ _, rfl⟩

/-! One operand.  The unpatched code makes `signed int` of every operand below `int`, which is the promoted type outside
K2.  No comparison among `int`, `long`, `long long` is read, so the shape need not be consistent. -/

theorem declVT_lt_int (t : CT) : (declVT t).type.rank < VType.int.rank ↔ belowInt t = true := by
  cases t <;> decide

theorem integerPromotion_declVT (s : Shape) (t : CT) : integerPromotion s (declVT t) = declVT (promote s t) := by
  rcases s with ⟨c, h, _, _, _, u⟩
  cases t <;> first | rfl | (cases c <;> cases h <;> cases u <;> rfl)

theorem declVT_promote (s : Shape) (t : CT) :
    declVT (promote s t) =
      if belowInt t then ⟨.int, if promotesToUnsigned s t then .unsigned else .signed⟩ else declVT t := by
  rcases s with ⟨c, h, _, _, _, u⟩
  cases t <;> first | rfl | (cases c <;> cases h <;> cases u <;> rfl)

/-- what state `v` of the code makes of an operand that the language promotes -/
def promoted (v : Variant) (s : Shape) (t : CT) : VT :=
  if belowInt t then (if v = .base then ⟨.int, .signed⟩ else declVT (promote s t)) else declVT t

theorem promoted_spec (v : Variant) (s : Shape) (t : CT) :
    (v = .base → promoted v s t = if belowInt t then ⟨.int, .signed⟩ else declVT t) ∧
    ((v = .base → promotesToUnsigned s t = false) → promoted v s t = asVT (promote s t)) := by
  unfold promoted asVT
  refine ⟨fun hv => by rw [if_pos hv], fun hk => ?_⟩
  cases hb : belowInt t
  · simp [declVT_promote, hb]
  · by_cases hv : v = .base
    · simp [hv, declVT_promote, hb, hk hv]
    · simp [hv]

/-- the final block on one operand; `i`: the operator is `++`/`--`, which the second patch exempts -/
theorem block_none (v : Variant) (s : Shape) (i : Bool) (t : CT) (ht : t.isFloating = false) :
    integralBlock v s false i (declVT t) none = some (if v = .fixAB ∧ i = true then declVT t else promoted v s t) := by
  unfold promoted
  cases hb : belowInt t
  · cases v <;>
    simp [integralBlock, integralBlockBase, integralBlockFix, declVT_isIntegral, ht, rankSelect, declVT_lt_int, hb]
  · cases v <;> cases i <;>
    simp [integralBlock, integralBlockBase, integralBlockFix, declVT_isIntegral, ht, rankSelect, declVT_lt_int, hb,
      integerPromotion_declVT, declVT_promote]

theorem convBin_shift (v : Variant) (s : Shape) (cpp : Bool) (op : BinOp) (t1 t2 : CT)
    (hop : op.cls = .shift) (hwt : wellTypedBin op t1 t2 = true) :
    convBin v s cpp op (declVT t1) (declVT t2) = some (shiftResult v s (declVT t1)) ∧
    specBin s cpp op t1 t2 = promote s t1 := by
  obtain ⟨_, hb⟩ := wellTyped_ints op t1 t2 (shift_intOnly op hop) hwt
  unfold convBin specBin
  rw [hop]
  simp [convCls, declVT_isIntegral, hb]

theorem shiftResult_declVT (v : Variant) (s : Shape) (t : CT) : shiftResult v s (declVT t) = promoted v s t := by
  unfold shiftResult promoted
  cases hb : belowInt t
  · simp [← Nat.not_lt, declVT_lt_int, hb]
  · cases v <;> simp [← Nat.not_lt, declVT_lt_int, hb, integerPromotion_declVT]

theorem shift_all (v : Variant) (s : Shape) (cpp : Bool) (op : BinOp) (hop : op.cls = .shift)
    (t1 t2 : CT) (hwt : wellTypedBin op t1 t2 = true) :
    (v = .base →
      convBin v s cpp op (declVT t1) (declVT t2) = some (if belowInt t1 then ⟨.int, .signed⟩ else declVT t1)) ∧
    ((v = .base → promotesToUnsigned s t1 = false) →
      convBin v s cpp op (declVT t1) (declVT t2) = some (asVT (specBin s cpp op t1 t2))) := by
  obtain ⟨hconv, hspec⟩ := convBin_shift v s cpp op t1 t2 hop hwt
  rw [hconv, hspec, shiftResult_declVT]
  exact ⟨fun hv => congrArg some ((promoted_spec v s t1).1 hv), fun hk => congrArg some ((promoted_spec v s t1).2 hk)⟩

theorem floatRanks_one (t : CT) : floatRanks (declVT t) none = if t.isFloating then some (declVT t) else none := by
  cases t <;> rfl

theorem convUn_declVT (v : Variant) (s : Shape) (op : UnOp) (hop : op ≠ .lnot) (t : CT) (hwt : wellTypedUn op t = true) :
    convUn v s op (declVT t) = some (if v = .fixAB ∧ op.isIncDec = true then declVT t else promoted v s t) := by
  cases op <;> first
    | exact absurd rfl hop
    | cases hf : t.isFloating <;>
        simp [convUn, floatRanks_one, hf, block_none, promoted, belowInt, UnOp.isIncDec, wellTypedUn] at hwt ⊢

theorem unary_all (v : Variant) (s : Shape) (cpp : Bool) (op : UnOp)
    (hop : op = .neg ∨ op = .bnot) (t : CT) (hwt : wellTypedUn op t = true) :
    (v = .base → belowInt t = true → convUn v s op (declVT t) = some ⟨.int, .signed⟩) ∧
    ((v = .base → promotesToUnsigned s t = false) → convUn v s op (declVT t) = some (asVT (specUn s cpp op t))) := by
  have hc : convUn v s op (declVT t) = some (promoted v s t) := by
    rcases hop with rfl | rfl <;> simpa [UnOp.isIncDec] using convUn_declVT v s _ (by decide) t hwt
  have hsp : specUn s cpp op t = promote s t := by rcases hop with rfl | rfl <;> rfl
  rw [hc, hsp]
  exact ⟨fun hv hb => by rw [(promoted_spec v s t).1 hv, if_pos hb], fun hk => congrArg some ((promoted_spec v s t).2 hk)⟩

/-- class K4: unpatched and with the first patch a sub-`int` operand of `++` / `--` is typed `int`, the language keeps its type -/
theorem incdec_all (v : Variant) (s : Shape) (cpp : Bool) (op : UnOp)
    (hop : op.isIncDec = true) (t : CT) (hwt : wellTypedUn op t = true) :
    (v = .fixAB ∨ belowInt t = false → convUn v s op (declVT t) = some (asVT (specUn s cpp op t))) ∧
    (v ≠ .fixAB → belowInt t = true → convUn v s op (declVT t) ≠ some (asVT (specUn s cpp op t))) := by
  have hsp : specUn s cpp op t = t := by cases op <;> first | rfl | cases hop
  rw [convUn_declVT v s op (by rintro rfl; cases hop) t hwt, hsp, asVT, hop]
  unfold promoted
  refine ⟨?_, fun hv hb h => ?_⟩
  · rintro (rfl | hb)
    · simp
    · simp [hb]
  · -- the operand's type is below `INT`, the result's is `INT`
    have ht : (declVT t).type ≠ .int := fun e => by
      have := (declVT_lt_int t).mpr hb
      rw [e] at this; exact absurd this (by decide)
    simp only [hv, false_and, if_false, hb, if_true, declVT_promote] at h
    split at h <;> exact ht (congrArg VT.type (Option.some.inj h)).symm

theorem rankSelect_type (v1 v2 : VT) :
    (rankSelect v1 (some v2)).type = if v1.type.rank > v2.type.rank then v1.type else v2.type := by
  simp only [rankSelect]
  by_cases h : v1.type.rank > v2.type.rank
  · simp [h]
  · by_cases h2 : v1.type = v2.type
    · simp [h2]
    · simp [h, h2]

/-- `BOOL` is the least type: it is selected only against itself -/
theorem rankSelect_bool (v1 v2 : VT) (h : (rankSelect v1 (some v2)).type = .bool) : v1.type = .bool ∧ v2.type = .bool := by
  have rank0 : ∀ t : VType, t.rank ≤ 0 → t = .bool := by intro t; cases t <;> simp [VType.rank]
  rw [rankSelect_type] at h
  split at h
  · next hgt => rw [h] at hgt; exact absurd hgt (Nat.not_lt_zero _)
  · next hle => rw [h] at hle; exact ⟨rank0 _ (Nat.le_of_not_lt hle), h⟩

/-- the `ternary` flag only exempts a `BOOL` result from promotion -/
theorem block_ternary_irrelevant (v : Variant) (s : Shape) (i : Bool) (v1 v2 : VT)
    (h : (rankSelect v1 (some v2)).type ≠ .bool) :
    integralBlock v s true i v1 (some v2) = integralBlock v s false i v1 (some v2) := by
  cases v <;> simp [integralBlock, integralBlockBase, integralBlockFix, h]

/-- `c ? a : b` with operands of different `ValueType::Type` is typed like `a + b` -/
theorem ternary_eq_arith (v : Variant) (s : Shape) (cpp : Bool) (v1 v2 : VT) (h : v1.type ≠ v2.type) :
    convTernary v s cpp v1 v2 = convCls v s cpp .arith v1 v2 := by
  have hne : (v1.type == v2.type) = false := by simpa using h
  have hb : (rankSelect v1 (some v2)).type ≠ .bool := fun hb =>
    have ⟨h1, h2⟩ := rankSelect_bool v1 v2 hb
    h (h1.trans h2.symm)
  cases v <;> simp [convTernary, convCls, hne, block_ternary_irrelevant _ s false v1 v2 hb]

theorem convTernary_different (v : Variant) (s : Shape) (cpp : Bool) (t1 t2 : CT) (hd : sameVType t1 t2 = false) :
    convTernary v s cpp (declVT t1) (declVT t2) = convCls v s false .arith (declVT t1) (declVT t2) ∧
    specTernary s cpp t1 t2 = uac s t1 t2 := by
  have hne : (declVT t1).type ≠ (declVT t2).type := by simpa [sameVType] using hd
  have hne2 : (t1 == t2) = false := beq_eq_false_iff_ne.mpr fun h => by subst h; simp [sameVType] at hd
  refine ⟨?_, by simp [specTernary, hne2]⟩
  rw [ternary_eq_arith v s cpp _ _ hne, cls_cpp_irrelevant v s cpp .arith (by decide)]

theorem specTernary_self (s : Shape) (cpp : Bool) (t : CT) (h : cpp = true ∨ belowInt t = false) :
    specTernary s cpp t t = t := by
  rcases h with rfl | h
  · simp [specTernary]
  · cases cpp
    · cases t <;> first | rfl | cases h
    · simp [specTernary]

/-- `isTypeEqual` with the second patch, on declared types: one and the same type, in C not below `int` unless `_Bool` -/
theorem isTypeEqual_fixAB : ∀ cpp ∈ bools, ∀ t1 ∈ CT.all, ∀ t2 ∈ CT.all,
    ((declVT t1).type == (declVT t2).type &&
      (!(declVT t1).isIntegral || ((declVT t1).sign == (declVT t2).sign &&
        (cpp || decide (VType.int.rank ≤ (declVT t1).type.rank) || (declVT t1).type == .bool)))) =
    (t1 == t2 && (cpp || !belowInt t1 || t1 == .bool)) := by decide +kernel

theorem declVT_bool (t : CT) (h : (declVT t).type = .bool) : t = .bool := by
  cases t <;> first | rfl | cases h

/-- `?:` with both patches: two operands of one type that the language leaves alone keep it (so does `_Bool` in C, class
    K3); all other pairs are typed like `a + b` -/
theorem convTernary_fixAB (s : Shape) (cpp : Bool) (t1 t2 : CT) :
    convTernary .fixAB s cpp (declVT t1) (declVT t2) =
      if (t1 == t2 && (cpp || !belowInt t1 || t1 == .bool)) = true then some (declVT t1)
      else convCls .fixA s false .arith (declVT t1) (declVT t2) := by
  simp only [convTernary, isTypeEqual_fixAB cpp (mem_bools cpp) t1 (CT.mem_all t1) t2 (CT.mem_all t2), convCls]
  split
  · rfl
  · next hne =>
    rw [fixAB_block_eq_fixA, block_ternary_irrelevant]
    intro hb
    obtain ⟨h1, h2⟩ := rankSelect_bool _ _ hb
    rw [declVT_bool t1 h1, declVT_bool t2 h2] at hne
    exact hne (by simp)

theorem firstFit_ite_append (v m : Nat) (c : Prop) [Decidable c] (t : CT) (r : List (CT × Nat)) :
    firstFit v ((if c then [(t, m)] else []) ++ r) = if c ∧ v ≤ m then some t else firstFit v r := by
  by_cases hc : c <;> simp [hc, firstFit]

/-- the candidate list of 6.4.4.1p5 read from the top -/
theorem litSpec_eq (imax lmax llmax : Nat) (base : Base) (us : Bool) (longs value : Nat) :
    litSpec imax lmax llmax base us longs value =
      if (longs = 0 ∧ us = false) ∧ value ≤ imax then some .int
      else if (longs = 0 ∧ (us = true ∨ (base != .dec) = true)) ∧ value ≤ 2 * imax + 1 then some .uint
      else if (longs ≤ 1 ∧ us = false) ∧ value ≤ lmax then some .long
      else if (longs ≤ 1 ∧ (us = true ∨ (base != .dec) = true)) ∧ value ≤ 2 * lmax + 1 then some .ulong
      else if us = false ∧ value ≤ llmax then some .llong
      else if (us = true ∨ (base != .dec) = true) ∧ value ≤ 2 * llmax + 1 then some .ullong
      else none := by
  have h := firstFit_ite_append value (2 * llmax + 1) (us = true ∨ (base != .dec) = true) .ullong []
  rw [List.append_nil] at h
  simp only [litSpec, List.append_assoc, firstFit_ite_append, h, firstFit]

theorem litSpec_fits (imax lmax longs : Nat) {llmax value : Nat} {base : Base} {us : Bool}
    (hfit : value ≤ 2 * llmax + 1) (hfitd : base = .dec → us = false → value ≤ llmax) :
    (litSpec imax lmax llmax base us longs value).isSome = true := by
  rw [litSpec_eq]
  cases us <;> cases base <;> simp [apply_ite Option.isSome, hfit, hfitd]

theorem shiftRight_one_le (value m : Nat) : value >>> 1 ≤ m ↔ value ≤ 2 * m + 1 := by
  rw [Nat.shiftRight_eq_div_pow]
  omega

theorem ite_ite_same {α} (c : Prop) [Decidable c] (a b k : α) :
    (if c then a else if c then b else k) = if c then a else k := by
  split <;> simp [*]

/-- the code's chain IS the standard's candidate list, with `unsigned long long` where the standard has no type, for any
    base `b` that the standard treats as the code treats its flag `dec`.  (With `u` the base plays no role, and the code's
    second test of each rank repeats the first.) -/
theorem litTypeCore_eq {imax lmax llmax longs value : Nat} {dec us : Bool} {b : Base}
    (hb : us = false → (b != .dec) = !dec) :
    litTypeCore imax lmax llmax dec us longs value =
      ((litSpec imax lmax llmax b us longs value).map asVT).getD (asVT .ullong) := by
  rw [litSpec_eq, litTypeCore]
  -- `apply_ite` moves `map asVT` and `getD` into the branches: both sides are then one chain of tests
  cases us <;> cases dec <;>
    simp [hb, shiftRight_one_le, ite_ite_same, apply_ite (Option.map asVT),
      apply_ite (fun o : Option VT => o.getD ⟨.llong, .unsigned⟩), asVT, declVT]

/-- outside K6 an octal literal without `u` has the type of the decimal literal of that value (`unsigned long long` where
    that one has none): the tests for `unsigned int` / `unsigned long` hold only where those for `int` / `long` do -/
theorem litSpec_oct {imax lmax llmax longs value : Nat}
    (h7 : octalAsDecimal imax lmax .oct false longs value = false) :
    ((litSpec imax lmax llmax .dec false longs value).map asVT).getD (asVT .ullong) =
      ((litSpec imax lmax llmax .oct false longs value).map asVT).getD (asVT .ullong) := by
  simp [octalAsDecimal] at h7
  have k1 : (longs = 0 ∧ value ≤ 2 * imax + 1) ↔ (longs = 0 ∧ value ≤ imax) := by omega
  have k2 : (longs ≤ 1 ∧ value ≤ 2 * lmax + 1) ↔ (longs ≤ 1 ∧ value ≤ lmax) := by omega
  simp [litSpec_eq, k1, k2, ite_ite_same, apply_ite (Option.map asVT),
    apply_ite (fun o : Option VT => o.getD (asVT .ullong))]

/-- outside K6 the code gives a literal the type the language gives it, if the language gives one.  The code's `dec`
    (`MathLib::isDec`: a digit string) is true of an octal literal: it reads it as the decimal literal. -/
theorem litTypeCore_eq_litSpec {imax lmax llmax value longs : Nat} {base : Base} {us : Bool}
    (h7 : octalAsDecimal imax lmax base us longs value = false) :
    litTypeCore imax lmax llmax (base != .hex) us longs value =
      ((litSpec imax lmax llmax base us longs value).map asVT).getD (asVT .ullong) := by
  by_cases hb : us = false → (base != .dec) = !(base != .hex)
  · exact litTypeCore_eq hb
  · obtain ⟨rfl, rfl⟩ : base = .oct ∧ us = false := by cases base <;> cases us <;> simp at hb ⊢
    exact (litTypeCore_eq (b := .dec) fun _ => rfl).trans (litSpec_oct h7)

theorem litSpec_octalAsDecimal (imax lmax llmax value longs : Nat) (base : Base) (us : Bool) (hm1 : imax ≤ lmax)
    (h : octalAsDecimal imax lmax base us longs value = true) :
    base = .oct ∧ us = false ∧
      ∃ u, (u = .uint ∨ u = .ulong) ∧ litSpec imax lmax llmax base us longs value = some u := by
  simp [octalAsDecimal] at h
  obtain ⟨⟨rfl, rfl⟩, h⟩ := h
  refine ⟨rfl, rfl, ?_⟩
  have e := litSpec_eq imax lmax llmax .oct false longs value
  simp at e
  rw [e]
  by_cases hu : longs = 0 ∧ value ≤ 2 * imax + 1
  · exact ⟨.uint, .inl rfl, by rw [if_neg (by omega), if_pos hu]⟩
  · exact ⟨.ulong, .inr rfl, by rw [if_neg (by omega), if_neg hu, if_neg (by omega), if_pos (by omega)]⟩

theorem litTypeCore_dec_signed (imax lmax llmax longs value : Nat) (u : CT) (hu : u = .uint ∨ u = .ulong) :
    litTypeCore imax lmax llmax true false longs value ≠ asVT u := by
  unfold litTypeCore
  simp only [Bool.true_eq_false, false_and, and_false, if_false, Bool.false_eq_true]
  rcases hu with rfl | rfl <;> repeat' split
  all_goals decide

end Cppcheck.ConvSpec
