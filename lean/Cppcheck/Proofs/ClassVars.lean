import Cppcheck.Model.ClassVars
import Cppcheck.Proofs.VarMap
/-
C08 — helper lemmas: the flattened per-class table of setVarIdPass2 ("bases first without overwriting, then own members
overwriting") answers member names as the recursive C++ member lookup does.
-/
namespace Cppcheck.VarMap

/-- what a lookup result says about the table: an ambiguous name (ill-formed use) constrains nothing -/
def Agree (r : MRes) (o : Option VId) : Prop :=
  match r with
  | .found v => o = some v
  | .notFound => o = none
  | .ambiguous => True

theorem foldl_setv (own : List (VName × VId)) : ∀ base : AMap,
    own.foldl (fun t p => setv t p.1 p.2) base = own.reverse ++ base := by
  intro base; simp [setv]

theorem lookup_buildClass (ts : List AMap) (c : ClassDecl) (x : VName) :
    lookup (buildClass ts c) x =
      match lookup c.own.reverse x with
      | some v => some v
      | none => lookup (baseTables ts c.bases) x := by
  simp only [buildClass, foldl_setv, lookup_append]
  cases lookup c.own.reverse x <;> rfl

theorem agree_combine (ts : List AMap) (x : VName) (res : Nat → MRes) :
    ∀ bs : List Nat, (∀ b ∈ bs, Agree (res b) (lookup (ts.getD b []) x)) →
      Agree (combine (bs.map res)) (lookup (baseTables ts bs) x)
  | [], _ => rfl
  | b :: r, h => by
    have hb := h b (List.mem_cons_self ..)
    have hr := agree_combine ts x res r fun b' hb' => h b' (List.mem_cons_of_mem _ hb')
    show Agree (combine (res b :: r.map res)) (lookup (ts.getD b [] ++ baseTables ts r) x)
    rw [lookup_append]; unfold combine
    cases hres : res b with
    | notFound => rw [hres] at hb; rw [show lookup _ x = none from hb]; exact hr
    | ambiguous => trivial
    | found i =>
      rw [hres] at hb; rw [show lookup _ x = some i from hb]
      cases combine (r.map res) with
      | notFound => rfl
      | _ => trivial

theorem buildFrom_length (bc) (cs : List ClassDecl) : ∀ ts, (buildFrom bc ts cs).length = ts.length + cs.length := by
  induction cs with
  | nil => intro ts; simp [buildFrom]
  | cons c r ih =>
    intro ts
    have := ih (ts ++ [bc ts c])
    simp only [buildFrom, List.foldl_cons] at this ⊢
    simp [this]; omega

def WF (cs : List ClassDecl) : Prop := ∀ (i : Nat) (c : ClassDecl), cs[i]? = some c → ∀ b ∈ c.bases, b < i

theorem WF_of_classesWF (cs : List ClassDecl) (h : classesWF cs = true) : WF cs := by
  intro i c hc b hb
  have hi : i < cs.length := by
    rcases Nat.lt_or_ge i cs.length with h1 | h1
    · exact h1
    · rw [List.getElem?_eq_none h1] at hc; cases hc
  simp only [classesWF, List.all_eq_true, List.mem_range] at h
  have := h i hi
  rw [hc] at this
  simp only [List.all_eq_true, decide_eq_true_eq] at this
  exact this b hb

/-- `buildFrom` only appends, so the step of an invariant `P` of (class number, table) may assume it of all finished tables -/
theorem buildFrom_inv (bc : List AMap → ClassDecl → AMap) (P : Nat → AMap → Prop) (all : List ClassDecl)
    (step : ∀ ts c, all[ts.length]? = some c → (∀ i, i < ts.length → P i (ts.getD i [])) → P ts.length (bc ts c)) :
    ∀ (rest : List ClassDecl) (ts : List AMap), all.drop ts.length = rest → (∀ i, i < ts.length → P i (ts.getD i [])) →
      ∀ i, i < all.length → P i ((buildFrom bc ts rest).getD i [])
  | [], ts, hd, h, i, hi => h i (by have := List.drop_eq_nil_iff.mp hd; omega)
  | c :: r, ts, hd, h, i, hi => by
    have hc : all[ts.length]? = some c := by rw [← List.head?_drop, hd]; rfl
    refine buildFrom_inv bc P all step r (ts ++ [bc ts c]) ?_ (fun j hj => ?_) i hi
    · rw [List.length_append, List.length_singleton, ← List.drop_drop, hd]; rfl
    · rw [List.length_append, List.length_singleton] at hj
      rcases Nat.lt_or_ge j ts.length with hlt | hge
      · rw [List.getD_eq_getElem?_getD, List.getElem?_append_left hlt, ← List.getD_eq_getElem?_getD]
        exact h j hlt
      · obtain rfl : j = ts.length := by omega
        rw [List.getD_eq_getElem?_getD, List.getElem?_append_right (Nat.le_refl _), Nat.sub_self]
        exact step ts c hc h

/-- the invariant is agreement with the member lookup at any sufficient fuel; the bases of the next class are finished (`WF`) -/
theorem table_agrees (cs : List ClassDecl) (hwf : WF cs) (i : Nat) (hi : i < cs.length) (f : Nat) (hf : i < f) (x : VName) :
    Agree (memberLookup cs f i x) (lookup ((buildAll cs).getD i []) x) :=
  buildFrom_inv buildClass (fun i t => ∀ f, i < f → Agree (memberLookup cs f i x) (lookup t x)) cs
    (fun ts c hc hinv f hf => by
      obtain ⟨f', rfl⟩ : ∃ f', f = f' + 1 := ⟨f - 1, by omega⟩
      simp only [memberLookup, hc, lookup_buildClass]
      cases lookup c.own.reverse x with
      | some v => rfl
      | none =>
        exact agree_combine ts x _ c.bases fun b hb =>
          hinv b (hwf _ c hc b hb) f' (Nat.lt_of_lt_of_le (hwf _ c hc b hb) (Nat.le_of_lt_succ hf)))
    cs [] rfl (fun i hi => absurd hi (Nat.not_lt_zero i)) i hi f hf

theorem combine_single (r : MRes) : combine [r] = r := by cases r <;> rfl

theorem single_not_ambiguous (cs : List ClassDecl) (hs : singleInheritance cs = true) (x : VName) :
    ∀ f i, memberLookup cs f i x ≠ .ambiguous := by
  intro f
  induction f with
  | zero => intro i; exact MRes.noConfusion
  | succ f ih =>
    intro i
    unfold memberLookup
    cases hc : cs[i]? with
    | none => exact MRes.noConfusion
    | some c =>
      dsimp only
      cases lookup c.own.reverse x with
      | some v => exact MRes.noConfusion
      | none =>
        have hlen : c.bases.length ≤ 1 := by
          simpa using List.all_eq_true.mp hs c (List.mem_of_getElem? hc)
        match hb : c.bases, hlen with
        | [], _ => exact MRes.noConfusion
        | [b], _ => rw [List.map_cons, List.map_nil, combine_single]; exact ih b

end Cppcheck.VarMap
