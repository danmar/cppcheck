import Cppcheck.Model.Trunc
/-
The 64-bit representation maps `toU64` / `toI64` as residues modulo 2^64, and the bit-mask code of `truncateIntValue`,
`castValue` and the `~` fold as arithmetic on them.
-/
namespace Cppcheck.Trunc

theorem bmod64 (a : Int) : Int.bmod a (2 ^ 64) = if a % 2 ^ 64 < 2 ^ 63 then a % 2 ^ 64 else a % 2 ^ 64 - 2 ^ 64 := by
  rw [Int.bmod_def, show ((2 ^ 64 : Nat) : Int) = 2 ^ 64 from rfl]
  rfl

theorem bmod_of_range {a : Int} (h1 : -(2 ^ 63) ≤ a) (h2 : a < 2 ^ 63) : Int.bmod a (2 ^ 64) = a := by
  rw [bmod64]; split <;> omega

theorem bmod64_congr {a b : Int} (h : a % 2 ^ 64 = b % 2 ^ 64) : Int.bmod a (2 ^ 64) = Int.bmod b (2 ^ 64) := by
  rw [bmod64, bmod64, h]

theorem toU64_cast (v : Int) : ((toU64 v : Nat) : Int) = v % 2 ^ 64 := by
  unfold toU64; omega

theorem toU64_nat (m : Nat) : toU64 (m : Int) = m % 2 ^ 64 := by
  apply Int.ofNat_inj.1
  rw [toU64_cast, Int.natCast_emod]
  rfl

theorem toU64_neg_nat (m : Nat) : toU64 (-(m : Int)) = (2 ^ 64 - m % 2 ^ 64) % 2 ^ 64 := by
  apply Int.ofNat_inj.1
  rw [toU64_cast, Int.natCast_emod, Int.natCast_sub (Nat.le_of_lt (Nat.mod_lt _ (by decide))), Int.natCast_emod,
    Int.sub_emod_emod, Int.sub_emod_left]
  rfl

theorem toI64_nat (n : Nat) : toI64 n = Int.bmod (n : Int) (2 ^ 64) := by
  rw [bmod64]; unfold toI64; split <;> split <;> omega

theorem toI64_mod (m : Nat) : toI64 (m % 2 ^ 64) = Int.bmod (m : Int) (2 ^ 64) := by
  have : toI64 (m % 2 ^ 64) = toI64 m := by unfold toI64; rw [Nat.mod_mod]
  rw [this, toI64_nat]

/-- reading a bit pattern back as bigint is the balanced residue -/
theorem toI64_toU64 (v : Int) : toI64 (toU64 v) = Int.bmod v (2 ^ 64) := by
  rw [toI64_nat]; exact bmod64_congr (by rw [toU64_cast]; omega)

theorem toI64_of_lt {n : Nat} (h : n < 2 ^ 63) : toI64 n = n := by
  rw [toI64_nat, bmod_of_range (by omega) (by omega)]

theorem toI64_toU64_of_range {v : Int} (h1 : -(2 ^ 63) ≤ v) (h2 : v < 2 ^ 63) : toI64 (toU64 v) = v := by
  rw [toI64_toU64, bmod_of_range h1 h2]

theorem bmod_natmod (v m : Nat) (hm : m ∣ 2 ^ 64) : Int.bmod ((v % 2 ^ 64 : Nat) : Int) m = Int.bmod (v : Int) m := by
  obtain ⟨q, hq⟩ := hm
  have h1 : ((v % 2 ^ 64 : Nat) : Int) % (m : Int) = (v : Int) % (m : Int) := by
    have : v % 2 ^ 64 % m = v % m := by rw [hq]; exact Nat.mod_mul_right_mod v m q
    exact_mod_cast this
  rw [Int.bmod_def, Int.bmod_def, h1]

theorem or_low_byte (x v : Nat) (hv : v < 256) : (x * 256 % 2 ^ 64) ||| v = (x * 256 + v) % 2 ^ 64 := by
  have e1 : x * 256 % 2 ^ 64 = 2 ^ 8 * (x % 2 ^ 56) := by omega
  have hv' : v < 2 ^ 8 := by omega
  rw [e1, ← Nat.two_pow_add_eq_or_of_lt hv']
  omega

theorem mask_eq (v : Int) {k : Nat} (hk : k ≤ 64) :
    toU64 v &&& (2 ^ k - 1) < 2 ^ k ∧ ((toU64 v &&& (2 ^ k - 1) : Nat) : Int) = v % ((2 ^ k : Nat) : Int) := by
  have hdvd : ((2 ^ k : Nat) : Int) ∣ (2 ^ 64 : Int) := by
    refine ⟨((2 ^ (64 - k) : Nat) : Int), ?_⟩
    have : (2 ^ 64 : Nat) = 2 ^ k * 2 ^ (64 - k) := by rw [← Nat.pow_add, Nat.add_sub_cancel' hk]
    exact_mod_cast this
  rw [Nat.and_two_pow_sub_one_eq_mod, Int.natCast_emod, toU64_cast, Int.emod_emod_of_dvd _ hdvd]
  exact ⟨Nat.mod_lt _ (Nat.two_pow_pos k), rfl⟩

theorem and_two_pow_ne_zero_iff {x j : Nat} (hx : x < 2 ^ (j + 1)) : (x &&& 2 ^ j) ≠ 0 ↔ 2 ^ j ≤ x := by
  constructor
  · intro h
    obtain ⟨i, hi⟩ := Nat.exists_testBit_of_ne_zero h
    rw [Nat.testBit_and, Nat.testBit_two_pow] at hi
    simp only [Bool.and_eq_true, decide_eq_true_eq] at hi
    obtain ⟨h1, h2⟩ := hi
    subst h2
    exact Nat.ge_two_pow_of_testBit h1
  · intro h hz
    have hb : x.testBit j = true := Nat.testBit_of_two_pow_le_and_two_pow_add_one_gt h hx
    have : (x &&& 2 ^ j).testBit j = true := by
      rw [Nat.testBit_and, hb, Nat.testBit_two_pow_self]; rfl
    rw [hz] at this
    simp at this

theorem or_high_mask {x k : Nat} (hk : k ≤ 64) (hx : x < 2 ^ k) :
    x ||| (2 ^ 64 - 1 - (2 ^ k - 1)) = x + (2 ^ 64 - 2 ^ k) := by
  have hpos : 0 < 2 ^ k := Nat.two_pow_pos k
  have e2 : 2 ^ 64 - 1 - (2 ^ k - 1) = 2 ^ 64 - 2 ^ k := by omega
  have e3 : 2 ^ 64 - 2 ^ k = 2 ^ k * (2 ^ (64 - k) - 1) := by
    rw [Nat.mul_sub, Nat.mul_one, ← Nat.pow_add, Nat.add_sub_cancel' hk]
  rw [e2, e3, Nat.or_comm, ← Nat.two_pow_add_eq_or_of_lt hx, Nat.add_comm]

/-- masking to `k` bits and, for a signed target, copying bit `k-1` upwards computes the two's-complement wrap to `k` bits,
    re-read as bigint -/
theorem signExtend_eq (v : Int) (k : Nat) (h0 : 0 < k) (hk : k ≤ 64) (s : Bool) :
    toI64 (if (s && (toU64 v &&& (2 ^ k - 1) &&& 2 ^ (k - 1)) != 0) = true
        then toU64 v &&& (2 ^ k - 1) ||| (2 ^ 64 - 1 - (2 ^ k - 1)) else toU64 v &&& (2 ^ k - 1)) =
      Int.bmod (wrapC k s v) (2 ^ 64) := by
  rw [toI64_nat]
  apply bmod64_congr
  have hk1 : k - 1 + 1 = k := by omega
  have hP : 2 ^ k = 2 * 2 ^ (k - 1) := by rw [← Nat.pow_succ', Nat.succ_eq_add_one, hk1]
  have hPle : 2 ^ k ≤ 2 ^ 64 := Nat.pow_le_pow_right (by decide) hk
  obtain ⟨hx, hxv⟩ := mask_eq v hk
  have hbit : (toU64 v &&& (2 ^ k - 1) &&& 2 ^ (k - 1)) ≠ 0 ↔ 2 ^ (k - 1) ≤ toU64 v &&& (2 ^ k - 1) :=
    and_two_pow_ne_zero_iff (by rw [hk1]; exact hx)
  have hor := or_high_mask hk hx
  unfold wrapC
  -- the powers become atoms, so that `omega` can use `hP : P = 2 * H`
  generalize toU64 v &&& (2 ^ k - 1) = x at *
  generalize 2 ^ k = P at *
  generalize 2 ^ (k - 1) = H at *
  cases s with
  | false => simp only [Bool.false_and, Bool.false_eq_true, if_false, hxv]
  | true =>
    simp only [Bool.true_and, if_true, bne_iff_ne, hbit, Int.bmod_def, ← hxv]
    by_cases hb : H ≤ x
    · rw [if_pos hb, hor, if_neg (by omega)]; omega
    · rw [if_neg hb, if_pos (by omega)]

theorem shift_mask (n : Nat) (h0 : 0 < n) (h8 : n ≤ 8) : (2 ^ 64 - 1) >>> ((8 - n) * 8) = 2 ^ (8 * n) - 1 := by
  have : n = 1 ∨ n = 2 ∨ n = 3 ∨ n = 4 ∨ n = 5 ∨ n = 6 ∨ n = 7 ∨ n = 8 := by omega
  rcases this with h | h | h | h | h | h | h | h <;> subst h <;> decide

/-- `truncateIntValue` is `signExtend_eq` at `k = 8·size`: the shifted all-ones mask is `2^(8·size) - 1` -/
theorem truncate_eq (v : Int) (n : Nat) (h0 : 0 < n) (h8 : n ≤ 8) (s : Bool) :
    truncateIntValue v n s = some (Int.bmod (wrapC (8 * n) s v) (2 ^ 64)) := by
  unfold truncateIntValue
  rw [if_neg (by omega), if_neg (by omega)]
  simp only [shift_mask n h0 h8, Nat.one_shiftLeft, Nat.mul_comm n 8]
  exact congrArg some (signExtend_eq v (8 * n) (by omega) (by omega) s)

theorem castValue_eq_wrap (v : Int) (hv : -(2 ^ 63) ≤ v ∧ v < 2 ^ 63) (k : Nat) (h0 : 0 < k) (hk : k ≤ 64) (s : Bool) :
    castValue v s k = Int.bmod (wrapC k s v) (2 ^ 64) := by
  unfold castValue
  by_cases h : k < 64
  · rw [if_pos h]
    exact signExtend_eq v k h0 hk s
  · -- 64 bits: the code leaves the value alone, and so does the wrap, up to a multiple of 2^64
    have e : k = 64 := by omega
    rw [if_neg h, e]
    cases s <;> simp only [wrapC, Bool.false_eq_true, if_false, if_true]
    · rw [Int.emod_bmod, bmod_of_range hv.1 hv.2]
    · rw [bmod_of_range hv.1 hv.2, bmod_of_range hv.1 hv.2]

/-- for the widths the platforms have (whole bytes) `castValue` is `truncateIntValue` -/
theorem castValue_eq_truncate (v : Int) (hv : -(2 ^ 63) ≤ v ∧ v < 2 ^ 63) (n : Nat) (h0 : 0 < n) (h8 : n ≤ 8) (s : Bool) :
    some (castValue v s (8 * n)) = truncateIntValue v n s := by
  rw [truncate_eq v n h0 h8, castValue_eq_wrap v hv (8 * n) (by omega) (by omega)]

/-- masking a bigint with `(1ULL<<b)-1` is the non-negative residue modulo 2^b -/
theorem mask_low (r : Int) (b : Nat) (hb : b < 64) : toI64 (toU64 r &&& (2 ^ b - 1)) = r % ((2 ^ b : Nat) : Int) := by
  have hle : 2 ^ b ≤ 2 ^ 63 := Nat.pow_le_pow_right (by decide) (by omega)
  obtain ⟨hx, hxv⟩ := mask_eq r (Nat.le_of_lt hb)
  rw [toI64_of_lt (by omega), hxv]

theorem sane_unpack {s : IntShape} (h : s.sane = true) :
    8 ≤ s.charBit ∧ s.charBit < s.intBit ∧ s.charBit ≤ s.shortBit ∧ s.shortBit ≤ s.intBit ∧ s.intBit ≤ s.longBit ∧
    s.longBit ≤ s.llongBit ∧ s.llongBit ≤ 64 := by
  simp only [IntShape.sane, Bool.and_eq_true, decide_eq_true_eq] at h
  omega

theorem bmod64_of_unsigned64 (v : Int) (h0 : 0 ≤ v) (h1 : v < 2 ^ 63) : Int.bmod (2 ^ 64 - 1 - v) (2 ^ 64) = -v - 1 := by
  rw [bmod64]; split <;> omega

/-- `~` on an unsigned operand of exactly `b` bits, as the masked 64-bit complement -/
theorem bnot_masked (v : Int) (b : Nat) (hb : b < 64) (h0 : 0 ≤ v) (h1 : v < 2 ^ b) :
    toI64 (toU64 (-v - 1) &&& (2 ^ b - 1)) = 2 ^ b - 1 - v := by
  rw [mask_low _ b hb]
  have hc : ((2 ^ b : Nat) : Int) = (2 : Int) ^ b := by norm_cast
  rw [hc]
  have hpos : (0 : Int) < 2 ^ b := Int.pow_pos (by decide)
  rw [← Int.add_emod_right (-v - 1) (2 ^ b), Int.emod_eq_of_lt (by omega) (by omega)]
  omega

/-- no mask: a signed operand, or an unsigned one whose type is not `unsigned int` / `unsigned long` -/
theorem foldUnary_bnot_nomask (v : Int) (u : Bool) (ty : ITy) (ib lb : Nat) (h : u = false ∨ (ty ≠ .int ∧ ty ≠ .long)) :
    foldUnary .bnot v u ty ib lb = some (-v - 1) := by
  rcases h with h | ⟨h1, h2⟩
  · subst h; simp [foldUnary]
  · cases u <;> simp [foldUnary, h1, h2]

end Cppcheck.Trunc
