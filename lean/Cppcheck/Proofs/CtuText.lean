import Cppcheck.Model.Ctu
import Cppcheck.Proofs.TextLemmas
import Cppcheck.Proofs.Decimal
/-
C22, the text layer: `toxml` (Model/Ctu's copy of the escaper) against the attribute reader, the decimal printers against
the integer readers (between `scanInt64` and `strToInt`: the narrowing casts `wrapS` / `wrapU` on values in range), `RawSafe` for
fields that are written without escaping, and `Clean` for what may stand between the quotes.
-/
namespace Cppcheck.Ctu
open Cppcheck.Wire

theorem char_eq_of_toNat {c d : Char} (h : c.toNat = d.toNat) : c = d := by
  apply Char.ext
  apply UInt32.toNat_inj.mp
  exact h

theorem char_ne_toNat {c d : Char} (h : c ≠ d) : c.toNat ≠ d.toNat := fun e => h (char_eq_of_toNat e)

theorem getStrGo_plain (orig : Str) (c : Char) (rest out : Str) (h1 : c ≠ '\r') (h2 : c ≠ '\n') (h3 : c ≠ '&') :
    getStrGo orig 0 (c :: rest) out = getStrGo orig 0 rest (c :: out) := by
  simp [getStrGo, h1, h2, h3]

def escapedChars : List Char := ['<', '>', '&', '"', '\'', NUL, '\n', '\t', '\r']

theorem toxmlChar_of_not_escaped {c : Char} (h : c ∉ escapedChars) :
    toxmlChar c = if 32 ≤ c.toNat ∧ c.toNat ≤ 127 then [c] else ['x'] := by
  simp only [escapedChars, List.mem_cons, List.mem_nil_iff, or_false, not_or] at h
  obtain ⟨h1, h2, h3, h4, h5, h6, h7, h8, h9⟩ := h
  simp only [toxmlChar, h1, h2, h3, h4, h5, h6, h7, h8, h9, if_false]

theorem lossyChar_of_not_escaped {c : Char} (h : c ∉ escapedChars) :
    lossyChar c = if 32 ≤ c.toNat ∧ c.toNat ≤ 127 then [c] else ['x'] := by
  simp only [escapedChars, List.mem_cons, List.mem_nil_iff, or_false, not_or] at h
  obtain ⟨_, _, _, _, _, h6, h7, h8, h9⟩ := h
  simp only [lossyChar, h6, h7, h8, h9, or_self, if_false]

theorem getStrGo_toxmlChar (orig : Str) (c : Char) (rest out : Str) :
    getStrGo orig 0 (toxmlChar c ++ rest) out = getStrGo orig 0 rest ((lossyChar c).reverse ++ out) := by
  by_cases h : c ∈ escapedChars
  · -- nine concrete characters: the reader consumes each escape without looking at `rest`
    simp only [escapedChars, List.mem_cons, List.mem_nil_iff, or_false] at h
    rcases h with rfl | rfl | rfl | rfl | rfl | rfl | rfl | rfl | rfl <;> rfl
  · rw [toxmlChar_of_not_escaped h, lossyChar_of_not_escaped h]
    simp only [escapedChars, List.mem_cons, List.mem_nil_iff, or_false, not_or] at h
    obtain ⟨_, _, hamp, _, _, _, hnl, _, hcr⟩ := h
    split
    · exact getStrGo_plain orig c rest out hcr hnl hamp
    · exact getStrGo_plain orig 'x' rest out (by decide) (by decide) (by decide)

theorem getStrGo_toxml (orig : Str) : ∀ (s rest out : Str),
    getStrGo orig 0 (toxml s ++ rest) out = getStrGo orig 0 rest ((lossy s).reverse ++ out) := by
  intro s
  induction s with
  | nil => intro rest out; simp [toxml, lossy]
  | cons c r ih =>
    intro rest out
    simp only [toxml, lossy, List.append_assoc]
    rw [getStrGo_toxmlChar, ih]
    simp [List.reverse_append]

theorem getStr_toxml (s : Str) : getStr (toxml s) = lossy s := by
  have := getStrGo_toxml (toxml s) s [] []
  simp only [List.append_nil] at this
  unfold getStr
  rw [this]
  simp [getStrGo]

theorem lossyChar_cases (c : Char) :
    c = NUL ∧ lossyChar c = "\\0".toList ∨ xmlSafeChar c = true ∧ lossyChar c = [c] ∨ xmlSafeChar c = false ∧ lossyChar c = ['x'] := by
  unfold lossyChar xmlSafeChar
  by_cases h6 : c = NUL
  · exact .inl ⟨h6, if_pos h6⟩
  · by_cases hs : c = '\n' ∨ c = '\t' ∨ c = '\r'
    · exact .inr (.inl ⟨by rcases hs with e | e | e <;> simp [e], by rw [if_neg h6, if_pos hs]⟩)
    · rw [if_neg h6, if_neg hs]
      simp only [not_or] at hs
      by_cases hr : 32 ≤ c.toNat ∧ c.toNat ≤ 127
      · exact .inr (.inl ⟨by simp [hr], if_pos hr⟩)
      · exact .inr (.inr ⟨by simpa [hs.1, hs.2.1, hs.2.2] using hr, if_neg hr⟩)

theorem nul_not_mem_lossyChar (c : Char) : NUL ∉ lossyChar c := by
  rcases lossyChar_cases c with ⟨_, e⟩ | ⟨h, e⟩ | ⟨_, e⟩ <;> rw [e]
  · decide
  · simpa using fun e : NUL = c => absurd (e ▸ h) (by decide)
  · decide

theorem nul_not_mem_lossy : ∀ s : Str, NUL ∉ lossy s := by
  intro s
  induction s with
  | nil => simp [lossy]
  | cons c r ih => simp [lossy, nul_not_mem_lossyChar c, ih]

theorem cstr_of_no_nul : ∀ s : Str, NUL ∉ s → cstr s = s :=
  fun _ h => Text.takeWhile_eq_self fun _ hc => decide_eq_true fun e => h (e ▸ hc)

/-- what the attribute reader returns for a `toxml`-escaped string: the lossy image, for EVERY byte string -/
theorem attrDecode_toxml' (s : Str) : attrDecode (toxml s) = lossy s := by
  unfold attrDecode
  rw [getStr_toxml]
  exact cstr_of_no_nul _ (nul_not_mem_lossy s)

theorem lossyChar_safe (c : Char) (h : xmlSafeChar c = true) : lossyChar c = [c] := by
  rcases lossyChar_cases c with ⟨rfl, _⟩ | ⟨_, e⟩ | ⟨h', _⟩
  · exact absurd h (by decide)
  · exact e
  · rw [h] at h'; cases h'

theorem lossy_of_safe : ∀ s : Str, XmlSafe s = true → lossy s = s := by
  intro s
  induction s with
  | nil => intro _; rfl
  | cons c r ih =>
    intro h
    simp only [XmlSafe, List.all_cons, Bool.and_eq_true] at h
    simp only [lossy, lossyChar_safe c h.1]
    simp [ih (by simpa [XmlSafe] using h.2)]

theorem safe_of_lossy : ∀ s : Str, lossy s = s → XmlSafe s = true := by
  intro s
  induction s with
  | nil => intro _; rfl
  | cons c r ih =>
    intro h
    rw [lossy] at h
    rcases lossyChar_cases c with ⟨rfl, e⟩ | ⟨hs, e⟩ | ⟨hs, e⟩ <;> rw [e] at h
    · exact absurd (List.cons.inj h).1 (by decide)
    · simpa [XmlSafe, hs] using ih (List.cons.inj h).2
    · exact absurd ((List.cons.inj h).1 ▸ hs) (by decide)

theorem natDigitsAux_eq : ∀ f n acc, natDigitsAux f n acc = Nat.toDigitsCore 10 f n acc
  | 0, _, _ => rfl
  | f + 1, n, acc => by
    simp only [natDigitsAux, Nat.toDigitsCore, natDigitsAux_eq f, digitChar, Decimal.digitChar_mod, Nat.div_eq_zero_iff]
    simp

theorem showNat_eq (n : Nat) : showNat n = Nat.toDigits 10 n := natDigitsAux_eq _ _ _

theorem digitsVal_showNat (n : Nat) : digitsVal (showNat n) = n := by
  rw [showNat_eq]; exact Decimal.foldl_toDigits' n

theorem showNat_allDigits (n : Nat) : (showNat n).all Char.isDigit = true := by
  rw [showNat_eq]; exact List.all_eq_true.2 fun _ => Nat.isDigit_of_mem_toDigits (by decide) (by decide)

theorem showNat_ne_nil (n : Nat) : showNat n ≠ [] := by
  rw [showNat_eq]; exact Nat.toDigits_ne_nil

theorem showNat_leading (n : Nat) (r : Str) (h : showNat n = '0' :: r) : r = [] := by
  rw [showNat_eq] at h
  simpa [Decimal.toDigits_zero_head h] using h

theorem not_space_of_digit (c : Char) (h : c.isDigit = true) : isSpace c = false := by
  simp [isSpace, Text.ne_of_pred h (b := ' '), Text.ne_of_pred h (b := '\t'), Text.ne_of_pred h (b := '\n'),
    Text.ne_of_pred h (b := Char.ofNat 11), Text.ne_of_pred h (b := Char.ofNat 12), Text.ne_of_pred h (b := '\r')]

/-- a string of decimal digits, optionally signed, is read back by `sscanf("%lld")` -/
theorem scanInt64_digits (neg : Bool) (ds : Str) (hne : ds ≠ []) (hall : ds.all Char.isDigit = true)
    (hlead : ∀ r, ds = '0' :: r → r = [])
    (hrange : if neg then (digitsVal ds : Int) ≤ 9223372036854775808 else (digitsVal ds : Int) ≤ 9223372036854775807) :
    scanInt64 (if neg then '-' :: ds else ds) = some (if neg then -(digitsVal ds : Int) else digitsVal ds) := by
  cases ds with
  | nil => exact absurd rfl hne
  | cons d r =>
    have hd : d.isDigit = true := by simp only [List.all_cons, Bool.and_eq_true] at hall; exact hall.1
    have hsp := not_space_of_digit d hd
    have hm : d ≠ '-' := Text.ne_of_pred hd
    have hp : d ≠ '+' := Text.ne_of_pred hd
    have htw : (d :: r).takeWhile Char.isDigit = d :: r := Text.takeWhile_eq_self (List.all_eq_true.1 hall)
    cases neg with
    | true =>
      simp only [if_true] at hrange ⊢
      unfold scanInt64
      have h1 : ('-' :: d :: r).dropWhile isSpace = '-' :: d :: r := List.dropWhile_cons_of_neg (by decide)
      have h2 : prefixHex ('-' :: d :: r) = false := rfl
      have h3 : splitSign ('-' :: d :: r) = (true, d :: r) := rfl
      simp only [h1, h2, h3, htw, Bool.false_eq_true, if_false, reduceCtorEq, if_true]
      unfold clamp64
      simp only [show ¬ (-(digitsVal (d :: r) : Int) > 9223372036854775807) by omega,
        show ¬ (-(digitsVal (d :: r) : Int) < -9223372036854775808) by omega, if_false]
    | false =>
      simp only [Bool.false_eq_true, if_false] at hrange ⊢
      unfold scanInt64
      have h1 : (d :: r).dropWhile isSpace = d :: r := List.dropWhile_cons_of_neg (by simp [hsp])
      have h2 : prefixHex (d :: r) = false := by
        by_cases h0 : d = '0'
        · subst h0
          have := hlead r rfl
          subst this
          rfl
        · unfold prefixHex
          split
          · rename_i heq; simp at heq; exact absurd heq.1 h0
          · rfl
      have h3 : splitSign (d :: r) = (false, d :: r) := by
        unfold splitSign
        split
        · rename_i heq; simp at heq; exact absurd heq.1 hm
        · rename_i heq; simp at heq; exact absurd heq.1 hp
        · rfl
      simp only [h1, h2, h3, htw, Bool.false_eq_true, if_false, reduceCtorEq]
      unfold clamp64
      simp only [show ¬ ((digitsVal (d :: r) : Int) > 9223372036854775807) by omega,
        show ¬ ((digitsVal (d :: r) : Int) < -9223372036854775808) by omega, if_false]

theorem showInt_neg (i : Int) (h : i < 0) : showInt i = '-' :: showNat i.natAbs := by simp [showInt, h]
theorem showInt_nonneg (i : Int) (h : ¬ i < 0) : showInt i = showNat i.natAbs := by simp [showInt, h]

/-- every `long long` printed by `operator<<` is read back by `XMLUtil::ToInt64` -/
theorem scanInt64_showInt' (i : Int) (h : inS 64 i = true) : scanInt64 (showInt i) = some i := by
  simp only [inS, Bool.and_eq_true, decide_eq_true_eq] at h
  by_cases hn : i < 0
  · have := scanInt64_digits true (showNat i.natAbs) (showNat_ne_nil _) (showNat_allDigits _) (showNat_leading _)
      (by simp only [if_true, digitsVal_showNat]; omega)
    simp only [if_true, digitsVal_showNat] at this
    rw [showInt_neg i hn, this]
    congr 1; omega
  · have := scanInt64_digits false (showNat i.natAbs) (showNat_ne_nil _) (showNat_allDigits _) (showNat_leading _)
      (by simp only [Bool.false_eq_true, if_false, digitsVal_showNat]; omega)
    simp only [Bool.false_eq_true, if_false, digitsVal_showNat] at this
    rw [showInt_nonneg i hn, this]
    congr 1; omega

theorem wrapS_id (bits : Nat) (hb : 0 < bits) (x : Int) (h : inS bits x = true) : wrapS bits x = x := by
  simp only [inS, Bool.and_eq_true, decide_eq_true_eq] at h
  unfold wrapS
  have hp : (2 : Int) ^ bits = 2 * 2 ^ (bits - 1) := by
    have : bits = (bits - 1) + 1 := by omega
    conv => lhs; rw [this, Int.pow_succ]
    omega
  have hpos : (0 : Int) < 2 ^ (bits - 1) := Int.pow_pos (by decide)
  rw [hp, Int.emod_eq_of_lt (by omega) (by omega)]
  omega

theorem wrapU_id (bits : Nat) (x : Int) (h : inU bits x = true) : wrapU bits x = x := by
  simp only [inU, Bool.and_eq_true, decide_eq_true_eq] at h
  exact Int.emod_eq_of_lt h.1 h.2

/-- `int` → `unsigned` of an `unsigned` value that went through `int` -/
theorem wrapU_wrapS_32 (x : Int) (h : inU 32 x = true) : wrapU 32 (wrapS 32 x) = x := by
  simp only [inU, Bool.and_eq_true, decide_eq_true_eq] at h
  unfold wrapU wrapS
  simp only [Int.reducePow, Nat.reduceSub] at h ⊢
  omega

/-- `strToInt<int>` / `strToInt<size_t>` read `std::to_string` back -/
theorem strToIntS_showInt (lo hi i : Int) (hlo : lo ≤ i) (hhi : i ≤ hi) (h64 : inS 64 i = true) :
    strToIntS lo hi (showInt i) = some i := by
  simp only [inS, Bool.and_eq_true, decide_eq_true_eq] at h64
  by_cases hn : i < 0
  · rw [showInt_neg i hn]
    unfold strToIntS
    simp only [or_true, if_true, showNat_ne_nil, showNat_allDigits, digitsVal_showNat, false_or, Bool.not_true,
      Bool.false_eq_true, if_false, show (('-' : Char) = '0') = False by decide, false_and]
    have : -((i.natAbs : Nat) : Int) = i := by omega
    rw [this]
    simp only [show ¬ (i < -9223372036854775808 ∨ i > 9223372036854775807) by omega, if_false,
      show ¬ (i < lo ∨ i > hi) by omega]
  · rw [showInt_nonneg i hn]
    cases hs : showNat i.natAbs with
    | nil => exact absurd hs (showNat_ne_nil _)
    | cons d r =>
      have hall := showNat_allDigits i.natAbs
      rw [hs] at hall
      have hd : d.isDigit = true := by simp only [List.all_cons, Bool.and_eq_true] at hall; exact hall.1
      have hm : d ≠ '-' := Text.ne_of_pred hd
      have hp : d ≠ '+' := Text.ne_of_pred hd
      have hv : digitsVal (d :: r) = i.natAbs := by rw [← hs]; exact digitsVal_showNat _
      have hlead : d = '0' → r = [] := fun e => showNat_leading i.natAbs r (by rw [hs, e])
      unfold strToIntS
      simp only [hp, hm, or_self, if_false, reduceCtorEq, hall, Bool.not_true, Bool.false_eq_true, hv]
      have h0 : ¬ (d = '0' ∧ r ≠ []) := fun ⟨e, ne⟩ => ne (hlead e)
      have : ((i.natAbs : Nat) : Int) = i := by omega
      simp only [h0, if_false, this, show ¬ (i < -9223372036854775808 ∨ i > 9223372036854775807) by omega,
        show ¬ (i < lo ∨ i > hi) by omega]

theorem strToIntU_showNat (hi n : Nat) (h : n ≤ hi) (h64 : hi ≤ 18446744073709551615) :
    strToIntU hi (showNat n) = some n := by
  cases hs : showNat n with
  | nil => exact absurd hs (showNat_ne_nil _)
  | cons d r =>
    have hall := showNat_allDigits n
    rw [hs] at hall
    have hd : d.isDigit = true := by simp only [List.all_cons, Bool.and_eq_true] at hall; exact hall.1
    have hm : d ≠ '-' := Text.ne_of_pred hd
    have hp : d ≠ '+' := Text.ne_of_pred hd
    have hv : digitsVal (d :: r) = n := by rw [← hs]; exact digitsVal_showNat _
    have hlead : d = '0' → r = [] := fun e => showNat_leading n r (by rw [hs, e])
    unfold strToIntU
    have h0 : ¬ (d = '0' ∧ r ≠ []) := fun ⟨e, ne⟩ => ne (hlead e)
    simp only [hp, hm, or_self, if_false, reduceCtorEq, hall, Bool.not_true, Bool.false_eq_true, hv, h0,
      show ¬ n > 18446744073709551615 by omega, show ¬ n > hi by omega]

/-- a raw field survives the attribute reader when it has no '"' (it would end the attribute), no '&', no CR and no NUL -/
def rawSafeChar (c : Char) : Bool := c ≠ '"' && c ≠ '&' && c ≠ '\r' && c ≠ NUL
def RawSafe (s : Str) : Bool := s.all rawSafeChar

theorem getStrGo_rawSafe (orig : Str) : ∀ (s out : Str), (∀ c ∈ s, c ≠ '&' ∧ c ≠ '\r') →
    getStrGo orig 0 s out = out.reverse ++ s := by
  intro s
  induction s with
  | nil => intro out _; simp [getStrGo]
  | cons c r ih =>
    intro out h
    have hc := h c (by simp)
    have hr : ∀ c ∈ r, c ≠ '&' ∧ c ≠ '\r' := fun x hx => h x (by simp [hx])
    by_cases hn : c = '\n'
    · subst hn
      rw [getStrGo]
      simp only [show ('\n' : Char) ≠ '\r' by decide, if_false, if_true]
      have : r.head? ≠ some '\r' := by
        cases r with
        | nil => simp
        | cons a t => simpa using (hr a (by simp)).2
      simp only [this, if_false]
      rw [ih _ hr]; simp
    · rw [getStrGo_plain orig c r out hc.2 hn hc.1, ih _ hr]; simp

theorem attrDecode_rawSafe (s : Str) (h : RawSafe s = true) : attrDecode s = s := by
  have hs : ∀ c ∈ s, c ≠ '"' ∧ c ≠ '&' ∧ c ≠ '\r' ∧ c ≠ NUL := by
    intro c hc
    have := List.all_eq_true.mp h c hc
    obtain ⟨⟨⟨a, b⟩, d⟩, e⟩ : ((¬c = '"' ∧ ¬c = '&') ∧ ¬c = '\r') ∧ ¬c = NUL := by simpa [rawSafeChar] using this
    exact ⟨a, b, d, e⟩
  unfold attrDecode getStr
  rw [getStrGo_rawSafe s s [] (fun c hc => ⟨(hs c hc).2.1, (hs c hc).2.2.1⟩)]
  simp only [List.reverse_nil, List.nil_append]
  exact cstr_of_no_nul s (fun hm => (hs NUL hm).2.2.2 rfl)

theorem rawSafe_showNat (n : Nat) : RawSafe (showNat n) = true := by
  rw [showNat_eq]; exact List.all_eq_true.2 (Decimal.toDigits_all (by decide) n)

theorem rawSafe_showInt (i : Int) : RawSafe (showInt i) = true := by
  unfold showInt
  split
  · simp only [RawSafe, List.all_cons, Bool.and_eq_true]
    exact ⟨by decide, rawSafe_showNat _⟩
  · exact rawSafe_showNat _

theorem attrDecode_showInt (i : Int) : attrDecode (showInt i) = showInt i := attrDecode_rawSafe _ (rawSafe_showInt i)
theorem attrDecode_showNat (n : Nat) : attrDecode (showNat n) = showNat n := attrDecode_rawSafe _ (rawSafe_showNat n)

/-- an attribute value that can be written between double quotes -/
def Clean (v : Str) : Prop := '"' ∉ v ∧ NUL ∉ v

theorem clean_toxmlChar (c : Char) : Clean (toxmlChar c) := by
  by_cases h : c ∈ escapedChars
  · exact (by decide : ∀ c ∈ escapedChars, '"' ∉ toxmlChar c ∧ NUL ∉ toxmlChar c) c h
  · rw [toxmlChar_of_not_escaped h]
    simp only [escapedChars, List.mem_cons, List.mem_nil_iff, or_false, not_or] at h
    obtain ⟨_, _, _, hq, _, hnul, _⟩ := h
    split
    · simpa [Clean] using ⟨fun e => hq e.symm, fun e => hnul e.symm⟩
    · constructor <;> decide

theorem clean_toxml : ∀ s : Str, Clean (toxml s) := by
  intro s
  induction s with
  | nil => simp [Clean, toxml]
  | cons c r ih =>
    have := clean_toxmlChar c
    simp [Clean, toxml, this.1, this.2, ih.1, ih.2]

theorem clean_raw (s : Str) (h : RawSafe s = true) : Clean s := by
  have hs : ∀ c ∈ s, rawSafeChar c = true := List.all_eq_true.mp h
  exact ⟨fun hm => by simpa [rawSafeChar] using hs _ hm, fun hm => by simpa [rawSafeChar] using hs _ hm⟩

theorem clean_int (i : Int) : Clean (showInt i) := clean_raw _ (rawSafe_showInt i)
theorem clean_nat (n : Nat) : Clean (showNat n) := clean_raw _ (rawSafe_showNat n)

end Cppcheck.Ctu
