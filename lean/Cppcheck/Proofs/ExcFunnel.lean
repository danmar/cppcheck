import Cppcheck.Model.ExcFunnel
/-
C13 (a) — propagation of an exception over the extracted call table (`Escapes`, `Aborts`) and the lemmas that lift the
decidable certificate checks (`closed`, `entriesClear`, `pathOk`) to propagation chains of any length; then the same checks
packed into numbers, the form in which the kernel evaluates them over the whole table (`tableOk`, `tableOk_sound`); at the
end, handler matching (`isSub`, `firstMatch`).
-/
namespace Cppcheck.ExcFunnel

/-- `Escapes P s f`: an exception raised at site `s` can propagate out of function `f`.
It starts at the site if no enclosing try block of the site's own function takes its type (whether or not the
translator recognised a guard for the site), and it moves from a callee to a caller through every call that is not inside a try
block taking the type. -/
inductive Escapes (P : Prog) (s : Site) : Fn → Prop
  | origin : caughtIn P.hier s.ctx s.ty = false → Escapes P s s.fn
  | call {g f : Fn} {r : Row} : Escapes P s g → r ∈ P.rows → r.fn = g → f ∈ r.callers → Escapes P s f
  | pcall {g : Fn} {r : Row} {e : PEdge} : Escapes P s g → r ∈ P.rows → r.fn = g → e ∈ r.pcallers →
      e.passes P.hier s.ty = true → Escapes P s e.caller

/-- the exception raised at `s` leaves an entry point.  The entry points of the generated table are `main` and static
initialisation (leaving them is `std::terminate`: abnormal termination) and the analysis API `CppCheck::check`,
`CppCheck::checkBuffer`, `CppCheck::analyseWholeProgram` (leaving them means that a problem with the input was not
turned into a finding: the run ends in the last-resort handler of `main`), and every function with a non-throwing exception
specification (`noexcept`, destructors: leaving one is `std::terminate` whatever handlers are further up). -/
def Aborts (P : Prog) (s : Site) : Prop := ∃ e ∈ P.entries, Escapes P s e

theorem bitOf_eq_testBit (m f : Nat) : bitOf m f = m.testBit f := by
  unfold bitOf Nat.testBit
  have h : Nat.shiftRight m f = m >>> f := rfl
  rw [h, Nat.one_and_eq_mod_two]
  rcases Nat.mod_two_eq_zero_or_one (m >>> f) with h0 | h1
  · simp [h0]; rfl
  · simp [h1]

/-- `a ⊆ b` as bit sets (`Cert.wf` spells the same expression out) -/
def within (a b : Nat) : Bool := Nat.beq (Nat.lor b a) b

theorem testBit_of_within {a b i : Nat} (h : within a b = true) (ha : a.testBit i = true) : b.testBit i = true := by
  have h' : b ||| a = b := Nat.eq_of_beq_eq_true h
  rw [← h', Nat.testBit_or, ha, Bool.or_true]

theorem mem_any {c : Cert} {types : List Ty} (hw : c.wf types = true) {t : Ty} (ht : t ∈ types) {f : Fn}
    (hm : c.mem t f = true) : bitOf c.any f = true := by
  simp only [Cert.wf, List.all_eq_true] at hw
  rw [Cert.mem, bitOf_eq_testBit] at hm
  rw [bitOf_eq_testBit]
  exact testBit_of_within (hw t ht) hm

theorem rowOk_mem {P : Prog} {c : Cert} {types : List Ty} (hw : c.wf types = true) {t : Ty} (ht : t ∈ types) {r : Row}
    (hR : rowOk P c types r = true) (hm : c.mem t r.fn = true) :
    (∀ f ∈ r.callers, c.mem t f = true) ∧ ∀ e ∈ r.pcallers, e.passes P.hier t = true → c.mem t e.caller = true := by
  simp only [rowOk, Bool.or_eq_true, Bool.not_eq_true', List.all_eq_true, Bool.and_eq_true] at hR
  rcases hR with hR | hR
  · rw [mem_any hw ht hm] at hR; cases hR
  · rcases hR t ht with hT | ⟨hc, hp⟩
    · rw [hm] at hT; cases hT
    · refine ⟨hc, fun e he hpass => (hp e he).resolve_left ?_⟩
      rw [hpass]; exact Bool.noConfusion

theorem escape_sound {P : Prog} {c : Cert} {types : List Ty} {excl : List Nat}
    (hc : closed P c types excl = true) {s : Site} (hs : s ∈ P.sites) (hex : s.id ∉ excl) (hg : s.guard = 0)
    {f : Fn} (h : Escapes P s f) : c.mem s.ty f = true := by
  simp only [closed, Bool.and_eq_true, List.all_eq_true] at hc
  obtain ⟨⟨hwf, hsites⟩, hrows⟩ := hc
  obtain ⟨hty, hok⟩ := hsites s hs
  have htyIn : s.ty ∈ types := by simpa using hty
  induction h with
  | origin hn =>
    simp only [siteOk, Bool.or_eq_true] at hok
    rcases hok with ((hg' | hc') | he') | hm
    · simp [hg] at hg'
    · rw [hn] at hc'; cases hc'
    · exact absurd (by simpa using he') hex
    · exact hm
  | call _ hr hfn hf ih => exact (rowOk_mem hwf htyIn (hrows _ hr) (hfn ▸ ih)).1 _ hf
  | pcall _ hr hfn he hp ih => exact (rowOk_mem hwf htyIn (hrows _ hr) (hfn ▸ ih)).2 _ he hp

theorem no_abort {P : Prog} {c : Cert} {types : List Ty} {excl : List Nat}
    (hc : closed P c types excl = true) (he : entriesClear P c types = true)
    {s : Site} (hs : s ∈ P.sites) (hex : s.id ∉ excl) (hg : s.guard = 0) : ¬ Aborts P s := by
  rintro ⟨e, heIn, hesc⟩
  have hm := escape_sound hc hs hex hg hesc
  simp only [entriesClear, List.all_eq_true] at he
  have hty : s.ty ∈ types := by
    simp only [closed, Bool.and_eq_true, List.all_eq_true] at hc
    simpa using (hc.1.2 s hs).1
  have := he e heIn s.ty hty
  rw [hm] at this
  cases this

theorem edgeAt_step {P : Prog} {s : Site} {g f : Fn} {idx : Nat} (h : edgeAt P s.ty g f idx = true)
    (hg : Escapes P s g) : Escapes P s f := by
  unfold edgeAt at h
  split at h
  · cases h
  · rename_i r hr
    have hmem : r ∈ P.rows := List.mem_of_getElem? hr
    simp only [Bool.and_eq_true, Bool.or_eq_true, beq_iff_eq, List.any_eq_true] at h
    obtain ⟨hfn, hcase⟩ := h
    rcases hcase with hc | ⟨e, he, hcaller, hpass⟩
    · exact Escapes.call hg hmem hfn (by simpa using hc)
    · have := Escapes.pcall hg hmem hfn he hpass
      rw [hcaller] at this
      exact this

theorem chainOk_escapes {P : Prog} {s : Site} : ∀ (hops : List (Fn × Nat)) (cur : Fn),
    Escapes P s cur → chainOk P s.ty cur hops = true → ∃ e ∈ P.entries, Escapes P s e
  | [], cur, hcur, h => by
    simp only [chainOk] at h
    exact ⟨cur, by simpa using h, hcur⟩
  | (nxt, idx) :: rest, cur, hcur, h => by
    simp only [chainOk, Bool.and_eq_true] at h
    exact chainOk_escapes rest nxt (edgeAt_step h.1 hcur) h.2

theorem pathOk_aborts {P : Prog} {p : Path} (h : pathOk P p = true) :
    ∃ s ∈ P.sites, s.id = p.site ∧ Aborts P s := by
  simp only [pathOk, List.any_eq_true, Bool.and_eq_true, beq_iff_eq, Bool.not_eq_true'] at h
  obtain ⟨s, hs, ⟨⟨⟨⟨hid, _⟩, hn⟩, hf⟩, hm⟩⟩ := h
  refine ⟨s, hs, hid, ?_⟩
  have h0 : Escapes P s p.first := by
    rw [hf]; exact Escapes.origin hn
  exact chainOk_escapes p.hops p.first h0 hm

/-! ### the table checks in a form the kernel evaluates quickly

The masks of all types stand side by side in one number, `digitBase` bits apart (`pack`; function ids are digits, so every mask
fits its lane: `Cert.small`).  Shifting that number down by `f` and masking the foot of every lane leaves the set of types that
may propagate out of `f` (`col`); a row is in order when that set only grows from the callee to each caller. -/

def pack : List Nat → Nat
  | [] => 0
  | r :: rs => Nat.lor r (Nat.shiftLeft (pack rs) digitBase)

theorem testBit_pack {rs : List Nat} (h : ∀ r ∈ rs, r < 2 ^ digitBase) {f : Nat} (hf : f < digitBase) (t : Nat) :
    (pack rs).testBit (t * digitBase + f) = (rs.getD t 0).testBit f := by
  induction rs generalizing t with
  | nil => simp [pack]
  | cons r rs ih =>
    show (r ||| pack rs <<< digitBase).testBit _ = _
    rw [Nat.testBit_or, Nat.testBit_shiftLeft]
    cases t with
    | zero => simp [Nat.not_le.mpr hf]
    | succ t =>
      have e : (t + 1) * digitBase + f = digitBase + (t * digitBase + f) := by rw [Nat.succ_mul]; omega
      have hr : r.testBit (digitBase + (t * digitBase + f)) = false :=
        Nat.testBit_lt_two_pow (Nat.lt_of_lt_of_le (h r List.mem_cons_self)
          (Nat.pow_le_pow_right (by decide) (Nat.le_add_right ..)))
      rw [e, hr, Nat.add_sub_cancel_left, ih (fun r hr => h r (List.mem_cons_of_mem _ hr))]
      simp

def Cert.small (c : Cert) : Bool := c.reach.all fun r => Nat.blt r (2 ^ digitBase)

def col (c : Cert) (f : Fn) : Nat :=
  Nat.land (Nat.shiftRight (pack c.reach) f) (pack (c.reach.map fun _ => 1))

theorem testBit_col {c : Cert} (hc : c.small = true) {f : Fn} (hf : f < digitBase) (t : Ty) :
    (col c f).testBit (t * digitBase) = c.mem t f := by
  have hlt : ∀ r ∈ c.reach, r < 2 ^ digitBase := fun r hr => by
    simpa [Nat.blt_eq] using List.all_eq_true.mp hc r hr
  have h1 : ∀ r ∈ c.reach.map (fun _ => 1), r < 2 ^ digitBase := fun r hr => by
    obtain ⟨_, _, rfl⟩ := List.mem_map.mp hr
    exact Nat.one_lt_two_pow (by decide)
  show ((pack c.reach >>> f) &&& pack (c.reach.map fun _ => 1)).testBit _ = _
  have h0 := testBit_pack h1 (show 0 < digitBase by decide) t
  rw [Nat.add_zero] at h0
  rw [Nat.testBit_and, Nat.testBit_shiftRight, Nat.add_comm, testBit_pack hlt hf, h0, Cert.mem, bitOf_eq_testBit]
  by_cases ht : t < c.reach.length
  · simp [List.getD_eq_getElem?_getD, ht]
  · simp [List.getD_eq_getElem?_getD, Nat.not_lt.mp ht]

theorem mem_eq_false_of_col {c : Cert} (hc : c.small = true) {f : Fn} (hf : f < digitBase) (h : col c f = 0) (t : Ty) :
    c.mem t f = false := by
  rw [← testBit_col hc hf, h, Nat.zero_testBit]

theorem mem_of_col_within {c : Cert} (hc : c.small = true) {g f : Fn} (hg : g < digitBase) (hf : f < digitBase)
    (h : within (col c g) (col c f) = true) {t : Ty} (hm : c.mem t g = true) : c.mem t f = true := by
  rw [← testBit_col hc hf]
  exact testBit_of_within h (by rw [testBit_col hc hg, hm])

theorem digits_lt : ∀ (fuel n : Nat), ∀ d ∈ digits fuel n, d < digitBase
  | 0, _, _, h => nomatch h
  | fuel + 1, n, d, h => by
    rw [digits] at h
    cases hn : Nat.beq n 0 with
    | true => rw [hn] at h; nomatch h
    | false =>
      rw [hn, cond_false, List.mem_cons] at h
      rcases h with rfl | h
      · exact Nat.mod_lt _ (by decide)
      · exact digits_lt fuel _ d h

def digitsIn (c : Cert) (g : Nat) : Nat → Nat → Bool
  | 0, _ => true
  | fuel + 1, n => Nat.beq n 0 || (within g (col c (n % digitBase - 1)) && digitsIn c g fuel (n / digitBase))

theorem digitsIn_eq (c : Cert) (g : Nat) : ∀ fuel n,
    digitsIn c g fuel n = (digits fuel n).all fun d => within g (col c (d - 1))
  | 0, _ => rfl
  | fuel + 1, n => by
    rw [digitsIn, digits, digitsIn_eq c g fuel]
    cases Nat.beq n 0 <;> rfl

/-- `digitsIn` runs over all digits of `n`; the callee's own (the lowest) passes trivially -/
def codeOk (c : Cert) (n : Nat) : Bool :=
  Nat.beq (col c (n % digitBase - 1)) 0 || digitsIn c (col c (n % digitBase - 1)) rowDigits n

theorem rowOk_decodeRow {P : Prog} {c : Cert} {types : List Ty} (hc : c.small = true) {n : Nat}
    (h : codeOk c n = true) : rowOk P c types (decodeRow n) = true := by
  have hlt : ∀ e ∈ digits rowDigits n, e - 1 < digitBase := fun e he =>
    Nat.lt_of_le_of_lt (Nat.sub_le _ _) (digits_lt _ _ e he)
  rw [codeOk, digitsIn_eq, Bool.or_eq_true, List.all_eq_true] at h
  unfold decodeRow
  -- `31 + 1` lets `rw [digits]` make one step: the callee's digit is `n % digitBase`
  rw [show rowDigits = 31 + 1 from rfl, digits] at hlt h ⊢
  cases hn : Nat.beq n 0 with
  | true => simp [rowOk]
  | false =>
    simp only [hn, cond_false, List.mem_cons, forall_eq_or_imp] at hlt h ⊢
    simp only [rowOk, Bool.or_eq_true, Bool.not_eq_true', List.all_eq_true, Bool.and_eq_true, List.mem_map,
      forall_exists_index, and_imp, forall_apply_eq_imp_iff₂]
    refine Or.inr fun t _ => ?_
    cases hm : c.mem t (n % digitBase - 1) with
    | false => exact Or.inl rfl
    | true =>
      refine Or.inr ⟨fun e he => ?_, by simp⟩
      rcases h with h | h
      · rw [mem_eq_false_of_col hc hlt.1 (Nat.eq_of_beq_eq_true h)] at hm; cases hm
      · exact mem_of_col_within hc hlt.1 (hlt.2 e he) (h.2 e he) hm

/-! `codeWf` without a walk over the digits (a digit is 13 bits).  Or-ing `n` with itself shifted down, a few times, leaves in
bit `i` whether `n` has a bit among `i, …, i + w - 1` (`Covers`).  A code is well formed when every digit that has a nonzero
rest above it is itself not zero: one comparison of two such numbers (`wfBits`). -/

def orDown (s x : Nat) : Nat := Nat.lor x (Nat.shiftRight x s)

def Covers (w x n : Nat) : Prop := ∀ i, x.testBit i = true ↔ ∃ k < w, n.testBit (i + k) = true

theorem covers_self (n : Nat) : Covers 1 n n := fun i =>
  ⟨fun h => ⟨0, Nat.one_pos, h⟩, fun ⟨k, hk, hb⟩ => by rwa [Nat.lt_one_iff.mp hk] at hb⟩

theorem orDown_covers {n x w s : Nat} (hs : s ≤ w) (hx : Covers w x n) : Covers (w + s) (orDown s x) n := by
  intro i
  show (x ||| x >>> s).testBit i = true ↔ _
  rw [Nat.testBit_or, Nat.testBit_shiftRight, Bool.or_eq_true, hx, hx]
  constructor
  · rintro (⟨k, hk, hb⟩ | ⟨k, hk, hb⟩)
    · exact ⟨k, by omega, hb⟩
    · exact ⟨s + k, by omega, by rwa [← Nat.add_assoc, Nat.add_comm i s]⟩
  · rintro ⟨k, hk, hb⟩
    by_cases h : k < w
    · exact Or.inl ⟨k, h, hb⟩
    · exact Or.inr ⟨k - s, by omega, by rwa [show s + i + (k - s) = i + k by omega]⟩

theorem testBit_of_digit_zero {n j : Nat} (h : n / digitBase ^ j % digitBase = 0) {k : Nat} (hk : k < 13) :
    n.testBit (13 * j + k) = false := by
  have h2 : ((n >>> (13 * j)) % 2 ^ 13).testBit k = false := by
    rw [Nat.shiftRight_eq_div_pow, Nat.pow_mul]; exact h ▸ Nat.zero_testBit k
  rwa [Nat.testBit_mod_two_pow, decide_eq_true hk, Bool.true_and, Nat.testBit_shiftRight] at h2

theorem digits_all_ne_zero {n : Nat} (h : ∀ j, digitBase ^ (j + 1) ≤ n → n / digitBase ^ j % digitBase ≠ 0) :
    ∀ fuel j, (digits fuel (n / digitBase ^ j)).all (fun d => !(Nat.beq d 0)) = true
  | 0, _ => rfl
  | fuel + 1, j => by
    rw [digits]
    cases hm : Nat.beq (n / digitBase ^ j) 0 with
    | true => rfl
    | false =>
      have ih := digits_all_ne_zero h fuel (j + 1)
      rw [Nat.pow_succ, ← Nat.div_div_eq_div_mul] at ih
      simp only [cond_false, List.all_cons, ih, Bool.and_true, Bool.not_eq_true']
      rw [← Bool.not_eq_true, Nat.beq_eq]
      intro h0
      by_cases hq : n / digitBase ^ j / digitBase = 0
      · -- the top digit is the rest itself
        rw [Nat.div_eq_zero_iff_lt (by decide)] at hq
        rw [Nat.mod_eq_of_lt hq] at h0
        rw [h0] at hm; cases hm
      · refine h j ?_ h0
        rw [Nat.div_div_eq_div_mul, ← Nat.pow_succ] at hq
        exact Nat.le_of_not_lt fun hlt => hq (Nat.div_eq_of_lt hlt)

def digitUnits : Nat := (digitBase ^ rowDigits - 1) / (digitBase - 1)

theorem digitUnits_testBit : ∀ j < rowDigits, digitUnits.testBit (13 * j) = true := by decide +kernel

/-- `orDown 5 x` covers one digit: its bit `13 * j` says that digit `j` is not zero.  The shifts up to 256 cover
512 ≥ 13 * 32 bits, the length of a code: shifted down by one digit, bit `13 * j` says that something above digit `j` is not zero. -/
def wfBits (n : Nat) : Bool :=
  let x := orDown 4 (orDown 2 (orDown 1 n))
  !(Nat.beq n 0) && Nat.blt n (digitBase ^ rowDigits) &&
    within (Nat.land (Nat.shiftRight (orDown 256 (orDown 128 (orDown 64 (orDown 32 (orDown 16 (orDown 8 x)))))) 13) digitUnits)
      (orDown 5 x)

theorem codeWf_of_wfBits {n : Nat} (h : wfBits n = true) : codeWf n = true := by
  simp only [wfBits, Bool.and_eq_true, Bool.not_eq_true', Nat.blt_eq] at h
  obtain ⟨⟨h0, hlt⟩, hw⟩ := h
  have hx : Covers 8 (orDown 4 (orDown 2 (orDown 1 n))) n :=
    orDown_covers (by decide) (orDown_covers (by decide) (orDown_covers (by decide) (covers_self n)))
  have hnz : Covers 13 _ n := orDown_covers (s := 5) (by decide) hx
  have hup : Covers 512 _ n := orDown_covers (s := 256) (by decide) (orDown_covers (s := 128) (by decide)
    (orDown_covers (s := 64) (by decide) (orDown_covers (s := 32) (by decide) (orDown_covers (s := 16) (by decide)
    (orDown_covers (s := 8) (by decide) hx)))))
  have hd : ∀ j, digitBase ^ (j + 1) ≤ n → n / digitBase ^ j % digitBase ≠ 0 := by
    intro j hj hz
    have hj' : j + 1 < rowDigits := (Nat.pow_lt_pow_iff_right (a := digitBase) (by decide)).mp (Nat.lt_of_le_of_lt hj hlt)
    obtain ⟨i, hi, hb⟩ := Nat.exists_ge_and_testBit_of_ge_two_pow (show 2 ^ (13 * (j + 1)) ≤ n by rwa [Nat.pow_mul])
    have hi' : i < 13 * rowDigits := (Nat.pow_lt_pow_iff_right (a := 2) (by decide)).mp
      (Nat.lt_of_le_of_lt (Nat.ge_two_pow_of_testBit hb) (by rwa [Nat.pow_mul]))
    have hs := (hup (13 + 13 * j)).mpr ⟨i - (13 + 13 * j),
      by simp only [rowDigits] at hi'; omega,
      by rwa [Nat.add_sub_cancel' (by omega)]⟩
    have hneed := testBit_of_within hw (i := 13 * j) (by
      show (_ >>> 13 &&& digitUnits).testBit _ = true
      rw [Nat.testBit_and, Nat.testBit_shiftRight, hs, digitUnits_testBit j (by omega)]
      rfl)
    obtain ⟨k, hk, hb⟩ := (hnz _).mp hneed
    rw [testBit_of_digit_zero hz hk] at hb
    cases hb
  unfold codeWf
  split
  · rename_i hnil
    rw [show rowDigits = 31 + 1 from rfl, digits, h0] at hnil
    cases hnil
  · have := digits_all_ne_zero hd rowDigits 0
    rw [Nat.pow_zero, Nat.div_one] at this
    rw [this, Nat.div_eq_of_lt hlt]; rfl

/-- All that is evaluated over a generated table.  For a site the certificate is looked up first: the last alternative of
`siteOk` is the usual one. -/
def tableOk (P : Prog) (c : Cert) (k : Nat) (excl codes : List Nat) (prot : List Row) : Bool :=
  c.small && c.wf (List.range k) &&
    P.sites.all (fun s => Nat.blt s.ty k && (c.mem s.ty s.fn || siteOk P c excl s)) &&
    codes.all (fun n => codeOk c n && wfBits n) && prot.all (rowOk P c (List.range k)) &&
    P.entries.all (fun e => Nat.blt e digitBase && Nat.beq (col c e) 0)

theorem tableOk_sound {P : Prog} {c : Cert} {k : Nat} {excl codes : List Nat} {prot : List Row}
    (hrows : P.rows = codes.map decodeRow ++ prot) (h : tableOk P c k excl codes prot = true) :
    closed P c (List.range k) excl = true ∧ entriesClear P c (List.range k) = true := by
  simp only [tableOk, Bool.and_eq_true, List.all_eq_true, Nat.blt_eq, Bool.or_eq_true] at h
  obtain ⟨⟨⟨⟨⟨hc, hwf⟩, hsites⟩, hcodes⟩, hprot⟩, hent⟩ := h
  constructor
  · simp only [closed, hwf, hrows, List.all_append, List.all_map, Bool.and_eq_true, List.all_eq_true, true_and,
      List.contains_iff_mem, List.mem_range]
    refine ⟨fun s hs => ⟨(hsites s hs).1, (hsites s hs).2.elim (fun hm => ?_) id⟩,
      fun n hn => rowOk_decodeRow hc (hcodes n hn).1, hprot⟩
    simp [siteOk, hm]
  · simp only [entriesClear, List.all_eq_true, Bool.not_eq_true']
    exact fun e he t _ => mem_eq_false_of_col hc (hent e he).1 (Nat.eq_of_beq_eq_true (hent e he).2) t

theorem tableOk_codeWf {P : Prog} {c : Cert} {k : Nat} {excl codes : List Nat} {prot : List Row}
    (h : tableOk P c k excl codes prot = true) : codes.all codeWf = true := by
  simp only [tableOk, Bool.and_eq_true, List.all_eq_true] at h
  exact List.all_eq_true.mpr fun n hn => codeWf_of_wfBits (h.1.1.2 n hn).2

theorem isSub_refl (h : Hier) (n : Nat) (t : Ty) : isSub h n t t = true := by
  cases n <;> simp [isSub]

theorem isSub_mono (h : Hier) : ∀ (n : Nat) (t u : Ty), isSub h n t u = true → isSub h (n + 1) t u = true
  | 0, t, u, hh => by
    simp only [isSub] at hh
    simp [isSub, hh]
  | n + 1, t, u, hh => by
    rw [isSub] at hh
    rw [isSub]
    simp only [Bool.or_eq_true, List.any_eq_true] at hh ⊢
    rcases hh with hh | ⟨b, hb, hh⟩
    · exact Or.inl hh
    · exact Or.inr ⟨b, hb, isSub_mono h n b u hh⟩

theorem catches_self (h : Hier) (t : Ty) : (Handler.ty t).catches h t = true := by
  simp [Handler.catches, Hier.sub, isSub_refl]

theorem catches_all (h : Hier) (t : Ty) : Handler.all.catches h t = true := rfl

theorem firstMatch_eq_find? (h : Hier) (t : Ty) : ∀ hs : List (Handler × Action),
    firstMatch h hs t = hs.find? (fun p => p.1.catches h t)
  | [] => rfl
  | (x, a) :: rest => by
    rw [firstMatch, List.find?_cons, firstMatch_eq_find? h t rest]
    cases x.catches h t <;> rfl

theorem firstMatch_catches (h : Hier) : ∀ (hs : List (Handler × Action)) (t : Ty) (x : Handler) (a : Action),
    firstMatch h hs t = some (x, a) → x.catches h t = true :=
  fun hs t _ _ hh =>
    List.find?_some (p := fun p : Handler × Action => p.1.catches h t) (firstMatch_eq_find? h t hs ▸ hh)

theorem firstMatch_none (h : Hier) : ∀ (hs : List (Handler × Action)) (t : Ty),
    firstMatch h hs t = none ↔ caughtBy h (hs.map Prod.fst) t = false := by
  intro hs t
  rw [firstMatch_eq_find?, List.find?_eq_none, caughtBy, List.any_map, List.any_eq_false]
  rfl

end Cppcheck.ExcFunnel
