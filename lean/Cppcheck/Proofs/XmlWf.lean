import Cppcheck.Model.XmlWf
import Cppcheck.Proofs.TextLemmas
/-
Helper lemmas for C20 / XmlWf: every byte prefix of a cache document that stops before the final `>` of
`</analyzerinfo>` is not "loaded with a root element".  A document is read segment by segment with `scan`.
-/
namespace Cppcheck.XmlWf
open Cppcheck.Wire

/-- the state lets `skipAnalysis` / `processFilesTxt` see a root element -/
def St.loaded (s : St) : Bool := s.accepting && s.root.isSome

/-- the state after `bytes`, provided no state in front of it is `loaded` -/
def scan : St → Str → Option St
  | s, [] => some s
  | s, c :: r => if s.loaded then none else scan (step s c) r

theorem run_append (s : St) (a b : Str) : run s (a ++ b) = run (run s a) b := by
  simp [run, List.foldl_append]

theorem run_cons (s : St) (c : Char) (r : Str) : run s (c :: r) = run (step s c) r := List.foldl_cons ..

theorem scan_cons_eq_some {s s' : St} {c : Char} {r : Str} :
    scan s (c :: r) = some s' ↔ s.loaded = false ∧ scan (step s c) r = some s' := by
  rw [scan]; cases s.loaded <;> simp

theorem scan_cons {s : St} (h : s.loaded = false) (c : Char) (r : Str) : scan s (c :: r) = scan (step s c) r := by
  rw [scan, h]; rfl

theorem scan_append {s s' : St} {a : Str} (h : scan s a = some s') (b : Str) : scan s (a ++ b) = scan s' b := by
  induction a generalizing s with
  | nil => cases h; rfl
  | cons c r ih =>
    obtain ⟨hl, h⟩ := scan_cons_eq_some.mp h
    rw [List.cons_append, scan_cons hl]
    exact ih h

theorem run_of_scan {s s' : St} {b : Str} (h : scan s b = some s') : run s b = s' := by
  induction b generalizing s with
  | nil => cases h; rfl
  | cons c r ih => exact ih (scan_cons_eq_some.mp h).2

/-- `scan` speaks about every proper prefix -/
theorem scan_take {s s' : St} {b : Str} (h : scan s b = some s') {n : Nat} (hn : n < b.length) :
    (run s (b.take n)).loaded = false := by
  induction b generalizing s n with
  | nil => cases hn
  | cons c r ih =>
    obtain ⟨hl, h⟩ := scan_cons_eq_some.mp h
    cases n with
    | zero => exact hl
    | succ n => exact ih h (Nat.lt_of_succ_lt_succ hn)

theorem guardB_head (d : Nat) (s : St) (b : Str) : guardB d s b = (guardB d s [] && guardB d s b) := by
  cases b with
  | nil => simp only [guardB]; exact (Bool.and_self _).symm
  | cons c r =>
    simp only [guardB]
    cases decide (d ≤ s.stack.length) <;> cases (s.mode != Mode.stopped) <;> simp

theorem guardB_append (d : Nat) (s : St) (a b : Str) :
    guardB d s (a ++ b) = (guardB d s a && guardB d (run s a) b) := by
  induction a generalizing s with
  | nil => exact guardB_head d s b
  | cons c r ih =>
    simp only [List.cons_append, guardB, run_cons, ih, Bool.and_assoc]

/-- inside an element nothing is loaded -/
theorem not_loaded_of_guardB {s : St} {b : Str} (h : guardB 1 s b = true) : s.loaded = false := by
  rw [guardB_head, Bool.and_eq_true] at h
  replace h := h.1
  simp only [guardB, Bool.and_eq_true, decide_eq_true_eq, bne_iff_ne, ne_eq] at h
  unfold St.loaded St.accepting
  split
  · exact absurd ‹_› h.2
  · cases hs : s.stack with
    | nil => rw [hs] at h; exact absurd h.1 (by decide)
    | cons a r => simp
  · rfl

theorem scan_of_guardB (s : St) (b : Str) (h : guardB 1 s b = true) : scan s b = some (run s b) := by
  induction b generalizing s with
  | nil => rfl
  | cons c r ih =>
    rw [scan_cons (not_loaded_of_guardB h), run_cons]
    simp only [guardB, Bool.and_eq_true] at h
    exact ih _ h.2

section
variable {st : List Str} {od : Bool} {r : Option (Str × Attrs)}

theorem step_content_lt : step ⟨.content false, st, true, od, r⟩ '<' = ⟨.lt, st, true, od, r⟩ := rfl

theorem step_lt_slash : step ⟨.lt, st, true, od, r⟩ '/' = ⟨.nameStart, st, true, od, r⟩ := rfl

theorem step_nameStart {c : Char} (h : isNameStart c = true) :
    step ⟨.nameStart, st, true, od, r⟩ c = ⟨.name ⟨true, [c], []⟩, st, true, od, r⟩ := by
  simp only [step, h, ite_self, if_true]

theorem step_name (t : Tag) {c : Char} (h : isNameChar c = true) :
    step ⟨.name t, st, true, od, r⟩ c = ⟨.name { t with name := t.name ++ [c] }, st, true, od, r⟩ := by
  simp only [step, h, ite_self, if_true]

theorem step_name_gt (n : Str) : step ⟨.name ⟨true, n, []⟩, n :: st, true, od, r⟩ '>' = ⟨.content false, st, true, od, r⟩ := by
  have h : isNameChar '>' = false := by decide
  have hw : isWs '>' = false := by decide
  have hs : isNameStart '>' = false := by decide
  simp only [step, h, hw, hs, attrsStep, endTag, closeTag, if_true, Bool.false_eq_true, if_false, beq_self_eq_true]

theorem step_value (t : Tag) (an : Str) (q : Char) (v : Str) {c : Char} (h : (c == q) = false) :
    step ⟨.value t an q v, st, true, od, r⟩ c = ⟨.value t an q (v ++ [c]), st, true, od, r⟩ := by
  simp only [step, h, ite_self, Bool.false_eq_true, if_false]

theorem scan_name (t : Tag) {cs : Str} (h : cs.all isNameChar = true) :
    scan ⟨.name t, st, true, od, r⟩ cs = some ⟨.name { t with name := t.name ++ cs }, st, true, od, r⟩ := by
  induction cs generalizing t with
  | nil => rw [List.append_nil]; rfl
  | cons c cs ih =>
    rw [List.all_cons, Bool.and_eq_true] at h
    rw [scan_cons rfl, step_name t h.1, ih _ h.2, List.append_assoc, List.singleton_append]

theorem scan_endTag {c : Char} {cs : Str} (hc : isNameStart c = true) (hcs : cs.all isNameChar = true) :
    scan ⟨.content false, (c :: cs) :: st, true, od, r⟩ ('<' :: '/' :: c :: cs ++ ['>']) = some ⟨.content false, st, true, od, r⟩ := by
  rw [List.cons_append, List.cons_append, List.cons_append, scan_cons rfl, step_content_lt, scan_cons rfl, step_lt_slash,
    scan_cons rfl, step_nameStart hc, scan_append (scan_name _ hcs), scan_cons rfl, List.singleton_append, step_name_gt]
  rfl

theorem scan_value (t : Tag) (an : Str) (q : Char) (v : Str) {cs : Str} (h : ∀ c ∈ cs, (c == q) = false) :
    scan ⟨.value t an q v, st, true, od, r⟩ cs = some ⟨.value t an q (v ++ cs), st, true, od, r⟩ := by
  induction cs generalizing v with
  | nil => rw [List.append_nil]; rfl
  | cons c cs ih =>
    rw [List.forall_mem_cons] at h
    rw [scan_cons rfl, step_value t an q v h.1, ih _ h.2, List.append_assoc, List.singleton_append]

end

/-- state while the value of the `hash` attribute is read -/
def inHash (v : Str) : St :=
  ⟨.value ⟨false, rootName, []⟩ hashName '"' v, [], true, true, none⟩

theorem inHash_not_loaded (v : Str) : (inHash v).loaded = false := rfl

theorem scan_headerA : scan St.init headerA = some (inHash []) := by decide +kernel

theorem scan_inHash (hash : Str) (h : hashOk hash = true) : scan (inHash []) hash = some (inHash hash) :=
  scan_value _ _ _ [] fun c hc => Text.beq_false_of_pred (List.all_eq_true.mp h c hc)

theorem scan_headerB (hash : Str) : scan (inHash hash) headerB = some (inRoot hash) := by
  simp [scan, headerB, step, inHash, inRoot, isWs, attrsStep, endTag, openTag, St.noteNode, isNameStart, isAlpha,
    St.loaded, St.accepting]

theorem scan_header (hash : Str) (h : hashOk hash = true) : scan St.init (header hash) = some (inRoot hash) := by
  unfold header
  rw [List.append_assoc, scan_append scan_headerA, scan_append (scan_inHash hash h)]
  exact scan_headerB hash

theorem scan_items (hash : Str) (items : List Str) (h : ∀ it ∈ items, balancedItem hash it = true) :
    scan (inRoot hash) items.flatten = some (inRoot hash) := by
  induction items with
  | nil => rfl
  | cons it r ih =>
    rw [List.forall_mem_cons] at h
    have hb := h.1
    simp only [balancedItem, Bool.and_eq_true, beq_iff_eq] at hb
    rw [List.flatten_cons, scan_append ((scan_of_guardB _ _ hb.1).trans (congrArg some hb.2))]
    exact ih h.2

/-- state after the complete document (before / after the final newline) -/
def closed (hash : Str) : St := ⟨.content false, [], true, false, some (rootName, [(hashName, hash)])⟩

theorem closed_loaded (hash : Str) : (closed hash).accepting = true ∧ (closed hash).root = some (rootName, [(hashName, hash)]) :=
  ⟨rfl, rfl⟩

def docBody (hash : Str) (items : List Str) : Str := header hash ++ items.flatten ++ (footerA ++ ['>'])

theorem document_eq (hash : Str) (items : List Str) : document hash items = docBody hash items ++ ['\n'] := by
  simp [document, docBody, footer, List.append_assoc]

theorem scan_docBody (hash : Str) (items : List Str) (hok : hashOk hash = true)
    (hbal : ∀ it ∈ items, balancedItem hash it = true) : scan St.init (docBody hash items) = some (closed hash) := by
  unfold docBody
  rw [List.append_assoc, scan_append (scan_header hash hok), scan_append (scan_items hash items hbal)]
  exact scan_endTag (c := 'a') (by decide) (by decide)

theorem load_eq (bytes : Str) :
    load bytes = if (run St.init bytes).accepting then .ok (run St.init bytes).root else .error := rfl

theorem load_of_not_loaded (bytes : Str) (h : (run St.init bytes).loaded = false) :
    load bytes = .error ∨ load bytes = .ok none := by
  rw [load_eq]
  simp only [St.loaded, Bool.and_eq_false_iff] at h
  cases ha : (run St.init bytes).accepting with
  | false => left; simp
  | true =>
    right
    rcases h with h | h
    · rw [ha] at h; cases h
    · cases hr : (run St.init bytes).root with
      | none => simp
      | some r => rw [hr] at h; cases h

theorem prefix_not_loaded (hash : Str) (items : List Str) (hok : hashOk hash = true)
    (hbal : ∀ it ∈ items, balancedItem hash it = true) (n : Nat) (hn : n + 1 < (document hash items).length) :
    load ((document hash items).take n) = .error ∨ load ((document hash items).take n) = .ok none := by
  rw [document_eq, List.length_append, List.length_singleton] at hn
  have hlt : n < (docBody hash items).length := Nat.lt_of_succ_lt_succ hn
  rw [document_eq, List.take_append_of_le_length (Nat.le_of_lt hlt)]
  exact load_of_not_loaded _ (scan_take (scan_docBody hash items hok hbal) hlt)

theorem step_closed_nl (hash : Str) : step (closed hash) '\n' = closed hash := by
  simp [step, closed, isWs]

/-- the complete document, and the document without its final newline, load with root `analyzerinfo` and the hash -/
theorem full_loaded (hash : Str) (items : List Str) (hok : hashOk hash = true)
    (hbal : ∀ it ∈ items, balancedItem hash it = true) (n : Nat) (hn : (document hash items).length ≤ n + 1) :
    load ((document hash items).take n) = .ok (some (rootName, [(hashName, hash)])) := by
  rw [document_eq, List.length_append, List.length_singleton] at hn
  rw [load_eq, document_eq, List.take_append, List.take_of_length_le (Nat.le_of_succ_le_succ hn), run_append,
    run_of_scan (scan_docBody hash items hok hbal)]
  -- what is left is nothing or the final newline
  cases n - (docBody hash items).length with
  | zero => rfl
  | succ k => rw [List.take_succ_cons, List.take_nil, run_cons, step_closed_nl]; rfl

end Cppcheck.XmlWf
