import Cppcheck.Model.ClangDeclMap
import Cppcheck.Proofs.AstStore
/-
C35: the address-keyed declaration map (an invariant `J` of the event loop: every token that names an address, the
declaration's own and each use, carries the mark of the declaration the address stands for, whichever came first);
the acyclicity half of the soundness of the checker `checkInv`; the model import touches the AST through the operand
setters only; and the map the import starts from (`initData`) against the empty one the theorems speak about.
-/
namespace Cppcheck.ClangDeclMap
open Cppcheck.ClangLine

theorem lookup_eq_find? (m : List (Addr × α)) (a : Addr) : lookup m a = (m.find? (·.1 = a)).map (·.2) := by
  induction m with
  | nil => rfl
  | cons kv r ih => by_cases h : kv.1 = a <;> simp [lookup, h, ih]

theorem lookup_append (m : List (Addr × α)) (a k : Addr) (v : α) :
    lookup (m ++ [(k, v)]) a = (lookup m a).or (if k = a then some v else none) := by
  simp only [lookup_eq_find?, List.find?_append, List.find?_cons, List.find?_nil]
  cases m.find? (·.1 = a) <;> by_cases h : k = a <;> simp [h]

theorem lookup_eraseKey (m : List (Addr × α)) (a k : Addr) :
    lookup (eraseKey m k) a = if a = k then none else lookup m a := by
  simp only [lookup_eq_find?, eraseKey, List.find?_filter]
  split
  · rename_i h
    rw [List.find?_eq_none.2]; · rfl
    intro kv _; simp [h]
  · rename_i h
    congr 2
    funext kv
    by_cases hk : kv.1 = a <;> simp [hk, h]

theorem lookup_mem {m : List (Addr × α)} {a : Addr} {v : α} (h : lookup m a = some v) : (a, v) ∈ m := by
  rw [lookup_eq_find?, Option.map_eq_some_iff] at h
  obtain ⟨kv, hf, rfl⟩ := h
  have := List.find?_some hf
  simp only [decide_eq_true_eq] at this
  exact this ▸ List.mem_of_find?_eq_some hf

theorem lookup_eq_none {m : List (Addr × α)} {a : Addr} : lookup m a = none ↔ a ∉ m.map (·.1) := by
  simp only [lookup_eq_find?, Option.map_eq_none_iff, List.find?_eq_none, decide_eq_true_eq, List.mem_map, not_exists, not_and]

theorem emplace_of_none (m : List (Addr × Decl)) (a : Addr) (d : Decl) (h : lookup m a = none) : emplace m a d = m ++ [(a, d)] := by
  simp [emplace, h]

/-- the update `Decl::ref` applies to the token it is given -/
def Decl.mark (dt : Data) (d : Decl) : Attr → Attr :=
  match d.kind with
  | .enumr => fun a => a.setEnumerator d.obj
  | .func => fun a => a.setFunction d.obj
  | .var => fun a => (a.setVariable d.obj).setVarId (dt.attrs (dt.varDef d.obj)).varId
  | .scope => fun a => a

theorem updAttr_id (f : Nat → Attr) (t : Nat) : updAttr f t (fun a => a) = f := by
  funext u; simp [updAttr]

theorem Decl.ref_eq (dt : Data) (d : Decl) (t : Nat) : d.ref dt t = { dt with attrs := updAttr dt.attrs t (d.mark dt) } := by
  unfold Decl.ref Decl.mark
  cases d.kind <;> simp [updAttr_id]

/-- the only thing `mark` reads from the state: the varId of the name token of the variable -/
theorem Decl.mark_congr (dt dt' : Data) (d : Decl)
    (h : d.kind = .var → (dt.attrs (dt.varDef d.obj)).varId = (dt'.attrs (dt'.varDef d.obj)).varId) : d.mark dt = d.mark dt' := by
  unfold Decl.mark
  cases hk : d.kind <;> simp only
  rw [h hk]

theorem ref_found (dt : Data) (a : Addr) (t : Nat) (d : Decl) (h : lookup dt.declMap a = some d) :
    dt.ref a t = { dt with attrs := updAttr dt.attrs t (d.mark dt) } := by
  simp [Data.ref, h, Decl.ref_eq]

/-- `mNotFound` read as a function: the uses that wait for `a` -/
def Data.pending (dt : Data) (a : Addr) : List Nat := (lookup dt.notFound a).getD []

structure RefSpec (dt dt' : Data) (a : Addr) (t : Nat) : Prop where
  declMap : dt'.declMap = dt.declMap
  varId : dt'.varId = dt.varId
  varDef : dt'.varDef = dt.varDef
  attrs : ∀ u, u ≠ t → dt'.attrs u = dt.attrs u
  own : dt'.attrs t = match lookup dt.declMap a with | some d => d.mark dt (dt.attrs t) | none => dt.attrs t
  pend : ∀ b, lookup dt.declMap b = none → dt'.pending b = dt.pending b ++ if a = b then [t] else []

theorem ref_spec (dt : Data) (a : Addr) (t : Nat) : RefSpec dt (dt.ref a t) a t := by
  cases h : lookup dt.declMap a with
  | some d =>
    rw [ref_found dt a t d h]
    refine ⟨rfl, rfl, rfl, fun u hu => by simp [updAttr, hu], by simp [updAttr, h], fun b hb => ?_⟩
    have : a ≠ b := fun hh => by rw [← hh, h] at hb; cases hb
    simp [Data.pending, this]
  | none =>
    unfold Data.ref
    rw [h]
    -- a first use of `a` opens an entry, a later one replaces it by the longer list: the same reading either way
    cases hl : lookup dt.notFound a
    all_goals
      refine ⟨rfl, rfl, rfl, fun _ _ => rfl, by rw [h], fun b _ => ?_⟩
      simp only [Data.pending, lookup_append, lookup_eraseKey]
      by_cases hb : a = b
      · subst hb; simp [hl]
      · have : ¬ b = a := fun h => hb h.symm
        cases lookup dt.notFound b <;> simp [hb, this]

theorem fold_ref (a : Addr) (d : Decl) : ∀ (l : List Nat) (dt : Data), lookup dt.declMap a = some d →
    (d.kind = .var → dt.varDef d.obj ∉ l) → l.Nodup →
    l.foldl (fun x t => x.ref a t) dt = { dt with attrs := fun u => if u ∈ l then (d.mark dt) (dt.attrs u) else dt.attrs u }
  | [], dt, _, _, _ => by simp
  | t :: l, dt, h, hn, hnd => by
    have hne : d.kind = .var → dt.varDef d.obj ≠ t := fun hk he => hn hk (by simp [he])
    have hm : d.mark { dt with attrs := updAttr dt.attrs t (d.mark dt) } = d.mark dt :=
      Decl.mark_congr _ _ _ fun hk => by simp [updAttr, hne hk]
    rw [List.foldl_cons, ref_found dt a t d h,
      fold_ref a d l { dt with attrs := updAttr dt.attrs t (d.mark dt) } h (fun hk hm => hn hk (by simp [hm])) (List.nodup_cons.1 hnd).2, hm]
    congr 1
    funext u
    by_cases hut : u = t
    · subst hut; simp [updAttr, (List.nodup_cons.1 hnd).1]
    · simp [updAttr, hut]

structure Resolved (D2 D' : Data) (a : Addr) (dcl : Decl) (l : List Nat) : Prop where
  declMap : D'.declMap = D2.declMap
  varId : D'.varId = D2.varId
  varDef : D'.varDef = D2.varDef
  pend : ∀ b, b ≠ a → D'.pending b = D2.pending b
  attrs : ∀ u, D'.attrs u = if u ∈ l then (dcl.mark D2) (D2.attrs u) else D2.attrs u

theorem resolve_spec (D2 : Data) (a : Addr) (dcl : Decl) (l : List Nat) (hm : lookup D2.declMap a = some dcl)
    (hp : D2.pending a = l) (hd : dcl.kind = .var → D2.varDef dcl.obj ∉ l) (hn : l.Nodup) :
    Resolved D2 (D2.resolve a) a dcl l := by
  unfold Data.resolve
  unfold Data.pending at hp
  cases hl : lookup D2.notFound a with
  | none =>
    obtain rfl : [] = l := by simpa [hl] using hp
    exact ⟨rfl, rfl, rfl, fun _ _ => rfl, fun u => by simp⟩
  | some l' =>
    obtain rfl : l' = l := by simpa [hl] using hp
    simp only [fold_ref a dcl l' D2 hm hd hn]
    exact ⟨rfl, rfl, rfl, fun b hb => by simp only [Data.pending, lookup_eraseKey, hb, if_false], fun _ => rfl⟩

theorem declPairs_append (a b : List Ev) : declPairs (a ++ b) = declPairs a ++ declPairs b := by simp [declPairs]
theorem evToks_append (a b : List Ev) : evToks (a ++ b) = evToks a ++ evToks b := by simp [evToks]
theorem varObjs_append (a b : List Ev) : varObjs (a ++ b) = varObjs a ++ varObjs b := by simp [varObjs]
theorem refToks_append (a b : List Ev) (x : Addr) : refToks (a ++ b) x = refToks a x ++ refToks b x := by simp [refToks]

theorem mem_refToks {evs : List Ev} {a : Addr} {t : Nat} : t ∈ refToks evs a ↔ Ev.ref a t ∈ evs := by
  simp only [refToks, List.mem_filterMap]
  constructor
  · rintro ⟨e, he, h⟩
    cases e <;> simp at h
    rename_i b u
    obtain ⟨rfl, rfl⟩ := h
    exact he
  · intro h
    exact ⟨_, h, by simp⟩

theorem tok_mem_evToks {evs : List Ev} {e : Ev} {t : Nat} (he : e ∈ evs) (ht : e.tok? = some t) : t ∈ evToks evs := by
  simp only [evToks, List.mem_filterMap]
  exact ⟨e, he, ht⟩

theorem eq_of_nodup_filterMap {α β : Type} {f : α → Option β} {l : List α} (h : (l.filterMap f).Nodup) {x y : α} {b : β}
    (hx : x ∈ l) (hy : y ∈ l) (fx : f x = some b) (fy : f y = some b) : x = y := by
  have hS := List.pairwise_filterMap.1 h
  exact List.Pairwise.forall_of_forall_of_flip (R := fun x y => f x = some b → f y = some b → x = y) (fun _ _ _ _ => rfl)
    (hS.imp fun h fx fy => absurd rfl (h b fx b fy)) (hS.imp fun h fy fx => absurd rfl (h b fx b fy)) hx hy fx fy

theorem refToks_sublist (evs : List Ev) (a : Addr) : (refToks evs a).Sublist (evToks evs) := by
  have : refToks evs a = (evs.filter fun e => match e with | .ref b _ => b = a | _ => false).filterMap Ev.tok? := by
    rw [List.filterMap_filter]
    unfold refToks
    congr 1
    funext e
    cases e <;> simp [Ev.tok?]
  rw [this]
  exact List.filter_sublist.filterMap _

theorem mem_declPairs {evs : List Ev} {a : Addr} {d : Decl} : (a, d) ∈ declPairs evs ↔ ∃ e ∈ evs, e.pair? = some (a, d) := by
  simp [declPairs, List.mem_filterMap]

/-- the declaration clang's address `a` stands for in the event sequence -/
def declAt (evs : List Ev) (a : Addr) : Option Decl := lookup (declPairs evs) a

theorem declAt_var {evs : List Ev} {a : Addr} {d o : Nat} (h : declAt evs a = some ⟨.var, d, o⟩) : Ev.varDecl a d o ∈ evs := by
  obtain ⟨e, he, hp⟩ := mem_declPairs.1 (lookup_mem h)
  cases e <;> simp [Ev.pair?] at hp
  obtain ⟨rfl, rfl, rfl⟩ := hp
  exact he

theorem declAt_snoc {done : List Ev} {e : Ev} {a : Addr} {dcl : Decl} (hp : e.pair? = some (a, dcl)) (b : Addr) :
    declAt (done ++ [e]) b = (declAt done b).or (if a = b then some dcl else none) := by
  simp [declAt, declPairs, hp, lookup_append]

theorem declAt_snoc_none {done : List Ev} {e : Ev} (hp : e.pair? = none) : declAt (done ++ [e]) = declAt done := by
  funext b; simp [declAt, declPairs, hp]

/-- the token of an event with the address it names -/
def Ev.look? : Ev → Option (Addr × Nat)
  | .varDecl a t _ | .funcDecl a t _ | .enumDecl a t _ | .ref a t => some (a, t)
  | _ => none

theorem look_tok {e : Ev} {a : Addr} {t : Nat} (h : e.look? = some (a, t)) : e.tok? = some t := by
  cases e <;> simp [Ev.look?] at h <;> simp [Ev.tok?, h]

theorem ref_of_look {done : List Ev} {e : Ev} (he : e ∈ done) {a : Addr} {t : Nat} (hl : e.look? = some (a, t))
    (hn : declAt done a = none) : e = Ev.ref a t := by
  have hno : ∀ dcl, e.pair? ≠ some (a, dcl) := fun dcl hp => by
    exact lookup_eq_none.1 hn (List.mem_map_of_mem (f := (·.1)) (mem_declPairs.2 ⟨e, he, hp⟩))
  cases e <;> simp [Ev.look?] at hl <;> obtain ⟨rfl, rfl⟩ := hl
  case ref => rfl
  all_goals exact absurd rfl (hno _)

/-- what a token that names `a` carries, a use as well as the declaration's own token -/
def linkOf (done : List Ev) (D : Data) (a : Addr) : Attr :=
  match declAt done a with
  | some d => d.mark D {}
  | none => {}

/-- the part of the invariant that speaks of the declared variables only -/
structure JDecl (done : List Ev) (D : Data) : Prop where
  vdef : ∀ a d o, Ev.varDecl a d o ∈ done → D.varDef o = d ∧ 1 ≤ (D.attrs d).varId ∧ (D.attrs d).varId ≤ D.varId
  inj : ∀ a d o a' d' o', Ev.varDecl a d o ∈ done → Ev.varDecl a' d' o' ∈ done → d ≠ d' → (D.attrs d).varId ≠ (D.attrs d').varId

/-- the invariant of the event loop; `pend`: `notFound` holds exactly the reference tokens of the addresses not declared yet -/
structure J (done : List Ev) (D : Data) : Prop extends JDecl done D where
  map : D.declMap = declPairs done
  pend : ∀ a, declAt done a = none → D.pending a = refToks done a
  untouched : ∀ u, u ∉ evToks done → D.attrs u = {}
  link : ∀ e ∈ done, ∀ a t, e.look? = some (a, t) → D.attrs t = linkOf done D a

theorem J_init : J [] {} :=
  ⟨⟨nofun, nofun⟩, rfl, fun _ _ => rfl, fun _ _ => rfl, nofun⟩

/-- a step that leaves the declared variables alone -/
structure Keeps (done : List Ev) (D D' : Data) : Prop where
  attrs : ∀ a d o, Ev.varDecl a d o ∈ done → D'.attrs d = D.attrs d
  varDef : ∀ o ∈ varObjs done, D'.varDef o = D.varDef o
  varId : D.varId ≤ D'.varId

theorem JDecl.frame {done : List Ev} {D D' : Data} (h : JDecl done D) (k : Keeps done D D') : JDecl done D' := by
  refine ⟨fun a d o he => ?_, fun a d o a' d' o' he he' hne => ?_⟩
  · rw [k.attrs a d o he, k.varDef o (List.mem_filterMap.2 ⟨_, he, rfl⟩)]
    obtain ⟨v1, v2, v3⟩ := h.vdef a d o he
    exact ⟨v1, v2, Nat.le_trans v3 k.varId⟩
  · rw [k.attrs a d o he, k.attrs a' d' o' he']; exact h.inj a d o a' d' o' he he' hne

theorem JDecl.snoc {done : List Ev} {D : Data} (h : JDecl done D) {e : Ev}
    (hnew : ∀ a d o, e = Ev.varDecl a d o → (D.varDef o = d ∧ 1 ≤ (D.attrs d).varId ∧ (D.attrs d).varId ≤ D.varId) ∧
      ∀ a' d' o', Ev.varDecl a' d' o' ∈ done → (D.attrs d').varId < (D.attrs d).varId) :
    JDecl (done ++ [e]) D := by
  have hmem : ∀ {a d o}, Ev.varDecl a d o ∈ done ++ [e] → Ev.varDecl a d o ∈ done ∨ e = Ev.varDecl a d o := by
    intro a d o hm; simpa [eq_comm] using hm
  refine ⟨fun a d o hm => ?_, fun a d o a' d' o' hm hm' hne => ?_⟩
  · rcases hmem hm with hm | hm
    · exact h.vdef a d o hm
    · exact (hnew a d o hm).1
  · rcases hmem hm with h1 | h1 <;> rcases hmem hm' with h2 | h2
    · exact h.inj _ _ _ _ _ _ h1 h2 hne
    · exact Nat.ne_of_lt ((hnew _ _ _ h2).2 _ _ _ h1)
    · exact Nat.ne_of_gt ((hnew _ _ _ h1).2 _ _ _ h2)
    · cases h1.symm.trans h2; exact absurd rfl hne

theorem mark_stable {done : List Ev} {D D' : Data} (hJ : JDecl done D) (k : Keeps done D D') {b : Addr} {d' : Decl}
    (hd : declAt done b = some d') : d'.mark D' = d'.mark D := by
  apply Decl.mark_congr
  intro hk
  obtain ⟨kd, t, o⟩ := d'
  obtain rfl : kd = .var := hk
  have he := declAt_var hd
  simp only [k.varDef o (List.mem_filterMap.2 ⟨_, he, rfl⟩), (hJ.vdef _ t o he).1, k.attrs _ t o he]

theorem linkOf_stable {done : List Ev} {D D' : Data} (hJ : JDecl done D) (k : Keeps done D D') (b : Addr) :
    linkOf done D' b = linkOf done D b := by
  unfold linkOf
  cases hd : declAt done b with
  | none => rfl
  | some d' => simp only [mark_stable hJ k hd]

/-- what is assumed of clang's dump: an address is declared once, every event has a token and every variable declaration an
    object of its own, and there is no `replaceVarDecl` -/
structure Hyp (evs : List Ev) : Prop where
  addrs : addrsUnique evs
  toks : toksFresh evs
  objs : objsFresh evs
  norep : evs.all (fun e => !isReplace e) = true

theorem Hyp.of_append {done rest : List Ev} (h : Hyp (done ++ rest)) : Hyp done := by
  have hs := List.sublist_append_left done rest
  exact ⟨h.addrs.sublist ((hs.filterMap _).map _), h.toks.sublist (hs.filterMap _), h.objs.sublist (hs.filterMap _),
    by have := h.norep; simp only [List.all_append, Bool.and_eq_true] at this; exact this.1⟩

theorem Hyp.prefix {done : List Ev} {e : Ev} (h : Hyp (done ++ [e])) : Hyp done := h.of_append

theorem not_mem_of_nodup_snoc {α β : Type} {f : α → Option β} {l : List α} {e : α} {y : β}
    (h : ((l ++ [e]).filterMap f).Nodup) (he : f e = some y) : y ∉ l.filterMap f := by
  rw [List.filterMap_append, List.filterMap_cons, he] at h
  exact fun hm => (List.nodup_append.1 h).2.2 y hm y (by simp) rfl

theorem Hyp.tok_fresh {done : List Ev} {e : Ev} (h : Hyp (done ++ [e])) {t : Nat} (ht : e.tok? = some t) : t ∉ evToks done :=
  not_mem_of_nodup_snoc h.toks ht

theorem Hyp.obj_fresh {done : List Ev} {a : Addr} {d o : Nat} (h : Hyp (done ++ [Ev.varDecl a d o])) : o ∉ varObjs done :=
  not_mem_of_nodup_snoc h.objs rfl

theorem Hyp.addr_fresh {done : List Ev} {e : Ev} (h : Hyp (done ++ [e])) {a : Addr} {d : Decl} (hp : e.pair? = some (a, d)) :
    lookup (declPairs done) a = none := by
  have := h.addrs
  rw [addrsUnique, declPairs, List.map_filterMap] at this
  apply lookup_eq_none.2
  rw [declPairs, List.map_filterMap]
  exact not_mem_of_nodup_snoc this (by simp [hp])

theorem J_step_ref {done : List Ev} {D : Data} (hJ : J done D) {a : Addr} {t : Nat} (h : Hyp (done ++ [Ev.ref a t])) :
    J (done ++ [Ev.ref a t]) (D.ref a t) := by
  have hR := ref_spec D a t
  have htf : t ∉ evToks done := h.tok_fresh rfl
  have hda : declAt (done ++ [Ev.ref a t]) = declAt done := declAt_snoc_none rfl
  have het : evToks (done ++ [Ev.ref a t]) = evToks done ++ [t] := by simp [evToks, Ev.tok?]
  have hrt : ∀ b, refToks (done ++ [Ev.ref a t]) b = refToks done b ++ (if a = b then [t] else []) := by
    intro b
    rw [refToks_append]
    congr 1
    by_cases hab : a = b <;> simp [refToks, hab]
  have hother : ∀ e ∈ done, ∀ u, e.tok? = some u → (D.ref a t).attrs u = D.attrs u :=
    fun e he u hu => hR.attrs u fun hh => htf (hh ▸ tok_mem_evToks he hu)
  have hk : Keeps done D (D.ref a t) := ⟨fun _ _ _ he => hother _ he _ rfl, fun _ _ => by rw [hR.varDef], Nat.le_of_eq hR.varId.symm⟩
  refine ⟨(hJ.toJDecl.frame hk).snoc nofun, by rw [hR.declMap, hJ.map]; simp [declPairs, Ev.pair?], ?_, ?_, ?_⟩
  · intro b hb
    rw [hda] at hb
    rw [hR.pend b (by rw [hJ.map]; exact hb), hrt b, hJ.pend b hb]
  · intro u hu
    rw [het] at hu
    simp only [List.mem_append, List.mem_singleton, not_or] at hu
    rw [hR.attrs u hu.2]
    exact hJ.untouched u hu.1
  · intro e he b u hl
    rw [linkOf, hda, ← linkOf, linkOf_stable hJ.toJDecl hk]
    rcases List.mem_append.1 he with he | he
    · rw [hother e he u (look_tok hl)]; exact hJ.link e he b u hl
    · cases List.mem_singleton.1 he
      cases hl
      rw [hR.own, hJ.map, hJ.untouched t htf]
      rfl

/-- what the three `…Decl` calls have in common before they resolve the pending uses -/
structure Registered (done : List Ev) (D D2 : Data) (a : Addr) (dcl : Decl) (d : Nat) : Prop where
  declMap : D2.declMap = emplace D.declMap a dcl
  notFound : D2.notFound = D.notFound
  attrs : ∀ u, u ≠ d → D2.attrs u = D.attrs u
  varId : D.varId ≤ D2.varId
  varDef : ∀ o' ∈ varObjs done, D2.varDef o' = D.varDef o'
  ownDef : dcl.kind = .var → D2.varDef dcl.obj = d
  own : D2.attrs d = dcl.mark D2 {}
  fresh : dcl.kind = .var → D.varId < (D2.attrs d).varId ∧ (D2.attrs d).varId ≤ D2.varId

theorem J_step_decl {done : List Ev} {D D2 : Data} (hJ : J done D) {e : Ev} (h : Hyp (done ++ [e])) {a : Addr} {dcl : Decl} {d : Nat}
    (hp : e.pair? = some (a, dcl)) (hl : e.look? = some (a, d)) (hR : Registered done D D2 a dcl d) :
    J (done ++ [e]) (D2.resolve a) := by
  have ht := look_tok hl
  have hnd : (evToks done).Nodup := h.prefix.toks
  have hdf : d ∉ evToks done := h.tok_fresh ht
  have haf : declAt done a = none := h.addr_fresh hp
  have hda := declAt_snoc (done := done) hp
  have het : evToks (done ++ [e]) = evToks done ++ [d] := by simp [evToks, ht]
  have hrt : ∀ b, refToks (done ++ [e]) b = refToks done b := by
    intro b
    rw [refToks_append]
    have : refToks [e] b = [] := by
      cases e <;> simp [Ev.pair?] at hp <;> simp [refToks]
    rw [this, List.append_nil]
  let l := refToks done a
  have hl_sub : ∀ u ∈ l, u ∈ evToks done := fun u hu => (refToks_sublist done a).subset hu
  have hdl : d ∉ l := fun hm => hdf (hl_sub d hm)
  have hmap2 : lookup D2.declMap a = some dcl := by
    rw [hR.declMap, emplace_of_none _ _ _ (by rw [hJ.map]; exact haf), lookup_append, hJ.map, show lookup _ a = none from haf]
    simp
  have hpend : D2.pending a = l := by rw [Data.pending, hR.notFound]; exact hJ.pend a haf
  have hdef : dcl.kind = .var → D2.varDef dcl.obj ∉ l := fun hk => by rw [hR.ownDef hk]; exact hdl
  have hRes := resolve_spec D2 a dcl l hmap2 hpend hdef ((refToks_sublist done a).nodup hnd)
  -- only `d` and the pending uses of `a` are written: no token that names another address
  have hattr_old : ∀ u, u ≠ d → u ∉ l → (D2.resolve a).attrs u = D.attrs u := by
    intro u h1 h2; rw [hRes.attrs u, if_neg h2]; exact hR.attrs u h1
  have hattr_other : ∀ e' ∈ done, ∀ b u, e'.look? = some (b, u) → b ≠ a → (D2.resolve a).attrs u = D.attrs u := by
    intro e' he' b u hl' hba
    refine hattr_old u (fun hh => hdf (hh ▸ tok_mem_evToks he' (look_tok hl'))) fun hm => ?_
    cases eq_of_nodup_filterMap hnd he' (mem_refToks.1 hm) (look_tok hl') rfl
    cases hl'
    exact hba rfl
  have hown : (D2.resolve a).attrs d = D2.attrs d := by rw [hRes.attrs d, if_neg hdl]
  have hne : ∀ b dd o, Ev.varDecl b dd o ∈ done → b ≠ a := fun b dd o he hba =>
    absurd (ref_of_look he (a := b) (t := dd) rfl (hba ▸ haf)) nofun
  have hkeep : Keeps done D (D2.resolve a) :=
    ⟨fun b dd o he => hattr_other _ he b dd rfl (hne b dd o he), fun o' ho' => by rw [hRes.varDef]; exact hR.varDef o' ho',
      by rw [hRes.varId]; exact hR.varId⟩
  have hm : dcl.mark (D2.resolve a) = dcl.mark D2 :=
    Decl.mark_congr _ _ _ (fun hk => by simp only [hRes.varDef, hR.ownDef hk, hown])
  have hnew : linkOf (done ++ [e]) (D2.resolve a) a = dcl.mark D2 {} := by
    simp [linkOf, hda, haf, hm]
  refine ⟨(hJ.toJDecl.frame hkeep).snoc fun b dd o he => ?_, ?_, ?_, ?_, ?_⟩
  · obtain ⟨rfl, hk, rfl⟩ : dd = d ∧ dcl.kind = .var ∧ dcl.obj = o := by subst he; cases hp; cases hl; exact ⟨rfl, rfl, rfl⟩
    rw [hown, hRes.varDef, hRes.varId]
    refine ⟨⟨hR.ownDef hk, Nat.lt_of_le_of_lt (Nat.zero_le _) (hR.fresh hk).1, (hR.fresh hk).2⟩, fun b' dd' o' he' => ?_⟩
    rw [hkeep.attrs b' dd' o' he']
    exact Nat.lt_of_le_of_lt (hJ.vdef b' dd' o' he').2.2 (hR.fresh hk).1
  · rw [hRes.declMap, hR.declMap, emplace_of_none _ _ _ (by rw [hJ.map]; exact haf), hJ.map]; simp [declPairs, hp]
  · intro b hb
    rw [hda] at hb
    have hab : a ≠ b := fun hab => by simp [hab] at hb
    have hob : declAt done b = none := by cases hd : declAt done b <;> simp [hd] at hb ⊢
    rw [hRes.pend b (Ne.symm hab), Data.pending, hR.notFound, hrt b]
    exact hJ.pend b hob
  · intro u hu
    rw [het] at hu
    simp only [List.mem_append, List.mem_singleton, not_or] at hu
    rw [hattr_old u hu.2 (fun hm => hu.1 (hl_sub u hm))]
    exact hJ.untouched u hu.1
  · intro e' he' b u hl'
    rcases List.mem_append.1 he' with he' | he'
    · by_cases hba : b = a
      · -- a use that waited for `a`
        subst hba
        cases ref_of_look he' hl' haf
        have hul : u ∈ l := mem_refToks.2 he'
        rw [hnew, hRes.attrs u, if_pos hul, hR.attrs u (fun hh => hdl (hh ▸ hul)), hJ.link _ he' b u rfl, linkOf, haf]
      · rw [hattr_other e' he' b u hl' hba, hJ.link e' he' b u hl', ← linkOf_stable hJ.toJDecl hkeep, linkOf, linkOf, hda]
        simp [Ne.symm hba]
    · cases List.mem_singleton.1 he'
      cases hl.symm.trans hl'
      rw [hnew, hown, hR.own]

theorem J_step_scopeDecl {done : List Ev} {D : Data} (hJ : J done D) {a : Addr} {o : Nat} (h : Hyp (done ++ [Ev.scopeDecl a o])) :
    J (done ++ [Ev.scopeDecl a o]) (D.scopeDecl a o) := by
  have haf : declAt done a = none := h.addr_fresh (d := ⟨.scope, 0, o⟩) rfl
  have hda := declAt_snoc (done := done) (e := Ev.scopeDecl a o) rfl
  have het : evToks (done ++ [Ev.scopeDecl a o]) = evToks done := by simp [evToks, Ev.tok?]
  have hrt : ∀ b, refToks (done ++ [Ev.scopeDecl a o]) b = refToks done b := by intro b; simp [refToks]
  have hk : Keeps done D (D.scopeDecl a o) := ⟨fun _ _ _ _ => rfl, fun _ _ => rfl, Nat.le_refl _⟩
  refine ⟨(hJ.toJDecl.frame hk).snoc nofun, ?_, ?_, ?_, ?_⟩
  · show emplace D.declMap a _ = _
    rw [hJ.map, emplace_of_none _ _ _ haf]; simp [declPairs, Ev.pair?]
  · intro b hb
    rw [hda] at hb
    rw [hrt b]
    exact hJ.pend b (by cases hd : declAt done b <;> simp [hd] at hb ⊢)
  · intro u hu; rw [het] at hu; exact hJ.untouched u hu
  · intro e he b u hl
    have he' : e ∈ done := (List.mem_append.1 he).resolve_right fun h' => by cases List.mem_singleton.1 h'; cases hl
    show D.attrs u = linkOf _ D b
    rw [hJ.link e he' b u hl, linkOf, linkOf, hda]
    by_cases hab : a = b
    · subst hab; simp [haf, Decl.mark]
    · simp [hab]

theorem runEvents_snoc (dt : Data) (done : List Ev) (e : Ev) : runEvents dt (done ++ [e]) = (runEvents dt done).step e := by
  simp [runEvents, List.foldl_append]

theorem J_step {done : List Ev} {D : Data} (hJ : J done D) (e : Ev) (h : Hyp (done ++ [e])) : J (done ++ [e]) (D.step e) := by
  cases e with
  | varDecl a d o =>
    have hd0 : D.attrs d = {} := hJ.untouched d (h.tok_fresh rfl)
    have hof := h.obj_fresh
    refine J_step_decl hJ h (dcl := ⟨.var, d, o⟩) rfl rfl
      { declMap := rfl, notFound := rfl, attrs := ?attrs, varId := ?varId, varDef := ?varDef, ownDef := ?ownDef, own := ?own, fresh := ?fresh }
    case attrs => intro u hu; simp [updAttr, hu]
    case varId => simp
    case varDef =>
      intro o' ho'
      have : o' ≠ o := fun hh => hof (hh ▸ ho')
      simp [this]
    case ownDef => intro _; simp
    case own => simp [Decl.mark, updAttr, hd0, Attr.setVarId, Attr.setVariable]
    case fresh => intro _; simp [updAttr, hd0, Attr.setVarId, Attr.setVariable]
  | funcDecl a d o =>
    have hd0 : D.attrs d = {} := hJ.untouched d (h.tok_fresh rfl)
    refine J_step_decl hJ h (dcl := ⟨.func, d, o⟩) rfl rfl
      { declMap := rfl, notFound := rfl, attrs := ?attrs, varId := Nat.le_refl _, varDef := fun _ _ => rfl, ownDef := nofun, own := ?own, fresh := nofun }
    case attrs => intro u hu; simp [updAttr, hu]
    case own => simp [Decl.mark, updAttr, hd0]
  | enumDecl a d o =>
    have hd0 : D.attrs d = {} := hJ.untouched d (h.tok_fresh rfl)
    refine J_step_decl hJ h (dcl := ⟨.enumr, d, o⟩) rfl rfl
      { declMap := rfl, notFound := rfl, attrs := ?attrs, varId := Nat.le_refl _, varDef := fun _ _ => rfl, ownDef := nofun, own := ?own, fresh := nofun }
    case attrs => intro u hu; simp [updAttr, hu]
    case own => simp [Decl.mark, updAttr, hd0]
  | scopeDecl a o => exact J_step_scopeDecl hJ h
  | ref a t => exact J_step_ref hJ h
  | replace f t =>
    have := h.norep
    simp [isReplace] at this

theorem J_extend : ∀ (rest done : List Ev), Hyp (done ++ rest) → J done (runEvents {} done) → J (done ++ rest) (runEvents {} (done ++ rest))
  | [], done, _, hJ => by simpa using hJ
  | e :: r, done, h, hJ => by
    have e1 : done ++ e :: r = (done ++ [e]) ++ r := by simp
    rw [e1] at h ⊢
    have hJ' := J_step hJ e h.of_append
    rw [← runEvents_snoc] at hJ'
    exact J_extend r (done ++ [e]) h hJ'

theorem J_run (evs : List Ev) (h : Hyp evs) : J evs (runEvents {} evs) := by
  have := J_extend evs [] (by simpa using h) J_init
  simpa using this

/-- a node that is its own ancestor has a parent that is its own ancestor too: the climb would never end -/
theorem acyclic_of_climbOut (s : AstStore.Store) : ∀ (f i : Nat), climbOut s.parent f i = true → ¬ AstStore.Anc s i i
  | 0, _, h, _ => by cases h
  | f + 1, i, h, ha => by
    obtain ⟨p, hp, hpa⟩ := ha.inv
    rw [climbOut, hp] at h
    refine acyclic_of_climbOut s f p h ?_
    rcases hpa with rfl | hpa
    · exact ha
    · exact (AstStore.Anc.base hp).trans hpa

theorem getO_lt {l : List (Option Nat)} {i v : Nat} (h : getO l i = some v) : i < l.length := by
  unfold getO at h
  cases hi : l[i]? with
  | none => simp [hi] at h
  | some x => exact (List.getElem?_eq_some_iff.1 hi).1

theorem toOp_viaOperands (o : SetOp) : o.toOp.viaOperands = true := by
  unfold SetOp.toOp; cases o.side <;> rfl

theorem runOps_eq_run : ∀ (ops : List AstStore.Op) (s s' : AstStore.Store), runOps s ops = .ok s' → s' = (AstStore.run s ops).1
  | [], s, s', h => by simp [runOps] at h; simp [AstStore.run, h]
  | o :: r, s, s', h => by
    simp only [runOps] at h
    simp only [AstStore.run]
    cases hs : AstStore.step s o with
    | mk s1 oc =>
      rw [hs] at h
      cases oc with
      | ok => simp only at h ⊢; exact runOps_eq_run r s1 s' h
      | throw => simp at h
      | hang => simp at h

/-- what `importDump` returns on success: the store is the result of running setter calls that all go through `astOperand1/2` -/
theorem importDump_ok {file0 text : Str} {im : Imported} (h : importDump file0 text = .ok im) :
    ∃ (ops : List SetOp), im.ops = ops.map SetOp.toOp ∧ runOps (AstStore.init im.toks.size) (ops.map SetOp.toOp) = .ok im.store := by
  unfold importDump at h
  split at h
  · cases h
  · rename_i st _
    split at h
    · cases h
    · split at h
      · cases h
      · rename_i store hrun
        cases h
        exact ⟨st.ops.toList, rfl, hrun⟩

/-! ### the map of the import (`initData`: odd tokens are not spelt like identifiers) against the map the theorems speak about (`{}`) -/

/-- the two attribute records of one token: same varId always, identical when the token is spelt like an identifier -/
structure AttrSim (t : Nat) (a a0 : Attr) : Prop where
  varId : a.varId = a0.varId
  name0 : a0.isName = true
  name : a.isName = (t % 2 == 0)
  same : a.isName = true → a = a0

structure Sim (D D0 : Data) : Prop where
  declMap : D.declMap = D0.declMap
  notFound : D.notFound = D0.notFound
  varId : D.varId = D0.varId
  varDef : D.varDef = D0.varDef
  attrs : ∀ t, AttrSim t (D.attrs t) (D0.attrs t)

theorem Sim.init : Sim initData {} := by
  refine ⟨rfl, rfl, rfl, rfl, fun t => ⟨rfl, rfl, rfl, ?_⟩⟩
  intro h
  simp only [initData] at h ⊢
  rw [h]

theorem AttrSim.setVarId {t : Nat} {a a0 : Attr} (h : AttrSim t a a0) (id : Nat) : AttrSim t (a.setVarId id) (a0.setVarId id) := by
  obtain ⟨h1, h2, h3, h4⟩ := h
  unfold Attr.setVarId
  rw [h1]
  by_cases hv : a0.varId = id
  · simp only [hv, if_true]; exact ⟨h1, h2, h3, h4⟩
  · simp only [hv, if_false]
    refine ⟨rfl, h2, h3, ?_⟩
    intro hn
    have := h4 hn
    subst this
    rfl

theorem AttrSim.setPtr {t : Nat} {a a0 : Attr} (h : AttrSim t a a0) (ty : TT) (p : Option Nat) :
    AttrSim t { a with ptr := p, ty := ty } { a0 with ptr := p, ty := ty } := by
  obtain ⟨h1, h2, h3, h4⟩ := h
  refine ⟨h1, h2, h3, ?_⟩
  intro hn
  have := h4 hn
  subst this
  rfl

theorem Sim.mark {D D0 : Data} (h : Sim D D0) (d : Decl) {t : Nat} {a a0 : Attr} (ha : AttrSim t a a0) :
    AttrSim t (d.mark D a) (d.mark D0 a0) := by
  unfold Decl.mark
  cases d.kind <;> simp only
  · rw [h.varDef, (h.attrs _).varId]; exact (ha.setPtr .variable (some d.obj)).setVarId _
  · exact ha.setPtr .function (some d.obj)
  · exact ha.setPtr .enumerator (some d.obj)
  · exact ha

theorem Sim.upd {D D0 : Data} (h : Sim D D0) (t : Nat) {g g0 : Attr → Attr}
    (hg : ∀ {a a0 : Attr}, AttrSim t a a0 → AttrSim t (g a) (g0 a0)) :
    Sim { D with attrs := updAttr D.attrs t g } { D0 with attrs := updAttr D0.attrs t g0 } := by
  refine ⟨h.declMap, h.notFound, h.varId, h.varDef, fun u => ?_⟩
  simp only [updAttr]
  by_cases hu : u = t
  · simp only [hu, if_true]; exact hg (h.attrs t)
  · simp only [hu, if_false]; exact h.attrs u

theorem Sim.ref {D D0 : Data} (h : Sim D D0) (a : Addr) (t : Nat) : Sim (D.ref a t) (D0.ref a t) := by
  unfold Data.ref
  rw [h.declMap]
  cases hl : lookup D0.declMap a with
  | some d => simp only [Decl.ref_eq]; exact h.upd t (h.mark d)
  | none =>
    simp only
    rw [h.notFound]
    cases lookup D0.notFound a with
    | some l => simp only; exact ⟨rfl, rfl, h.varId, h.varDef, h.attrs⟩
    | none => simp only; exact ⟨rfl, rfl, h.varId, h.varDef, h.attrs⟩

theorem Sim.foldRef (a : Addr) (l : List Nat) {D D0 : Data} (h : Sim D D0) :
    Sim (l.foldl (fun x t => x.ref a t) D) (l.foldl (fun x t => x.ref a t) D0) :=
  List.foldl_rel h fun t _ _ _ h => h.ref a t

theorem Sim.resolve {D D0 : Data} (h : Sim D D0) (a : Addr) : Sim (D.resolve a) (D0.resolve a) := by
  unfold Data.resolve
  rw [h.notFound]
  cases lookup D0.notFound a with
  | none => exact h
  | some l =>
    have hf := Sim.foldRef a l h
    exact ⟨hf.declMap, by simp only [hf.notFound], hf.varId, hf.varDef, hf.attrs⟩

theorem Sim.withMap {D D0 : Data} (h : Sim D D0) (f : List (Addr × Decl) → List (Addr × Decl)) :
    Sim { D with declMap := f D.declMap } { D0 with declMap := f D0.declMap } :=
  ⟨by simp only [h.declMap], h.notFound, h.varId, h.varDef, h.attrs⟩

theorem Sim.step {D D0 : Data} (h : Sim D D0) (e : Ev) : Sim (D.step e) (D0.step e) := by
  cases e with
  | varDecl a t o =>
    have h1 : Sim { D with declMap := emplace D.declMap a ⟨.var, t, o⟩, varId := D.varId + 1, varDef := fun x => if x = o then t else D.varDef x }
        { D0 with declMap := emplace D0.declMap a ⟨.var, t, o⟩, varId := D0.varId + 1, varDef := fun x => if x = o then t else D0.varDef x } :=
      ⟨by simp only [h.declMap], h.notFound, by simp only [h.varId], by simp only [h.varDef], h.attrs⟩
    exact (h1.upd t fun ha => by rw [h.varId]; exact (ha.setVarId _).setPtr .variable (some o)).resolve a
  | funcDecl a t o =>
    exact ((h.withMap (emplace · a ⟨.func, t, o⟩)).upd t fun ha => ha.setPtr .function (some o)).resolve a
  | enumDecl a t o =>
    exact ((h.withMap (emplace · a ⟨.enumr, t, o⟩)).upd t fun ha => ha.setPtr .enumerator (some o)).resolve a
  | scopeDecl a o => exact h.withMap (emplace · a ⟨.scope, 0, o⟩)
  | ref a t => exact h.ref a t
  | replace f t => exact ⟨by simp only [Data.step, Data.replaceVarDecl, h.declMap], h.notFound, h.varId, by simp only [Data.step, Data.replaceVarDecl, h.varDef], h.attrs⟩

theorem Sim.run (evs : List Ev) {D D0 : Data} (h : Sim D D0) : Sim (runEvents D evs) (runEvents D0 evs) :=
  List.foldl_rel h fun e _ _ _ h => h.step e

/-- the declaration map of a successful import is the result of running its logged events from `initData` -/
theorem importDump_data {file0 text : Str} {im : Imported} (h : importDump file0 text = .ok im) :
    im.rawAttrs = (runEvents initData im.events).attrs ∧ im.rawVarDef = (runEvents initData im.events).varDef := by
  unfold importDump at h
  split at h
  · cases h
  · rename_i st _
    split at h
    · cases h
    · split at h
      · cases h
      · cases h
        simp only
        rw [← st.log.ok]
        exact ⟨rfl, rfl⟩

end Cppcheck.ClangDeclMap
