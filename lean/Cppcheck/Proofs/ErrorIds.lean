import Cppcheck.Model.ErrorIds
/-
C28 — the Boolean walks over the sorted tables say something of every element (`walk_sound`, for `coveredBy` and `coveredOr`);
the reachability computed on bit sets (`reachBits`) only finds functions with a call path from a root.
-/
namespace Cppcheck.ErrorIds

theorem memb_iff (x : Nat) (l : List Nat) : memb x l = true ↔ x ∈ l := by
  induction l with
  | nil => simp [memb]
  | cons y ys ih =>
    simp only [memb, Bool.or_eq_true, Nat.beq_eq, List.mem_cons, ih]

theorem dropLt_subset (k : Nat) (l : List Nat) : dropLt k l ⊆ l := by
  induction l with
  | nil => exact fun _ => id
  | cons y ys ih =>
    rw [dropLt]
    split
    · exact fun _ h => List.mem_cons_of_mem _ (ih h)
    · exact fun _ => id

/-- for both walkers; no ordering hypothesis needed -/
theorem walk_sound {α : Type} {key : α → Nat} {skip : α → Bool} {w : List α → List Nat → Bool}
    (step : ∀ x xs ys, w (x :: xs) ys = true → (skip x = true ∨ key x ∈ ys) ∧ ∃ ys', ys' ⊆ ys ∧ w xs ys' = true) :
    ∀ (xs : List α) (ys : List Nat), w xs ys = true → ∀ x ∈ xs, skip x = true ∨ key x ∈ ys
  | [], _, _, _, hx => nomatch hx
  | a :: as, ys, h, x, hx => by
    obtain ⟨ha, ys', hsub, h'⟩ := step a as ys h
    rcases List.mem_cons.mp hx with rfl | hx'
    · exact ha
    · exact (walk_sound step as ys' h' x hx').imp_right (hsub ·)

theorem coveredBy_sound {α : Type} (key : α → Nat) (skip : α → Bool) :
    ∀ (xs : List α) (ys : List Nat), coveredBy key skip xs ys = true →
      ∀ x ∈ xs, skip x = true ∨ key x ∈ ys := by
  refine walk_sound fun a as ys h => ?_
  rw [coveredBy] at h
  have hsub := dropLt_subset (key a) ys
  split at h
  · exact ⟨Or.inl ‹_›, ys, fun _ => id, h⟩
  · split at h
    · cases h
    · rename_i y ys' hd
      rw [hd] at hsub
      rw [Bool.and_eq_true, Nat.beq_eq] at h
      exact ⟨Or.inr (h.1 ▸ hsub List.mem_cons_self), _, hsub, h.2⟩

/-- `coveredBy` asking `skip` only of the elements whose key is not found: where nearly every element is listed, the exemption
lists are hardly searched -/
def coveredOr {α : Type} (key : α → Nat) (skip : α → Bool) : List α → List Nat → Bool
  | [], _ => true
  | x :: xs, ys =>
    match dropLt (key x) ys with
    | [] => skip x && coveredOr key skip xs []
    | y :: ys' => (Nat.beq y (key x) || skip x) && coveredOr key skip xs (y :: ys')

theorem coveredOr_sound {α : Type} (key : α → Nat) (skip : α → Bool) :
    ∀ (xs : List α) (ys : List Nat), coveredOr key skip xs ys = true → ∀ x ∈ xs, skip x = true ∨ key x ∈ ys := by
  refine walk_sound fun a as ys h => ?_
  rw [coveredOr] at h
  have hsub := dropLt_subset (key a) ys
  split at h
  · rw [Bool.and_eq_true] at h
    exact ⟨Or.inl h.1, [], List.nil_subset _, h.2⟩
  · rename_i y ys' hd
    rw [hd] at hsub
    rw [Bool.and_eq_true, Bool.or_eq_true, Nat.beq_eq] at h
    exact ⟨h.1.symm.imp_right fun (hy : y = key a) => hy ▸ hsub List.mem_cons_self, _, hsub, h.2⟩

def AllReach (edges : List (Nat × Nat)) (roots : List Nat) (s : Nat) : Prop := ∀ f, s.testBit f = true → Reach edges roots f

theorem allReach_zero (edges : List (Nat × Nat)) (roots : List Nat) : AllReach edges roots 0 :=
  fun f hf => by rw [Nat.zero_testBit] at hf; cases hf

theorem AllReach.insert {edges : List (Nat × Nat)} {roots : List Nat} {s k : Nat} (hs : AllReach edges roots s)
    (hk : Reach edges roots k) : AllReach edges roots (s ||| (1 <<< k)) := by
  intro f hf
  rw [Nat.testBit_or, Nat.one_shiftLeft, Nat.testBit_two_pow, Bool.or_eq_true, decide_eq_true_eq] at hf
  rcases hf with hf | rfl
  · exact hs f hf
  · exact hk

theorem rootBits_sound (edges : List (Nat × Nat)) {roots : List Nat} : ∀ rs, rs ⊆ roots → AllReach edges roots (rootBits rs)
  | [], _ => allReach_zero edges roots
  | _ :: rs, h => (rootBits_sound edges rs fun _ hx => h (List.mem_cons_of_mem _ hx)).insert (.root (h List.mem_cons_self))

theorem stepBits_sound {edges : List (Nat × Nat)} {roots : List Nat} : ∀ (es : List (Nat × Nat)) (s : Nat), es ⊆ edges →
    AllReach edges roots s → AllReach edges roots (stepBits es s)
  | [], _, _, hs => hs
  | e :: es, s, hsub, hs => by
    have hes : es ⊆ edges := fun _ hx => hsub (List.mem_cons_of_mem _ hx)
    rw [stepBits]
    split
    · rename_i hc
      have hnew := hs.insert (.step (hs e.1 hc) (hsub List.mem_cons_self))
      -- `stepBits` matches on the new set (`0` / `n + 1`, to make the kernel reduce it to a numeral)
      split
      · exact stepBits_sound es 0 hes (allReach_zero edges roots)
      · rename_i hn
        exact stepBits_sound es _ hes (hn ▸ hnew : AllReach edges roots (Nat.succ _))
    · exact stepBits_sound es s hes hs

theorem reachBits_sound (edges : List (Nat × Nat)) (roots : List Nat) :
    ∀ (n f : Nat), (reachBits edges roots n).testBit f = true → Reach edges roots f
  | 0 => rootBits_sound edges roots fun _ => id
  | n + 1 => stepBits_sound edges _ (fun _ => id) (reachBits_sound edges roots n)

theorem mem_idsOfReached (reach : Nat) (es : List Emitter) (i : Nat) :
    i ∈ idsOfReached reach es ↔ ∃ e ∈ es, reach.testBit e.fn = true ∧ e.id = i := by
  simp [idsOfReached, List.mem_map, List.mem_filter, and_assoc]

end Cppcheck.ErrorIds
