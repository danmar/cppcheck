import Cppcheck.Model.Calc
/-
C01 — what `calculate` (lib/calculate.h) is measured against in Props/C01.lean: the ISO C semantics of the operators on
`long long` and its documented error conditions; then `carryImpossible` against the C semantics of the compound assignment.
-/
namespace Cppcheck.Calc
open Cppcheck.Trunc

/-- ISO C17 6.5.5–6.5.14 on operands of type `long long` (after conversion): `none` = undefined behaviour
    (overflow, division by zero, `LLONG_MIN / -1`, shift count out of range, left shift of a negative value or a
    left shift whose result is not representable) or implementation-defined (right shift of a negative value).
    The bit operators are defined on the object representation, i.e. on the 64-bit two's complement patterns. -/
def cSem (op : Op) (x y : Int) : Option Int :=
  match op with
  | .add => if inI64 (x + y) then some (x + y) else none
  | .sub => if inI64 (x - y) then some (x - y) else none
  | .cmp3 => if inI64 (x - y) then some (x - y) else none
  | .mul => if inI64 (x * y) then some (x * y) else none
  | .div => if y = 0 ∨ (x = minI64 ∧ y = -1) then none else some (Int.tdiv x y)
  | .mod => if y = 0 ∨ (x = minI64 ∧ y = -1) then none else some (Int.tmod x y)
  | .band => some (toI64 (toU64 x &&& toU64 y))
  | .bor => some (toI64 (toU64 x ||| toU64 y))
  | .bxor => some (toI64 (toU64 x ^^^ toU64 y))
  | .shl => if 0 ≤ y ∧ y < 64 ∧ 0 ≤ x ∧ inI64 (x * 2 ^ y.toNat) then some (x * 2 ^ y.toNat) else none
  | .shr => if 0 ≤ y ∧ y < 64 ∧ 0 ≤ x then some (x / 2 ^ y.toNat) else none
  | .gt => some (b2i (decide (x > y)))
  | .lt => some (b2i (decide (x < y)))
  | .ge => some (b2i (decide (x ≥ y)))
  | .le => some (b2i (decide (x ≤ y)))
  | .eq => some (b2i (decide (x = y)))
  | .ne => some (b2i (decide (x ≠ y)))
  | .land => some (b2i (decide (x ≠ 0 ∧ y ≠ 0)))
  | .lor => some (b2i (decide (x ≠ 0 ∨ y ≠ 0)))

/-- the `error` conditions of `calculate` -/
def calcErr (op : Op) (x y : Int) : Prop :=
  match op with
  | .div | .mod => y ≤ 0
  | .shl | .shr => y ≥ 63 ∨ y < 0 ∨ x < 0
  | _ => False

instance (op : Op) (x y : Int) : Decidable (calcErr op x y) := by
  unfold calcErr; cases op <;> exact inferInstance

theorem wrap64_of_in (v : Int) (h : inI64 v) : wrap64 v = v := by
  unfold inI64 minI64 maxI64 at h
  unfold wrap64
  apply Int.bmod_eq_of_le <;> omega

/-! ## Impossible values through compound assignments -/

/-- bound of an Impossible value -/
inductive IBound | point | upper | lower
  deriving DecidableEq, Repr

/-- what an Impossible value `v` with bound `b` says about the variable's value `x` (`upper`: `x ≤ v` is impossible) -/
def impHolds (b : IBound) (v x : Int) : Prop :=
  match b with
  | .point => x ≠ v
  | .upper => v < x
  | .lower => x < v

instance (b : IBound) (v x : Int) : Decidable (impHolds b v x) := by unfold impHolds; cases b <;> exact inferInstance

/-- the value of `x` after the statement (C semantics on a type at least as wide as `int`, no overflow: otherwise the execution
    has undefined behaviour and is outside the property).  `carryOps` has no `/=`: that arm serves
    `carry_div_counterexample` of Props/C01.lean. -/
def assignSem (op : String) (k x : Int) : Int :=
  match op with
  | "+=" => x + k | "-=" => x - k | "*=" => x * k | "/=" => Int.tdiv x k | "++" => x + 1 | "--" => x - 1 | _ => x

/-- `x ↦ x op k` is strictly increasing for `+= -= ++ --` and for `*=` with `k > 0` -/
theorem impHolds_map {f : Int → Int} (hf : ∀ x y, x < y → f x < f y) (b : IBound) {v x : Int} (h : impHolds b v x) :
    impHolds b (f v) (f x) := by
  cases b <;> simp only [impHolds] at h ⊢
  · intro e
    rcases Int.lt_or_gt_of_ne h with h | h <;> have := hf _ _ h <;> omega
  · exact hf _ _ h
  · exact hf _ _ h

theorem carryImpossible_none {op : String} (h : carryOps.contains op = false) (k v : Int) : carryImpossible op k v = none := by
  unfold carryImpossible
  rw [h]
  rfl

theorem carryImpossible_eq {op : String} {k v v' : Int} (hc : carryImpossible op k v = some v') (hin : inI64 (assignSem op k v)) :
    v' = assignSem op k v := by
  unfold carryImpossible at hc
  split at hc
  · split at hc
    case h_6 => cases hc
    all_goals
      simp only [calculate, Option.some.injEq] at hc
      simp only [assignSem] at hin ⊢
      rw [wrap64_of_in _ hin] at hc
      exact hc.symm
  · cases hc

end Cppcheck.Calc
