import Cppcheck.Proofs.CtuXml
/-
C22 — per summary kind: (1) the writer's text renders a known element, (2) the reader maps that element back.  Every kind's
attribute list is `names.zip vals` with literal names; `NamesOK names`, decided once per kind, serves the lexer
(`attrsOK_zip`) and the reader (`attrStr_zip`), so no proof compares attribute names.
-/
namespace Cppcheck.Ctu
open Cppcheck.Wire

def NamesOK (names : List Str) : Bool := names.all (fun n => IsName n && !(n.contains NUL)) && decide names.Nodup

theorem zip_find_none (names : List Str) (vals : List Str) (n : Str) (h : n ∉ names) :
    (names.zip vals).find? (fun b => b.1 == n) = none :=
  List.find?_eq_none.mpr fun x hx hp => h (eq_of_beq hp ▸ (List.of_mem_zip (a := x.1) (b := x.2) hx).1)

theorem zip_find {names vals : List Str} (hd : names.Nodup) {i : Nat} {k v : Str}
    (hk : names[i]? = some k) (hv : vals[i]? = some v) :
    (names.zip vals).find? (fun a => a.1 == k) = some (k, v) := by
  obtain ⟨hi, rfl⟩ := List.getElem?_eq_some_iff.mp hk
  obtain ⟨hi', rfl⟩ := List.getElem?_eq_some_iff.mp hv
  rw [List.find?_eq_some_iff_getElem]
  refine ⟨by simp, i, by simp [List.length_zip]; omega, by simp, fun j hj => ?_⟩
  simp only [List.getElem_zip, Bool.not_eq_eq_eq_not, Bool.not_true, beq_eq_false_iff_ne, ne_eq]
  exact fun e => absurd ((List.getElem_inj hd).mp e) (by omega)

theorem attrsOK_zip (names vals : List Str) (hn : NamesOK names = true) (hv : ∀ v ∈ vals, Clean v) : AttrsOK (names.zip vals) = true := by
  simp only [NamesOK, Bool.and_eq_true, decide_eq_true_eq, List.all_eq_true, Bool.not_eq_true'] at hn
  simp only [AttrsOK, AttrsWF, Bool.and_eq_true, decide_eq_true_eq, List.all_eq_true, Bool.not_eq_true']
  refine ⟨⟨fun a ha => ?_, ?_⟩, fun a ha => ?_⟩
  · have hm := List.of_mem_zip (a := a.1) (b := a.2) ha
    exact ⟨(hn.1 a.1 hm.1).1, by simpa using (hv a.2 hm.2).1⟩
  · rw [List.zip_eq_zip_take_min, List.map_fst_zip (by simp)]
    exact hn.2.sublist (List.take_sublist _ _)
  · have hm := List.of_mem_zip (a := a.1) (b := a.2) ha
    exact ⟨(hn.1 a.1 hm.1).2, by simpa using (hv a.2 hm.2).2⟩

theorem attrStr_zip {names vals : List Str} (hd : NamesOK names = true) (n : Str) (kids : List Elem) (i : Nat)
    {key : String} {v : Str} (hk : names[i]? = some key.toList) (hv : vals[i]? = some v) :
    attrStr (.mk n (names.zip vals) kids) key = some (attrDecode v) := by
  simp only [NamesOK, Bool.and_eq_true, decide_eq_true_eq] at hd
  simp only [attrStr, findAttr, Elem.attrs, zip_find hd.2 hk hv, Option.map_some]

theorem attrStr_zip_none {names vals : List Str} (n : Str) (kids : List Elem) {key : String}
    (h : key.toList ∉ names) : attrStr (.mk n (names.zip vals) kids) key = none := by
  simp only [attrStr, findAttr, Elem.attrs, zip_find_none names vals _ h, Option.map_none]

/- The `Ok` predicates: every number fits its C++ type; a string written through `toxml` is XML-safe, one written raw is raw-safe. -/

def Loc.Ok (l : Loc) : Bool := XmlSafe l.file && inS 32 l.line && inS 32 l.col

def PathLoc.Ok (simp : Str → Str) (p : PathLoc) : Bool :=
  decide (simp p.file = p.file) && XmlSafe p.file && XmlSafe p.info && inS 32 p.line && inU 32 p.col

def FunctionCall.Ok (simp : Str → Str) (c : FunctionCall) : Bool :=
  RawSafe c.callId && XmlSafe c.callFunctionName && inS 32 c.callArgNr && c.loc.Ok && XmlSafe c.argExpr
    && inU 8 c.valueType && inS 64 c.argValue && inU 8 c.ufr && c.path.all (PathLoc.Ok simp)

def NestedCall.Ok (c : NestedCall) : Bool :=
  RawSafe c.callId && XmlSafe c.callFunctionName && inS 32 c.callArgNr && c.loc.Ok && RawSafe c.myId && inS 32 c.myArgNr

def UnsafeUsage.Ok (u : UnsafeUsage) : Bool :=
  RawSafe u.myId && inS 32 u.myArgNr && RawSafe u.myArgName && u.loc.Ok && inS 64 u.value

def FileInfo.Ok (simp : Str → Str) (fi : FileInfo) : Bool :=
  fi.functionCalls.all (FunctionCall.Ok simp) && fi.nestedCalls.all NestedCall.Ok

def ClassDef.Ok (c : ClassDef) : Bool :=
  XmlSafe c.className && XmlSafe c.fileName && XmlSafe c.configuration && inS 32 c.line && inS 32 c.col && inU 64 (c.hash : Int)

theorem clean_true : Clean "true".toList := by constructor <;> decide

theorem rdI_showInt (e : Elem) (n : String) (i : Int) (h : attrStr e n = some (attrDecode (showInt i))) (hr : inS 64 i = true) :
    rdI e n = (i, false) := by
  simp only [rdI, h, attrDecode_showInt, scanInt64_showInt' i hr]

theorem rdS_some (e : Elem) (n : String) (v : Str) (err : Bool) (h : attrStr e n = some v) : rdS e n err = (v, err) := by
  unfold rdS; rw [h]

theorem inS32_64 (i : Int) (h : inS 32 i = true) : inS 64 i = true := by
  simp only [inS, Bool.and_eq_true, decide_eq_true_eq] at h ⊢
  simp only [Int.reducePow, Nat.reduceSub] at h ⊢
  omega

theorem inU8_64 (i : Int) (h : inU 8 i = true) : inS 64 i = true := by
  simp only [inS, inU, Bool.and_eq_true, decide_eq_true_eq] at h ⊢
  simp only [Int.reducePow, Nat.reduceSub] at h ⊢
  omega

theorem inU32_64 (i : Int) (h : inU 32 i = true) : inS 64 i = true := by
  simp only [inS, inU, Bool.and_eq_true, decide_eq_true_eq] at h ⊢
  simp only [Int.reducePow, Nat.reduceSub] at h ⊢
  omega

theorem decode_safe (s : Str) (h : XmlSafe s = true) : attrDecode (toxml s) = s := by
  rw [attrDecode_toxml', lossy_of_safe s h]

def callNames : List Str :=
  ["call-id".toList, "call-funcname".toList, "call-argnr".toList, "file".toList, "line".toList, "col".toList]

def callVals (callId fname : Str) (argnr : Int) (loc : Loc) : List Str :=
  [callId, toxml fname, showInt argnr, toxml loc.file, showInt loc.line, showInt loc.col]

theorem baseXml_render (callId fname : Str) (argnr : Int) (loc : Loc) :
    baseXml callId fname argnr loc = renderAttrs (callNames.zip (callVals callId fname argnr loc)) := by
  simp only [baseXml, callNames, callVals, List.zip_cons_cons, List.zip_nil_right, attr_render, ← renderAttrs_append,
    List.cons_append, List.nil_append]

theorem callVals_clean {callId fname : Str} (argnr : Int) (loc : Loc) (h : RawSafe callId = true) :
    ∀ v ∈ callVals callId fname argnr loc, Clean v := by
  simp only [callVals, List.mem_cons, List.mem_nil_iff, or_false, forall_eq_or_imp, forall_eq]
  exact ⟨clean_raw _ h, clean_toxml _, clean_int _, clean_toxml _, clean_int _, clean_int _⟩

theorem loadBase_written (e : Elem) {callId fname : Str} {argnr : Int} {loc : Loc}
    (a1 : attrStr e "call-id" = some (attrDecode callId)) (a2 : attrStr e "call-funcname" = some (attrDecode (toxml fname)))
    (a3 : attrStr e "call-argnr" = some (attrDecode (showInt argnr))) (a4 : attrStr e "file" = some (attrDecode (toxml loc.file)))
    (a5 : attrStr e "line" = some (attrDecode (showInt loc.line))) (a6 : attrStr e "col" = some (attrDecode (showInt loc.col)))
    (hid : RawSafe callId = true) (hfn : XmlSafe fname = true) (han : inS 32 argnr = true) (hloc : loc.Ok = true) :
    loadBase e = ((callId, fname, argnr, loc), true) := by
  simp only [Loc.Ok, Bool.and_eq_true] at hloc
  obtain ⟨⟨hlf, hll⟩, hlc⟩ := hloc
  simp only [loadBase, rdS_some _ _ _ _ a1, rdS_some _ _ _ _ a2, rdI_showInt _ _ _ a3 (inS32_64 _ han), rdS_some _ _ _ _ a4,
    rdI_showInt _ _ _ a5 (inS32_64 _ hll), rdI_showInt _ _ _ a6 (inS32_64 _ hlc),
    attrDecode_rawSafe _ hid, decode_safe _ hfn, decode_safe _ hlf, wrapS_id 32 (by decide) _ han,
    wrapS_id 32 (by decide) _ hll, wrapS_id 32 (by decide) _ hlc, Bool.not_false]

def pathNames : List Str := ["file".toList, "line".toList, "col".toList, "info".toList]

def pathVals (simp : Str → Str) (p : PathLoc) : List Str :=
  [toxml (simp p.file), showInt p.line, showInt p.col, toxml p.info]

def pathElem (simp : Str → Str) (p : PathLoc) : Elem := .mk "path".toList (pathNames.zip (pathVals simp p)) []

theorem pathNames_ok : NamesOK pathNames = true := by decide +kernel

theorem path_renders (simp : Str → Str) (p : PathLoc) : Renders 0 (p.toXml simp) [pathElem simp p] := by
  have e : p.toXml simp
      = "  ".toList ++ headText "path".toList (pathNames.zip (pathVals simp p)) ++ '/' :: '>' :: "\n".toList := by
    unfold PathLoc.toXml headText
    rw [show "  <path".toList = "  ".toList ++ '<' :: "path".toList by simp, show "/>\n".toList = '/' :: '>' :: "\n".toList by simp]
    simp only [pathNames, pathVals, List.zip_cons_cons, List.zip_nil_right, attr_render, ← renderAttrs_append, List.append_assoc,
      List.cons_append, List.nil_append]
  rw [e]
  refine renders_closed 0 _ (by decide +kernel) (by decide) (attrsOK_zip _ _ pathNames_ok ?_)
  simp only [pathVals, List.mem_cons, List.mem_nil_iff, or_false, forall_eq_or_imp, forall_eq]
  exact ⟨clean_toxml _, clean_int _, clean_int _, clean_toxml _⟩

theorem loadPaths_pathElems (simp : Str → Str) : ∀ (ps : List PathLoc) (acc : List PathLoc), ps.all (PathLoc.Ok simp) = true →
    loadPaths (ps.map (pathElem simp)) acc = (acc ++ ps, false) := by
  intro ps
  induction ps with
  | nil => intro acc _; simp [loadPaths]
  | cons p r ih =>
    intro acc h
    simp only [List.all_cons, Bool.and_eq_true] at h
    obtain ⟨hp, hr⟩ := h
    simp only [PathLoc.Ok, Bool.and_eq_true, decide_eq_true_eq] at hp
    obtain ⟨⟨⟨⟨hsimp, hf⟩, hi⟩, hl⟩, hc⟩ := hp
    -- `rd i`: what the reader finds under the `i`-th name
    have rd : ∀ (i : Nat) {key : String} {v : Str}, pathNames[i]? = some key.toList → (pathVals simp p)[i]? = some v →
        attrStr (pathElem simp p) key = some (attrDecode v) := attrStr_zip pathNames_ok _ _
    have hn : (pathElem simp p).name = "path".toList := rfl
    -- the reader unfolded: one rewrite per attribute it asks for, then what decoding and the casts make of the values
    simp only [List.map_cons, loadPaths, hn, ne_eq, not_true_eq_false, if_false,
      rdS_some _ _ _ _ (rd 0 rfl rfl), rdS_some _ _ _ _ (rd 3 rfl rfl), rdI_showInt _ _ _ (rd 1 rfl rfl) (inS32_64 _ hl),
      rdI_showInt _ _ _ (rd 2 rfl rfl) (inU32_64 _ hc),
      Bool.false_eq_true, ih _ hr, hsimp, decode_safe _ hf, decode_safe _ hi, wrapS_id 32 (by decide) _ hl, wrapU_wrapS_32 _ hc,
      List.append_assoc, List.singleton_append]

/-- `simplifyPath` enters the written text only through the file names of the value paths -/
def FunctionCall.simpPath (simp : Str → Str) (c : FunctionCall) : FunctionCall :=
  { c with path := c.path.map fun p => { p with file := simp p.file } }

theorem pathsXml_simpPath (simp : Str → Str) (ps : List PathLoc) :
    pathsXml simp ps = pathsXml id (ps.map fun p => { p with file := simp p.file }) := by
  induction ps with
  | nil => rfl
  | cons p r ih =>
    rw [List.map_cons, pathsXml, pathsXml, ih]
    rfl

theorem functionCallsStr_simpPath (simp : Str → Str) (l : List FunctionCall) :
    functionCallsStr simp l = functionCallsStr id (l.map (FunctionCall.simpPath simp)) := by
  induction l with
  | nil => rfl
  | cons c r ih =>
    rw [List.map_cons, functionCallsStr, functionCallsStr, ih]
    unfold FunctionCall.toXml FunctionCall.simpPath
    simp only [pathsXml_simpPath simp c.path, List.map_eq_nil_iff]

def fcNames (warning : Bool) : List Str :=
  callNames ++ ["call-argexpr".toList, "call-argvaluetype".toList, "call-argvalue".toList, "call-argvalue-ufr".toList]
    ++ (if warning then ["warning".toList] else [])

def fcVals (c : FunctionCall) : List Str :=
  callVals c.callId c.callFunctionName c.callArgNr c.loc
    ++ [toxml c.argExpr, showInt c.valueType, showInt c.argValue, showInt c.ufr]
    ++ (if c.warning then ["true".toList] else [])

def fcAttrs (c : FunctionCall) : List (Str × Str) := (fcNames c.warning).zip (fcVals c)

def fcElem (simp : Str → Str) (c : FunctionCall) : Elem :=
  .mk "function-call".toList (fcAttrs c) (c.path.map (pathElem simp))

theorem fcNames_ok : ∀ w, NamesOK (fcNames w) = true := by decide +kernel

theorem fcAttrs_ok (c : FunctionCall) (h : RawSafe c.callId = true) : AttrsOK (fcAttrs c) = true := by
  refine attrsOK_zip _ _ (fcNames_ok _) (List.forall_mem_append.2 ⟨List.forall_mem_append.2 ⟨callVals_clean _ _ h, ?_⟩, ?_⟩)
  · simp only [List.mem_cons, List.mem_nil_iff, or_false, forall_eq_or_imp, forall_eq]
    exact ⟨clean_toxml _, clean_int _, clean_int _, clean_int _⟩
  · cases c.warning
    · simp
    · simpa using clean_true

theorem fc_head (c : FunctionCall) :
    "<function-call".toList ++ baseXml c.callId c.callFunctionName c.callArgNr c.loc
      ++ attr "call-argexpr" (toxml c.argExpr) ++ attr "call-argvaluetype" (showInt c.valueType)
      ++ attr "call-argvalue" (showInt c.argValue) ++ attr "call-argvalue-ufr" (showInt c.ufr)
      ++ (if c.warning then attr "warning" "true".toList else [])
    = headText "function-call".toList (fcAttrs c) := by
  have hw : (if c.warning then attr "warning" "true".toList else [])
      = renderAttrs ((if c.warning then ["warning".toList] else []).zip (if c.warning then ["true".toList] else [])) := by
    cases c.warning <;> simp [attr_render, renderAttrs]
  unfold headText fcAttrs fcNames fcVals
  rw [hw, show "<function-call".toList = '<' :: "function-call".toList by simp, baseXml_render,
    List.zip_append (by rfl), List.zip_append (by rfl)]
  simp only [List.zip_cons_cons, List.zip_nil_right, attr_render, ← renderAttrs_append, List.append_assoc, List.cons_append,
    List.nil_append]

-- the right-hand sides have the shape of `renders_closed` / `renders_wrap` at `ws := []`, hence the `[] ++ …` and `… :: []`
theorem fc_text (simp : Str → Str) (c : FunctionCall) :
    c.toXml simp = if c.path = [] then [] ++ headText "function-call".toList (fcAttrs c) ++ '/' :: '>' :: []
      else [] ++ headText "function-call".toList (fcAttrs c) ++ '>' :: ("\n".toList ++ pathsXml simp c.path ++ [] ++ '<' :: '/' :: ("function-call".toList ++ '>' :: [])) := by
  unfold FunctionCall.toXml
  rw [fc_head]
  split
  · rfl
  · rw [show ">\n".toList = '>' :: "\n".toList by simp, show "</function-call>".toList = '<' :: '/' :: ("function-call".toList ++ ['>']) by simp]
    simp only [List.append_assoc, List.cons_append, List.nil_append, List.append_nil]

theorem fc_renders (simp : Str → Str) (c : FunctionCall) (h : RawSafe c.callId = true) : Renders 1 (c.toXml simp) [fcElem simp c] := by
  rw [fc_text]
  split
  · rename_i hp
    have := renders_closed 1 (ws := []) (name := "function-call".toList) (ws2 := []) (fcAttrs c) (by decide +kernel) (by decide) (fcAttrs_ok c h)
    simpa [fcElem, hp] using this
  · exact renders_wrap (ws := []) (ws1 := "\n".toList) (ws2 := []) (ws3 := []) (fcAttrs c) (by decide +kernel) (by decide) (by decide)
      (by decide) (fcAttrs_ok c h) (renders_list rfl (fun _ _ => rfl) c.path fun p _ => path_renders simp p)

theorem fc_load (simp : Str → Str) (c : FunctionCall) (h : FunctionCall.Ok simp c = true) :
    FunctionCall.load (fcElem simp c) = some c := by
  simp only [FunctionCall.Ok, Bool.and_eq_true] at h
  obtain ⟨⟨⟨⟨⟨⟨⟨⟨hid, hfn⟩, han⟩, hloc⟩, hae⟩, hvt⟩, hval⟩, hufr⟩, hpath⟩ := h
  have rd : ∀ (i : Nat) {key : String} {v : Str}, (fcNames c.warning)[i]? = some key.toList → (fcVals c)[i]? = some v →
      attrStr (fcElem simp c) key = some (attrDecode v) := attrStr_zip (fcNames_ok _) _ _
  have hbase := loadBase_written (fcElem simp c) (rd 0 rfl rfl) (rd 1 rfl rfl) (rd 2 rfl rfl) (rd 3 rfl rfl) (rd 4 rfl rfl)
    (rd 5 rfl rfl) hid hfn han hloc
  have hw : (attrStr (fcElem simp c) "warning" == some "true".toList) = c.warning := by
    cases hcw : c.warning
    · have : attrStr (fcElem simp c) "warning" = none := by
        unfold fcElem fcAttrs
        rw [hcw]
        exact attrStr_zip_none _ _ (by decide +kernel)
      rw [this]; rfl
    · -- index 10: behind the six `callNames` and the four attributes of the argument value
      have : (fcNames c.warning)[10]? = some "warning".toList ∧ (fcVals c)[10]? = some "true".toList := by
        rw [hcw]; exact ⟨rfl, by simp [fcVals, callVals, hcw]⟩
      rw [rd 10 this.1 this.2, show attrDecode "true".toList = "true".toList by decide]
      rfl
  have hu : 0 ≤ c.ufr ∧ c.ufr ≤ 255 := by
    simp only [inU, Bool.and_eq_true, decide_eq_true_eq, Int.reducePow] at hufr
    omega
  have hk : (fcElem simp c).kids = c.path.map (pathElem simp) := rfl
  simp only [FunctionCall.load, hbase, Bool.not_true, Bool.false_eq_true, if_false,
    rdS_some _ _ _ _ (rd 6 rfl rfl), rdI_showInt _ _ _ (rd 7 rfl rfl) (inU8_64 _ hvt), rdI_showInt _ _ _ (rd 8 rfl rfl) hval,
    rdI_showInt _ _ _ (rd 9 rfl rfl) (inU8_64 _ hufr),
    hk, loadPaths_pathElems simp c.path [] hpath, List.nil_append, hw, decode_safe _ hae, wrapU_id 8 _ hvt, hu, and_self, if_true]

def ncNames : List Str := callNames ++ ["my-id".toList, "my-argnr".toList]

def ncVals (c : NestedCall) : List Str :=
  callVals c.callId c.callFunctionName c.callArgNr c.loc ++ [c.myId, showInt c.myArgNr]

def ncElem (tag : String) (c : NestedCall) : Elem := .mk tag.toList (ncNames.zip (ncVals c)) []

theorem ncNames_ok : NamesOK ncNames = true := by decide +kernel

theorem nc_renders (tag : String) (htag : TagOK [] tag.toList = true) (c : NestedCall)
    (h1 : RawSafe c.callId = true) (h2 : RawSafe c.myId = true) : Renders 0 (c.toXmlWith tag ++ "\n".toList) [ncElem tag c] := by
  have e : c.toXmlWith tag ++ "\n".toList = [] ++ headText tag.toList (ncNames.zip (ncVals c)) ++ '/' :: '>' :: "\n".toList := by
    unfold NestedCall.toXmlWith headText ncNames ncVals
    rw [show "/>".toList = ['/', '>'] by simp, baseXml_render, List.zip_append (by rfl)]
    simp only [List.zip_cons_cons, List.zip_nil_right, attr_render, ← renderAttrs_append, List.append_assoc, List.cons_append,
      List.nil_append]
  rw [e]
  refine renders_closed 0 _ htag (by decide) (attrsOK_zip _ _ ncNames_ok (List.forall_mem_append.2 ⟨callVals_clean _ _ h1, ?_⟩))
  simp only [List.mem_cons, List.mem_nil_iff, or_false, forall_eq_or_imp, forall_eq]
  exact ⟨clean_raw _ h2, clean_int _⟩

theorem nestedCalls_renders (tag : String) (htag : TagOK [] tag.toList = true) (l : List NestedCall)
    (h : ∀ c ∈ l, RawSafe c.callId = true ∧ RawSafe c.myId = true) :
    Renders 0 (nestedCallsStrWith tag l) (l.map (ncElem tag)) :=
  renders_list (text := fun c => c.toXmlWith tag ++ "\n".toList) rfl (fun _ _ => by simp [nestedCallsStrWith]) l
    fun c hc => nc_renders tag htag c (h c hc).1 (h c hc).2

theorem nc_loadBase (tag : String) (c : NestedCall) (hid : RawSafe c.callId = true) (hfn : XmlSafe c.callFunctionName = true)
    (han : inS 32 c.callArgNr = true) (hloc : c.loc.Ok = true) :
    loadBase (ncElem tag c) = ((c.callId, c.callFunctionName, c.callArgNr, c.loc), true) := by
  have rd : ∀ (i : Nat) {key : String} {v : Str}, ncNames[i]? = some key.toList → (ncVals c)[i]? = some v →
      attrStr (ncElem tag c) key = some (attrDecode v) := attrStr_zip ncNames_ok _ _
  exact loadBase_written _ (rd 0 rfl rfl) (rd 1 rfl rfl) (rd 2 rfl rfl) (rd 3 rfl rfl) (rd 4 rfl rfl) (rd 5 rfl rfl) hid hfn han hloc

theorem nc_load (tag : String) (c : NestedCall) (h : NestedCall.Ok c = true) : NestedCall.load (ncElem tag c) = some c := by
  simp only [NestedCall.Ok, Bool.and_eq_true] at h
  obtain ⟨⟨⟨⟨⟨hid, hfn⟩, han⟩, hloc⟩, hmy⟩, hma⟩ := h
  have rd : ∀ (i : Nat) {key : String} {v : Str}, ncNames[i]? = some key.toList → (ncVals c)[i]? = some v →
      attrStr (ncElem tag c) key = some (attrDecode v) := attrStr_zip ncNames_ok _ _
  simp only [NestedCall.load, nc_loadBase tag c hid hfn han hloc, Bool.not_true, Bool.false_eq_true, if_false,
    rdS_some _ _ _ _ (rd 6 rfl rfl), rdI_showInt _ _ _ (rd 7 rfl rfl) (inS32_64 _ hma), attrDecode_rawSafe _ hmy,
    wrapS_id 32 (by decide) _ hma]

/-- before the fix: a nested call written as `<function-call …>` is rejected by `FunctionCall::loadFromXml`,
    whatever its content: it has no `call-argvalue-ufr` -/
theorem fc_load_of_nested (c : NestedCall) : FunctionCall.load (ncElem "function-call" c) = none := by
  have b : rdI (ncElem "function-call" c) "call-argvalue-ufr" = (0, true) := by
    unfold rdI
    rw [show attrStr (ncElem "function-call" c) "call-argvalue-ufr" = none from attrStr_zip_none _ _ (by decide +kernel)]
  unfold FunctionCall.load
  cases hb : loadBase (ncElem "function-call" c) with
  | mk v ok =>
    cases ok
    · simp
    · simp only [Bool.not_true, Bool.false_eq_true, if_false]
      rw [b]
      simp

theorem loadCalls_append (a b : List Elem) (fi : FileInfo) : loadCalls (a ++ b) fi = loadCalls b (loadCalls a fi) := by
  induction a generalizing fi with
  | nil => rfl
  | cons e r ih =>
    simp only [List.cons_append, loadCalls]
    split
    · split <;> exact ih _
    · split
      · split <;> exact ih _
      · exact ih _

theorem loadCalls_fcs (simp : Str → Str) : ∀ (l : List FunctionCall) (fi : FileInfo), l.all (FunctionCall.Ok simp) = true →
    loadCalls (l.map (fcElem simp)) fi = { fi with functionCalls := fi.functionCalls ++ l } := by
  intro l
  induction l with
  | nil => intro fi _; simp [loadCalls]
  | cons c r ih =>
    intro fi h
    simp only [List.all_cons, Bool.and_eq_true] at h
    have hn : (fcElem simp c).name = "function-call".toList := rfl
    simp only [List.map_cons, loadCalls, hn, if_true, fc_load simp c h.1]
    rw [ih _ h.2]
    simp

theorem loadCalls_ncs : ∀ (l : List NestedCall) (fi : FileInfo), l.all NestedCall.Ok = true →
    loadCalls (l.map (ncElem "nested-call")) fi = { fi with nestedCalls := fi.nestedCalls ++ l } := by
  intro l
  induction l with
  | nil => intro fi _; simp [loadCalls]
  | cons c r ih =>
    intro fi h
    simp only [List.all_cons, Bool.and_eq_true] at h
    have hn : (ncElem "nested-call" c).name = "nested-call".toList := rfl
    have hne : ("nested-call".toList = "function-call".toList) = False := by decide
    simp only [List.map_cons, loadCalls, hn, hne, if_false, if_true, nc_load "nested-call" c h.1]
    rw [ih _ h.2]
    simp

/-- before the fix: every nested call is dropped -/
theorem loadCalls_ncs_old : ∀ (l : List NestedCall) (fi : FileInfo),
    loadCalls (l.map (ncElem "function-call")) fi = fi := by
  intro l
  induction l with
  | nil => intro fi; simp [loadCalls]
  | cons c r ih =>
    intro fi
    have hn : (ncElem "function-call" c).name = "function-call".toList := rfl
    simp only [List.map_cons, loadCalls, hn, if_true, fc_load_of_nested c]
    exact ih fi

theorem fileInfo_renders (simp : Str → Str) (tag : String) (htag : TagOK [] tag.toList = true) (fi : FileInfo) (h : fi.Ok simp = true) :
    Renders 1 (fi.toStrWith simp tag) (fi.functionCalls.map (fcElem simp) ++ fi.nestedCalls.map (ncElem tag)) := by
  simp only [FileInfo.Ok, Bool.and_eq_true] at h
  refine renders_append (renders_list rfl (fun _ _ => rfl) _ fun c hc => ?_) (renders_mono (by decide) (nestedCalls_renders tag htag _ fun c hc => ?_))
  · have := List.all_eq_true.mp h.1 c hc
    simp only [FunctionCall.Ok, Bool.and_eq_true] at this
    obtain ⟨⟨⟨⟨⟨⟨⟨⟨hid, _⟩, _⟩, _⟩, _⟩, _⟩, _⟩, _⟩, _⟩ := this
    exact fc_renders simp c hid
  · have := List.all_eq_true.mp h.2 c hc
    simp only [NestedCall.Ok, Bool.and_eq_true] at this
    obtain ⟨⟨⟨⟨⟨hid, _⟩, _⟩, _⟩, hmy⟩, _⟩ := this
    exact ⟨hid, hmy⟩

def uuNames : List Str :=
  ["my-id".toList, "my-argnr".toList, "my-argname".toList, "file".toList, "line".toList, "col".toList, "value".toList]

def uuVals (u : UnsafeUsage) : List Str :=
  [u.myId, showInt u.myArgNr, u.myArgName, toxml u.loc.file, showInt u.loc.line, showInt u.loc.col, showInt u.value]

def uuElem (u : UnsafeUsage) : Elem := .mk "unsafe-usage".toList (uuNames.zip (uuVals u)) []

theorem uuNames_ok : NamesOK uuNames = true := by decide +kernel

theorem uu_renders (u : UnsafeUsage) (h1 : RawSafe u.myId = true) (h2 : RawSafe u.myArgName = true) :
    Renders 0 u.toStr [uuElem u] := by
  have e : u.toStr = "    ".toList ++ headText "unsafe-usage".toList (uuNames.zip (uuVals u)) ++ '/' :: '>' :: "\n".toList := by
    unfold UnsafeUsage.toStr headText
    rw [show "    <unsafe-usage".toList = "    ".toList ++ '<' :: "unsafe-usage".toList by simp,
      show "/>\n".toList = '/' :: '>' :: "\n".toList by simp]
    simp only [uuNames, uuVals, List.zip_cons_cons, List.zip_nil_right, attr_render, ← renderAttrs_append, List.append_assoc,
      List.cons_append, List.nil_append]
  rw [e]
  refine renders_closed 0 _ (by decide +kernel) (by decide) (attrsOK_zip _ _ uuNames_ok ?_)
  simp only [uuVals, List.mem_cons, List.mem_nil_iff, or_false, forall_eq_or_imp, forall_eq]
  exact ⟨clean_raw _ h1, clean_int _, clean_raw _ h2, clean_toxml _, clean_int _, clean_int _, clean_int _⟩

theorem unsafeList_renders (l : List UnsafeUsage) (h : l.all UnsafeUsage.Ok = true) : Renders 0 (unsafeListStr l) (l.map uuElem) :=
  renders_list rfl (fun _ _ => rfl) l fun u hu => by
    have := List.all_eq_true.mp h u hu
    simp only [UnsafeUsage.Ok, Bool.and_eq_true] at this
    obtain ⟨⟨⟨⟨hid, _⟩, hnm⟩, _⟩, _⟩ := this
    exact uu_renders u hid hnm

theorem uu_load_one (u : UnsafeUsage) (h : u.Ok = true) (r : List Elem) :
    loadUnsafeKids (uuElem u :: r) = u :: loadUnsafeKids r := by
  simp only [UnsafeUsage.Ok, Loc.Ok, Bool.and_eq_true] at h
  obtain ⟨⟨⟨⟨hid, han⟩, hnm⟩, ⟨⟨hlf, hll⟩, hlc⟩⟩, hv⟩ := h
  have rd : ∀ (i : Nat) {key : String} {v : Str}, uuNames[i]? = some key.toList → (uuVals u)[i]? = some v →
      attrStr (uuElem u) key = some (attrDecode v) := attrStr_zip uuNames_ok _ _
  have hn : (uuElem u).name = "unsafe-usage".toList := rfl
  simp only [loadUnsafeKids, hn, ne_eq, not_true_eq_false, if_false, rdS_some _ _ _ _ (rd 0 rfl rfl),
    rdI_showInt _ _ _ (rd 1 rfl rfl) (inS32_64 _ han), rdS_some _ _ _ _ (rd 2 rfl rfl), rdS_some _ _ _ _ (rd 3 rfl rfl),
    rdI_showInt _ _ _ (rd 4 rfl rfl) (inS32_64 _ hll), rdI_showInt _ _ _ (rd 5 rfl rfl) (inS32_64 _ hlc),
    rdI_showInt _ _ _ (rd 6 rfl rfl) hv, Bool.false_eq_true, attrDecode_rawSafe _ hid, attrDecode_rawSafe _ hnm, decode_safe _ hlf,
    wrapS_id 32 (by decide) _ han, wrapS_id 32 (by decide) _ hll, wrapS_id 32 (by decide) _ hlc]

theorem uu_load : ∀ l : List UnsafeUsage, l.all UnsafeUsage.Ok = true → loadUnsafeKids (l.map uuElem) = l := by
  intro l
  induction l with
  | nil => intro _; rfl
  | cons u r ih =>
    intro h
    simp only [List.all_cons, Bool.and_eq_true] at h
    rw [List.map_cons, uu_load_one u h.1, ih h.2]

def BufferInfo.Ok (b : BufferInfo) : Bool := b.arrayIndex.all UnsafeUsage.Ok && b.pointerArith.all UnsafeUsage.Ok

def bufferElems (b : BufferInfo) : List Elem :=
  (if b.arrayIndex = [] then [] else [.mk "array-index".toList [] (b.arrayIndex.map uuElem)])
  ++ (if b.pointerArith = [] then [] else [.mk "pointer-arith".toList [] (b.pointerArith.map uuElem)])

theorem wrapper_renders (name : String) (htag : TagOK "    ".toList name.toList = true) (l : List UnsafeUsage)
    (h : l.all UnsafeUsage.Ok = true) :
    Renders 1 ("    ".toList ++ '<' :: (name.toList ++ '>' :: "\n".toList) ++ unsafeListStr l
        ++ ("    ".toList ++ '<' :: '/' :: (name.toList ++ '>' :: "\n".toList)))
      [.mk name.toList [] (l.map uuElem)] := by
  have := renders_wrap (ws1 := "\n".toList) (ws2 := "    ".toList) (ws3 := "\n".toList) [] htag (by decide) (by decide) (by decide)
    (by decide) (unsafeList_renders l h)
  simpa [headText, renderAttrs] using this

theorem buffer_renders (b : BufferInfo) (h : b.Ok = true) : Renders 1 b.toStr (bufferElems b) := by
  simp only [BufferInfo.Ok, Bool.and_eq_true] at h
  unfold BufferInfo.toStr bufferElems
  apply renders_append
  · split
    · exact renders_nil 1
    · rw [show "    <array-index>\n".toList = "    ".toList ++ '<' :: ("array-index".toList ++ '>' :: "\n".toList) by simp,
        show "    </array-index>\n".toList = "    ".toList ++ '<' :: '/' :: ("array-index".toList ++ '>' :: "\n".toList) by simp]
      exact wrapper_renders "array-index" (by decide +kernel) _ h.1
  · split
    · exact renders_nil 1
    · rw [show "    <pointer-arith>\n".toList = "    ".toList ++ '<' :: ("pointer-arith".toList ++ '>' :: "\n".toList) by simp,
        show "    </pointer-arith>\n".toList = "    ".toList ++ '<' :: '/' :: ("pointer-arith".toList ++ '>' :: "\n".toList) by simp]
      exact wrapper_renders "pointer-arith" (by decide +kernel) _ h.2

theorem buffer_load (b : BufferInfo) (h : b.Ok = true) (name : Str) (as : List (Str × Str)) :
    BufferInfo.load (.mk name as (bufferElems b)) = if b.arrayIndex = [] ∧ b.pointerArith = [] then none else some b := by
  simp only [BufferInfo.Ok, Bool.and_eq_true] at h
  unfold BufferInfo.load bufferElems
  simp only [Elem.kids]
  have hne : ("pointer-arith".toList = "array-index".toList) = False := by decide
  by_cases ha : b.arrayIndex = [] <;> by_cases hp : b.pointerArith = []
  · simp [ha, hp, loadBufferKids]
  · simp [ha, hp, loadBufferKids, Elem.name, loadUnsafeUsageList, Elem.kids, uu_load _ h.2]
    rw [← ha]
  · simp [ha, hp, loadBufferKids, Elem.name, loadUnsafeUsageList, Elem.kids, uu_load _ h.1]
    rw [← hp]
  · simp [ha, hp, loadBufferKids, Elem.name, loadUnsafeUsageList, Elem.kids, uu_load _ h.1, uu_load _ h.2]

theorem unsafeInfo_load (l : List UnsafeUsage) (h : l.all UnsafeUsage.Ok = true) (name : Str) (as : List (Str × Str)) :
    loadUnsafeInfo (.mk name as (l.map uuElem)) = if l = [] then none else some l := by
  simp [loadUnsafeInfo, loadUnsafeUsageList, Elem.kids, uu_load l h]

def cdNames : List Str :=
  ["name".toList, "file".toList, "configuration".toList, "line".toList, "col".toList, "hash".toList]

def cdVals (c : ClassDef) : List Str :=
  [toxml c.className, toxml c.fileName, toxml c.configuration, showInt c.line, showInt c.col, showNat c.hash]

def cdElem (c : ClassDef) : Elem := .mk "class".toList (cdNames.zip (cdVals c)) []

theorem cdNames_ok : NamesOK cdNames = true := by decide +kernel

theorem cd_renders (c : ClassDef) : Renders 0 c.toStr [cdElem c] := by
  have e : c.toStr = [] ++ headText "class".toList (cdNames.zip (cdVals c)) ++ '/' :: '>' :: "\n".toList := by
    unfold ClassDef.toStr headText
    rw [show "<class name=\"".toList = '<' :: ("class".toList ++ ' ' :: ("name".toList ++ ['=', '"'])) by simp,
      show "\" file=\"".toList = '"' :: ' ' :: ("file".toList ++ ['=', '"']) by simp,
      show "\" configuration=\"".toList = '"' :: ' ' :: ("configuration".toList ++ ['=', '"']) by simp,
      show "\" line=\"".toList = '"' :: ' ' :: ("line".toList ++ ['=', '"']) by simp,
      show "\" col=\"".toList = '"' :: ' ' :: ("col".toList ++ ['=', '"']) by simp,
      show "\" hash=\"".toList = '"' :: ' ' :: ("hash".toList ++ ['=', '"']) by simp,
      show "\"/>\n".toList = '"' :: '/' :: '>' :: "\n".toList by simp]
    simp only [cdNames, cdVals, List.zip_cons_cons, List.zip_nil_right, renderAttrs, List.append_assoc, List.cons_append,
      List.nil_append]
  rw [e]
  refine renders_closed 0 _ (by decide +kernel) (by decide) (attrsOK_zip _ _ cdNames_ok ?_)
  simp only [cdVals, List.mem_cons, List.mem_nil_iff, or_false, forall_eq_or_imp, forall_eq]
  exact ⟨clean_toxml _, clean_toxml _, clean_toxml _, clean_int _, clean_int _, clean_nat _⟩

theorem classList_renders (l : List ClassDef) : Renders 0 (classListStr l) (l.map cdElem) :=
  renders_list rfl (fun _ _ => rfl) l fun c _ => cd_renders c

theorem inS32_bounds (i : Int) (hi : inS 32 i = true) : i32lo ≤ i ∧ i ≤ i32hi := by
  simp only [inS, Bool.and_eq_true, decide_eq_true_eq, Int.reducePow, Nat.reduceSub] at hi
  simp only [i32lo, i32hi]; omega

theorem cd_load_one (c : ClassDef) (h : c.Ok = true) (r : List Elem) (acc : List ClassDef) :
    loadClassKids (cdElem c :: r) acc = loadClassKids r (acc ++ [c]) := by
  simp only [ClassDef.Ok, Bool.and_eq_true] at h
  obtain ⟨⟨⟨⟨⟨hn, hf⟩, hc⟩, hl⟩, hco⟩, hh⟩ := h
  have rd : ∀ (i : Nat) {key : String} {v : Str}, cdNames[i]? = some key.toList → (cdVals c)[i]? = some v →
      attrStr (cdElem c) key = some (attrDecode v) := attrStr_zip cdNames_ok _ _
  have hname : (cdElem c).name = "class".toList := rfl
  have hh' : c.hash ≤ sizeMax := by
    simp only [inU, Bool.and_eq_true, decide_eq_true_eq, Int.reducePow] at hh
    simp only [sizeMax]; omega
  simp only [loadClassKids, hname, ne_eq, not_true_eq_false, if_false, rd 0 rfl rfl, rd 1 rfl rfl, rd 2 rfl rfl, rd 3 rfl rfl,
    rd 4 rfl rfl, rd 5 rfl rfl, attrDecode_showInt, attrDecode_showNat,
    strToIntS_showInt _ _ _ (inS32_bounds _ hl).1 (inS32_bounds _ hl).2 (inS32_64 _ hl),
    strToIntS_showInt _ _ _ (inS32_bounds _ hco).1 (inS32_bounds _ hco).2 (inS32_64 _ hco),
    strToIntU_showNat sizeMax c.hash hh' (by decide), decode_safe _ hn, decode_safe _ hf, decode_safe _ hc]

theorem cd_load : ∀ (l : List ClassDef) (acc : List ClassDef), l.all ClassDef.Ok = true →
    loadClassKids (l.map cdElem) acc = some (acc ++ l) := by
  intro l
  induction l with
  | nil => intro acc _; simp [loadClassKids]
  | cons c r ih =>
    intro acc h
    simp only [List.all_cons, Bool.and_eq_true] at h
    rw [List.map_cons, cd_load_one c h.1, ih _ h.2]
    simp

theorem classInfo_load (l : List ClassDef) (h : l.all ClassDef.Ok = true) (name : Str) (as : List (Str × Str)) :
    loadClassInfo (.mk name as (l.map cdElem)) = if l = [] then .null else .value l := by
  unfold loadClassInfo
  simp only [Elem.kids, cd_load l [] h, List.nil_append]
  cases l <;> simp

end Cppcheck.Ctu
