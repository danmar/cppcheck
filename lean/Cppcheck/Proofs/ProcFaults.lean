import Cppcheck.Model.ProcFaults
import Cppcheck.Proofs.ListSet
/-
C21.  Every step of the model is some events in a row (`Ev`: a move of one child, a spawn, the parent's abort, leaving the loop) and
then a move of the parent's program counter, with an event iff the label is enabled (`step_spec`); what follows argues per event and
never looks into the step functions again.  Every event lowers `measure` and keeps `Inv`, which ties log and result to what every
child has delivered so far.
-/
namespace Cppcheck.ProcFaults

theorem any_iff_getElem? {α : Type} (l : List α) (p : α → Bool) :
    l.any p = true ↔ ∃ (i : Nat) (c : α), l[i]? = some c ∧ p c = true := by
  simp only [List.any_eq_true, List.mem_iff_getElem?]
  exact ⟨fun ⟨c, ⟨i, hi⟩, hp⟩ => ⟨i, c, hi, hp⟩, fun ⟨i, c, hi, hp⟩ => ⟨c, ⟨i, hi⟩, hp⟩⟩

-- `2 *`: a frame not yet written costs a write and a read, so that writing one lowers the cost
def Child.cost (c : Child) : Nat :=
  2 * (c.w.limit - c.sent) + (c.sent - c.read) + (if c.dead then 0 else 1)
    + (if c.pipeOpen then 1 else 0) + (if c.inTable then 1 else 0)

-- `4`: a new child is alive, has its pipe open and is in the table (3), and the spawn step costs one (`cost_new`)
def Worker.cost (w : Worker) : Nat := 2 * w.limit + 4

def flag (b : Bool) : Nat := if b then 0 else 1

/-- work left for the workers, frames left to read, pipes left to close, children left to reap, files left to spawn -/
def rest (s : State) : Nat := (s.pending.map Worker.cost).sum + (s.kids.map Child.cost).sum

/-- the termination measure: `rest` plus one for leaving the loop -/
def measure (s : State) : Nat := flag s.final + rest s

theorem measure_lt_of_rest (s s' : State) (hf : s.final = false) (hr : rest s' < rest s) : measure s' < measure s := by
  have : flag s'.final ≤ 1 := by unfold flag; split <;> omega
  have : flag s.final = 1 := by rw [hf]; rfl
  simp only [measure]; omega

theorem measure_lt_of_final (s s' : State) (hr : rest s' ≤ rest s) (h : s.final = false) (h' : s'.final = true) :
    measure s' < measure s := by
  simp only [measure, h, h', flag]
  simp
  omega

theorem rest_set_lt (s : State) (i : Nat) (c c' : Child) (hc : s.kids[i]? = some c) (h : c'.cost < c.cost) (s' : State)
    (hp : s'.pending = s.pending) (hk : s'.kids = s.kids.set i c') : rest s' < rest s := by
  have := ListSet.sum_map_set Child.cost hc c'
  simp only [rest, hp, hk]; omega

theorem cost_new (w : Worker) : (Child.new w).cost + 1 = w.cost := by
  simp [Child.new, Child.cost, Worker.cost]

theorem cost_deliver (c : Child) (h : c.read < c.sent) (ho : c.pipeOpen = true) (b : Bool) :
    ({ c with read := c.read + 1, pipeOpen := b } : Child).cost + 1 ≤ c.cost := by
  have : (if b = true then 1 else 0) ≤ 1 := by split <;> omega
  simp only [Child.cost, ho, if_true]
  omega

theorem measure_pc (s : State) (p : Phase) : measure { s with pc := p } = measure s := rfl

theorem readOne_dichotomy (i : Nat) (s : State) :
    readOne i s = s ∨ ∃ c, s.kids[i]? = some c ∧ s.aborted = false ∧ (c.pipeOpen && c.ready) = true := by
  unfold readOne
  cases ha : s.aborted with
  | true => exact .inl rfl
  | false =>
    cases hc : s.kids[i]? with
    | none => exact .inl rfl
    | some c =>
      dsimp only
      cases hr : (c.pipeOpen && c.ready) with
      | false => exact .inl rfl
      | true => exact .inr ⟨c, rfl, rfl, hr⟩

theorem reapOne_eq (i : Nat) (s : State) (c : Child) (hc : s.kids[i]? = some c) :
    reapOne i s = { s with kids := s.kids.set i { c with inTable := false },
                           log := (if c.w.crashed then [Report.internal c.w.file c.w.endStatus] else []).foldr addLog s.log,
                           result := s.result + if c.w.crashed then 1 else 0 } := by
  unfold reapOne
  simp only [hc, Worker.crashed]
  by_cases h : c.w.endStatus.isCrash = true <;> simp only [h, ↓reduceIte] <;> rfl

theorem mem_zombieIdx (s : State) (i : Nat) : i ∈ zombieIdx s ↔ ∃ c, s.kids[i]? = some c ∧ c.zombie = true := by
  unfold zombieIdx
  rw [List.mem_filter, List.mem_range]
  cases h : s.kids[i]? with
  | none => simp
  | some c => simp [(List.getElem?_eq_some_iff.mp h).1]

theorem zombieIdx_ne_nil (s : State) : zombieIdx s ≠ [] ↔ reapEnabled s = true := by
  rw [reapEnabled, any_iff_getElem?]
  constructor
  · intro h
    obtain ⟨i, hi⟩ := List.exists_mem_of_ne_nil _ h
    exact ⟨i, (mem_zombieIdx s i).mp hi⟩
  · rintro ⟨i, h⟩
    exact List.ne_nil_of_mem ((mem_zombieIdx s i).mpr h)

theorem zombieIdx_nil (s : State) (h : reapEnabled s = false) : zombieIdx s = [] :=
  Classical.byContradiction fun hn => by rw [(zombieIdx_ne_nil s).mp hn] at h; cases h

/-- the state `waitStep` works on after the `waitpid` call -/
def afterReap (choice : Nat) (s : State) : State :=
  match (zombieIdx s)[choice % (zombieIdx s).length]? with
  | some i => reapOne i s
  | none => s

theorem waitStep_eq (choice : Nat) (s : State) :
    waitStep choice s = if finishEnabled (afterReap choice s) then { afterReap choice s with done := true, pc := .spawn }
      else { afterReap choice s with pc := .spawn } := rfl

theorem afterReap_none (choice : Nat) (s : State) (h : reapEnabled s = false) : afterReap choice s = s := by
  simp [afterReap, zombieIdx_nil s h]

theorem afterReap_cases (choice : Nat) (s : State) :
    (reapEnabled s = false ∧ afterReap choice s = s) ∨
    (reapEnabled s = true ∧ ∃ i c, s.kids[i]? = some c ∧ c.zombie = true ∧ afterReap choice s = reapOne i s) := by
  cases hr : reapEnabled s with
  | false => exact .inl ⟨rfl, afterReap_none choice s hr⟩
  | true =>
    have hlt : choice % (zombieIdx s).length < (zombieIdx s).length :=
      Nat.mod_lt _ (List.length_pos_iff.mpr ((zombieIdx_ne_nil s).mpr hr))
    obtain ⟨c, hc, hz⟩ := (mem_zombieIdx s _).mp (List.getElem_mem hlt)
    refine .inr ⟨rfl, _, c, hc, hz, ?_⟩
    unfold afterReap
    rw [List.getElem?_eq_getElem hlt]

theorem afterReap_final (choice : Nat) (s : State) : (afterReap choice s).final = s.final := by
  rcases afterReap_cases choice s with ⟨_, he⟩ | ⟨_, i, c, hc, _, he⟩
  · rw [he]
  · rw [he, reapOne_eq i s c hc]; rfl

theorem afterReap_done (choice : Nat) (s : State) : (afterReap choice s).done = s.done := by
  rcases afterReap_cases choice s with ⟨_, he⟩ | ⟨_, i, c, hc, _, he⟩
  · rw [he]
  · rw [he, reapOne_eq i s c hc]

/-- what child `c` has contributed to the log so far -/
def Child.reports (c : Child) : List Report :=
  (c.w.findingsUpTo c.read).map .finding ++
    (if !c.inTable && c.w.crashed then [.internal c.w.file c.w.endStatus] else [])

/-- what child `c` has contributed to `result` so far -/
def Child.contrib (c : Child) : Nat :=
  (if c.pipeOpen then 0 else if c.read = c.w.total then c.w.rc else 1) +
    (if !c.inTable && c.w.crashed then 1 else 0)

-- `no_partial` says nothing of the state: it is the hypothesis that the worker dies between frames
structure Child.OK (c : Child) : Prop where
  read_le : c.read ≤ c.sent
  sent_le : c.sent ≤ c.w.limit
  dead_sent : c.dead = true → c.sent = c.w.limit
  reaped_dead : c.inTable = false → c.dead = true
  open_lt : c.pipeOpen = true → c.read < c.w.total
  closed_eq : c.pipeOpen = false → c.read = c.w.limit
  no_partial : c.w.partialFrame = false

structure Inv (ws : List Worker) (s : State) : Prop where
  workers : s.kids.map (·.w) ++ s.pending = ws
  ok : ∀ c ∈ s.kids, c.OK
  nodup : s.log.Nodup
  log_iff : ∀ r, r ∈ s.log ↔ r ∈ s.kids.flatMap Child.reports
  result_eq : s.result = (s.kids.map Child.contrib).sum
  not_aborted : s.aborted = false
  done_all : s.done = true → s.pending = [] ∧ ∀ c ∈ s.kids, c.pipeOpen = false ∧ c.inTable = false

theorem limit_le_total (w : Worker) : w.limit ≤ w.total := by
  unfold Worker.limit
  split
  · exact Nat.le_refl _
  · exact Nat.min_le_right _ _

theorem mem_addLog (r r0 : Report) (log : List Report) : r ∈ addLog r0 log ↔ r ∈ log ∨ r = r0 := by
  unfold addLog
  split
  · rename_i h
    constructor
    · exact Or.inl
    · rintro (h' | h')
      · exact h'
      · rw [h']; exact h
  · simp

theorem nodup_addLog (r0 : Report) (log : List Report) (h : log.Nodup) : (addLog r0 log).Nodup := by
  unfold addLog
  split
  · exact h
  · rename_i hn
    rw [List.nodup_append]
    refine ⟨h, by simp, ?_⟩
    intro a ha b hb
    simp only [List.mem_singleton] at hb
    subst hb
    intro hab; subst hab; exact hn ha

theorem mem_foldr_addLog (r : Report) (l log : List Report) : r ∈ l.foldr addLog log ↔ r ∈ log ∨ r ∈ l := by
  induction l with
  | nil => simp
  | cons a t ih => rw [List.foldr_cons, mem_addLog, ih, List.mem_cons, or_assoc, or_comm (a := r ∈ t)]

theorem nodup_foldr_addLog (l log : List Report) (h : log.Nodup) : (l.foldr addLog log).Nodup :=
  List.foldrRecOn l addLog h fun _ hb a _ => nodup_addLog a _ hb

theorem findingsUpTo_succ (w : Worker) (n : Nat) :
    w.findingsUpTo (n + 1) = w.findingsUpTo n ++ w.body[n]?.join.toList := by
  unfold Worker.findingsUpTo
  rw [List.take_add_one, List.filterMap_append]
  congr 1
  cases h : w.body[n]? with
  | none => simp
  | some o => cases o <;> simp

theorem Inv.update {ws : List Worker} {s : State} (inv : Inv ws s) (i : Nat) (c c' : Child) (hc : s.kids[i]? = some c)
    (hw : c'.w = c.w) (hok : c'.OK) (new : List Report) (d : Nat)
    (hrep : ∀ r, r ∈ c'.reports ↔ r ∈ c.reports ∨ r ∈ new) (hcon : c'.contrib = c.contrib + d) (hdone : s.done = false) :
    Inv ws { s with kids := s.kids.set i c', log := new.foldr addLog s.log, result := s.result + d } := by
  refine ⟨?_, ListSet.forall_mem_set inv.ok i hok, nodup_foldr_addLog _ _ inv.nodup, ?_, ?_, inv.not_aborted, ?_⟩
  · show (s.kids.set i c').map (·.w) ++ s.pending = ws
    rw [ListSet.map_set_of_eq (·.w) hc hw]; exact inv.workers
  · intro r
    show r ∈ new.foldr addLog s.log ↔ r ∈ (s.kids.set i c').flatMap Child.reports
    obtain ⟨R, h1, h2⟩ := ListSet.mem_flatMap_set Child.reports hc
    rw [mem_foldr_addLog, h2, hrep, inv.log_iff, h1]
    exact or_right_comm
  · have := ListSet.sum_map_set Child.contrib hc c'
    show s.result + d = ((s.kids.set i c').map Child.contrib).sum
    rw [inv.result_eq]; omega
  · intro h; rw [hdone] at h; cases h

theorem Inv.pc {ws : List Worker} {s : State} (inv : Inv ws s) (p : Phase) : Inv ws { s with pc := p } :=
  ⟨inv.workers, inv.ok, inv.nodup, inv.log_iff, inv.result_eq, inv.not_aborted, inv.done_all⟩

/-- the moves of one child, with what the parent logs and adds to `result`: the worker writes a frame or dies; `handleRead` gets
    a frame of the body (`some x`: REPORT_ERROR), CHILD_END, or EOF at a frame boundary; `waitpid` returns the child -/
inductive Child.Move : Child → Child → List Report → Nat → Prop
  | write {c : Child} : c.dead = false → c.sent < c.w.limit → Move c { c with sent := c.sent + 1 } [] 0
  | die {c : Child} : c.dead = false → ¬ c.sent < c.w.limit → Move c { c with dead := true } [] 0
  | frame {c : Child} (o : Option Nat) : c.pipeOpen = true → c.read < c.sent → c.w.body[c.read]? = some o →
      Move c { c with read := c.read + 1 } (o.toList.map .finding) 0
  | childEnd {c : Child} : c.pipeOpen = true → c.read < c.sent → c.w.body[c.read]? = none →
      Move c { c with read := c.read + 1, pipeOpen := false } [] c.w.rc
  | eof {c : Child} : c.pipeOpen = true → c.dead = true → ¬ c.read < c.sent → c.w.partialFrame = false →
      Move c { c with pipeOpen := false } [] 1
  | reap {c : Child} : c.inTable = true → c.dead = true →
      Move c { c with inTable := false } (if c.w.crashed then [.internal c.w.file c.w.endStatus] else [])
        (if c.w.crashed then 1 else 0)

/-- what can happen to the state, the parent's program counter apart; of a guard only what some proof needs is kept
    (a spawn does not say that the table has room) -/
inductive Ev (s : State) : State → Prop
  | move (i : Nat) (c c' : Child) (new : List Report) (d : Nat) : s.kids[i]? = some c → c.Move c' new d →
      Ev s { s with kids := s.kids.set i c', log := new.foldr addLog s.log, result := s.result + d }
  | spawn (w : Worker) (ps : List Worker) : s.pending = w :: ps →
      Ev s { s with pending := ps, kids := s.kids ++ [Child.new w] }
  | abort (i : Nat) (c : Child) : s.kids[i]? = some c → c.w.partialFrame = true → Ev s { s with aborted := true }
  | finish : finishEnabled s = true → Ev s { s with done := true }

inductive Evs : Nat → State → State → Prop
  | nil (s : State) : Evs 0 s s
  | cons {n : Nat} {s u t : State} : s.final = false → Ev s u → Evs n u t → Evs (n + 1) s t

section move
variable {c c' : Child} {new : List Report} {d : Nat}

theorem Child.Move.w_eq (h : c.Move c' new d) : c'.w = c.w := by
  cases h <;> rfl

theorem Child.Move.cost_lt (h : c.Move c' new d) : c'.cost < c.cost := by
  cases h with
  | write hd hlt => simp only [Child.cost, hd]; omega
  | die hd _ => simp [Child.cost, hd]
  | frame _ ho hlt => exact cost_deliver c hlt ho c.pipeOpen
  | childEnd ho hlt => exact cost_deliver c hlt ho false
  | eof ho => simp [Child.cost, ho]
  | reap ht => simp [Child.cost, ht]

/-- CHILD_END is the last frame a worker writes -/
theorem Child.OK.last_frame (ok : c.OK) (hlt : c.read < c.sent) (h : c.w.body[c.read]? = none) :
    c.read + 1 = c.w.limit ∧ c.read + 1 = c.w.total := by
  have : c.w.total ≤ c.read + 1 := Nat.succ_le_succ (List.getElem?_eq_none_iff.mp h)
  have := limit_le_total c.w
  have := ok.sent_le
  omega

theorem Child.Move.ok (h : c.Move c' new d) (ok : c.OK) : c'.OK := by
  cases h with
  | write hd hlt =>
    exact ⟨Nat.le_succ_of_le ok.read_le, hlt, (fun h => nomatch hd.symm.trans h), ok.reaped_dead, ok.open_lt, ok.closed_eq,
      ok.no_partial⟩
  | die _ hge =>
    exact ⟨ok.read_le, ok.sent_le, fun _ => Nat.le_antisymm ok.sent_le (Nat.le_of_not_lt hge), fun _ => rfl, ok.open_lt,
      ok.closed_eq, ok.no_partial⟩
  | frame _ ho hlt hb =>
    exact ⟨hlt, ok.sent_le, ok.dead_sent, ok.reaped_dead, fun _ => Nat.succ_lt_succ (List.getElem?_eq_some_iff.mp hb).1,
      (fun h => nomatch ho.symm.trans h), ok.no_partial⟩
  | childEnd _ hlt hb =>
    exact ⟨hlt, ok.sent_le, ok.dead_sent, ok.reaped_dead, nofun, fun _ => (ok.last_frame hlt hb).1, ok.no_partial⟩
  | eof _ hdead hnlt =>
    -- the worker is dead and everything it wrote has been read
    exact ⟨ok.read_le, ok.sent_le, ok.dead_sent, ok.reaped_dead, nofun,
      fun _ => (Nat.le_antisymm ok.read_le (Nat.le_of_not_lt hnlt)).trans (ok.dead_sent hdead), ok.no_partial⟩
  | reap _ hdead => exact ⟨ok.read_le, ok.sent_le, ok.dead_sent, fun _ => hdead, ok.open_lt, ok.closed_eq, ok.no_partial⟩

theorem Child.Move.mem_reports (h : c.Move c' new d) (r : Report) : r ∈ c'.reports ↔ r ∈ c.reports ∨ r ∈ new := by
  cases h with
  | write | die | eof => simp [Child.reports]
  | frame _ _ _ hb | childEnd _ _ hb =>
    simp only [Child.reports, findingsUpTo_succ, hb, List.map_append, List.mem_append]; exact or_right_comm
  | reap ht => simp [Child.reports, ht]

theorem Child.Move.contrib_eq (h : c.Move c' new d) (ok : c.OK) : c'.contrib = c.contrib + d := by
  cases h with
  | write | die => rfl
  | frame _ ho => simp [Child.contrib, ho]
  | childEnd ho hlt hb => simp [Child.contrib, ho, (ok.last_frame hlt hb).2, Nat.add_comm]
  | eof ho =>
    have : c.read ≠ c.w.total := Nat.ne_of_lt (ok.open_lt ho)
    simp [Child.contrib, ho, this, Nat.add_comm]
  | reap ht => simp [Child.contrib, ht]

end move

theorem Ev.measure_lt {s t : State} (h : Ev s t) (hf : s.final = false) : measure t < measure s := by
  cases h with
  | move i c c' new d hc hm => exact measure_lt_of_rest _ _ hf (rest_set_lt s i c c' hc hm.cost_lt _ rfl rfl)
  | spawn w ps hp =>
    have := cost_new w
    refine measure_lt_of_rest _ _ hf ?_
    simp only [rest, hp, List.map_cons, List.sum_cons, List.map_append, List.sum_append, List.sum_nil, List.map_nil]
    omega
  | abort => exact measure_lt_of_final _ _ (Nat.le_refl _) hf (Bool.or_true _)
  | finish => exact measure_lt_of_final _ _ (Nat.le_refl _) hf rfl

def size (s : State) : Nat := s.kids.length + s.pending.length

theorem Ev.size {s t : State} (h : Ev s t) : size t = size s := by
  cases h with
  | spawn w ps hp => simp [ProcFaults.size, hp]; omega
  | _ => simp [ProcFaults.size]

theorem Inv.ev {ws : List Worker} {s t : State} (inv : Inv ws s) (hmid : ∀ w ∈ ws, w.partialFrame = false) (h : Ev s t)
    (hf : s.final = false) : Inv ws t := by
  have hd : s.done = false := (Bool.or_eq_false_iff.mp hf).1
  cases h with
  | move i c c' new d hc hm =>
    have ok := inv.ok c (List.mem_of_getElem? hc)
    exact inv.update i c c' hc hm.w_eq (hm.ok ok) new d hm.mem_reports (hm.contrib_eq ok) hd
  | spawn w ps hp =>
    -- the new child has read nothing and still holds its pipe and its table entry: no reports, no contribution
    have hws := inv.workers
    rw [hp] at hws
    refine ⟨by simpa [Child.new] using hws, ?_, inv.nodup, ?_, ?_, inv.not_aborted, fun h => nomatch hd.symm.trans h⟩
    · intro c hc
      rcases List.mem_append.mp hc with h | h
      · exact inv.ok c h
      · rw [List.mem_singleton.mp h]
        exact ⟨Nat.le_refl _, Nat.zero_le _, nofun, nofun, fun _ => Nat.succ_pos _, nofun, hmid w (hws ▸ by simp)⟩
    · intro r
      rw [inv.log_iff]
      simp [Child.reports, Child.new, Worker.findingsUpTo]
    · simp [Child.contrib, Child.new, inv.result_eq]
  | abort i c hc hp => rw [(inv.ok c (List.mem_of_getElem? hc)).no_partial] at hp; cases hp
  | finish hfin =>
    simp only [finishEnabled, Bool.and_eq_true, List.isEmpty_iff, List.all_eq_true, Bool.not_eq_true'] at hfin
    exact ⟨inv.workers, inv.ok, inv.nodup, inv.log_iff, inv.result_eq, inv.not_aborted,
      fun _ => ⟨hfin.1, fun c hc => by simpa using hfin.2 c hc⟩⟩

theorem Evs.one {s t : State} (hf : s.final = false) (e : Ev s t) : Evs 1 s t := .cons hf e (.nil t)

theorem Evs.eq_of_zero {s t : State} (h : Evs 0 s t) : t = s := by
  cases h; rfl

theorem Evs.measure_le {n : Nat} {s t : State} (h : Evs n s t) : measure t + n ≤ measure s := by
  induction h with
  | nil => exact Nat.le_refl _
  | cons hf e _ ih => have := e.measure_lt hf; omega

def phaseEnabledAt (jobs : Nat) (p : Phase) (s : State) : Bool :=
  match p with
  | .spawn => spawnEnabled jobs s
  | .select => readEnabled s
  | .wait => reapEnabled s || finishEnabled s

def Phase.next : Phase → Phase
  | .spawn => .select
  | .select => .wait
  | .wait => .spawn

def labelEnabled (jobs : Nat) (l : Label) (s : State) : Bool :=
  match l with
  | .parent _ => phaseEnabledAt jobs s.pc s
  | .worker i => workerEnabled i s

def Label.pcAfter (l : Label) (p : Phase) : Phase :=
  match l with
  | .parent _ => p.next
  | .worker _ => p

theorem Child.workerStep_move (c : Child) (hd : c.dead = false) : c.Move c.workerStep [] 0 := by
  unfold Child.workerStep
  rw [if_neg (by simp [hd])]
  split
  · exact .write hd ‹_›
  · exact .die hd ‹_›

theorem workerStep_spec (i : Nat) (s : State) (hf : s.final = false) :
    ∃ n t, Evs n s t ∧ workerStep i s = { t with pc := s.pc } ∧ (0 < n ↔ workerEnabled i s = true) := by
  unfold workerEnabled workerStep
  cases hc : s.kids[i]? with
  | none => exact ⟨0, s, .nil s, rfl, by simp⟩
  | some c =>
    cases hd : c.dead with
    | false => exact ⟨1, _, .one hf (.move i c _ [] 0 hc (c.workerStep_move hd)), rfl, by simp [hd]⟩
    | true => exact ⟨0, s, .nil s, by simp [Child.workerStep, hd, ListSet.set_self hc], by simp [hd]⟩

theorem spawnStep_spec (jobs : Nat) (s : State) (hf : s.final = false) :
    ∃ n t, Evs n s t ∧ spawnStep jobs s = { t with pc := .select } ∧ (0 < n ↔ spawnEnabled jobs s = true) := by
  unfold spawnEnabled spawnStep
  split
  · rename_i w ps hp
    by_cases ht : tableCount s < jobs
    · exact ⟨1, _, .one hf (.spawn w ps hp), by rw [if_pos ht], by simp [hp, ht]⟩
    · exact ⟨0, s, .nil s, by rw [if_neg ht], by simp [ht]⟩
  · rename_i hp
    exact ⟨0, s, .nil s, rfl, by simp [hp]⟩

/-- the pipe of child `i` is in `rpipes` and `select` reports it -/
def pipeReady (i : Nat) (s : State) : Prop := ∃ c, s.kids[i]? = some c ∧ (c.pipeOpen && c.ready) = true

/-- EOF inside a frame is `Ev.abort` (the parent exits); the other outcomes of `handleRead` are moves of the child -/
theorem readOne_spec (i : Nat) (s : State) :
    (s.aborted = false ∧ pipeReady i s ∧ Ev s (readOne i s) ∧ (readOne i s).done = s.done) ∨
      (¬ (s.aborted = false ∧ pipeReady i s) ∧ readOne i s = s) := by
  by_cases h : s.aborted = false ∧ pipeReady i s
  · obtain ⟨ha, c, hc, hr⟩ := h
    refine .inl ⟨ha, ⟨c, hc, hr⟩, ?_⟩
    obtain ⟨ho, hrd⟩ := Bool.and_eq_true _ _ ▸ hr
    unfold readOne
    rw [if_neg (ne_true_of_eq_false ha), hc]
    dsimp only
    rw [if_pos hr]
    by_cases hlt : c.read < c.sent
    · rw [if_pos hlt]
      unfold Worker.frameAt
      cases hb : c.w.body[c.read]? with
      | none => exact ⟨.move i c _ _ _ hc (.childEnd ho hlt hb), rfl⟩
      | some o => cases o <;> exact ⟨.move i c _ _ _ hc (.frame _ ho hlt hb), rfl⟩
    · rw [if_neg hlt]
      have hd : c.dead = true := by simpa [Child.ready, hlt] using hrd
      cases hp : c.w.partialFrame with
      | true => exact ⟨.abort i c hc hp, rfl⟩
      | false => exact ⟨.move i c _ [] 1 hc (.eof ho hd hlt hp), rfl⟩
  · exact .inr ⟨h, (readOne_dichotomy i s).resolve_right fun ⟨c, hc, ha, hr⟩ => h ⟨ha, c, hc, hr⟩⟩

theorem foldl_readOne_spec (l : List Nat) (s : State) (hd : s.done = false) :
    ∃ n, Evs n s (l.foldl (fun s i => readOne i s) s) ∧ (0 < n ↔ s.aborted = false ∧ ∃ i ∈ l, pipeReady i s) := by
  induction l generalizing s with
  | nil => exact ⟨0, .nil s, by simp⟩
  | cons a t ih =>
    rw [List.foldl_cons]
    rcases readOne_spec a s with ⟨ha, hr, e, hda⟩ | ⟨hn, he⟩
    · obtain ⟨n, h, _⟩ := ih (readOne a s) (hda.trans hd)
      exact ⟨n + 1, .cons (Bool.or_eq_false_iff.mpr ⟨hd, ha⟩) e h, fun _ => ⟨ha, a, List.mem_cons_self, hr⟩,
        fun _ => Nat.succ_pos n⟩
    · rw [he]
      obtain ⟨n, h, hpos⟩ := ih s hd
      refine ⟨n, h, hpos.trans (and_congr_right fun ha => ⟨fun ⟨i, hi, hr⟩ => ⟨i, List.mem_cons_of_mem a hi, hr⟩, ?_⟩)⟩
      rintro ⟨i, hi, hr⟩
      rcases List.mem_cons.mp hi with rfl | hi
      · exact absurd ⟨ha, hr⟩ hn
      · exact ⟨i, hi, hr⟩

theorem readEnabled_iff (s : State) : readEnabled s = true ↔ ∃ i ∈ List.range s.kids.length, pipeReady i s := by
  rw [readEnabled, any_iff_getElem?]
  exact ⟨fun ⟨i, c, hi, hr⟩ => ⟨i, List.mem_range.mpr (List.getElem?_eq_some_iff.mp hi).1, c, hi, hr⟩,
    fun ⟨i, _, h⟩ => ⟨i, h⟩⟩

theorem selectStep_spec (s : State) (hf : s.final = false) :
    ∃ n t, Evs n s t ∧ selectStep s = { t with pc := .wait } ∧ (0 < n ↔ readEnabled s = true) := by
  obtain ⟨hd, ha⟩ := Bool.or_eq_false_iff.mp hf
  obtain ⟨n, h, hn⟩ := foldl_readOne_spec (List.range s.kids.length) s hd
  exact ⟨n, _, h, rfl, by rw [hn, readEnabled_iff]; simp [ha]⟩

theorem waitStep_spec (choice : Nat) (s : State) (hf : s.final = false) :
    ∃ n t, Evs n s t ∧ waitStep choice s = { t with pc := .spawn } ∧ (0 < n ↔ (reapEnabled s || finishEnabled s) = true) := by
  rw [waitStep_eq]
  rcases afterReap_cases choice s with ⟨hr, he⟩ | ⟨hr, i, c, hc, hz, he⟩
  · rw [he, hr, Bool.false_or]
    by_cases hfin : finishEnabled s = true
    · rw [if_pos hfin]; exact ⟨1, _, .one hf (.finish hfin), rfl, by simp [hfin]⟩
    · rw [if_neg hfin]; exact ⟨0, s, .nil s, rfl, by simp [hfin]⟩
  · have hz := Bool.and_eq_true _ _ ▸ hz
    have e : Ev s (afterReap choice s) := he.trans (reapOne_eq i s c hc) ▸ .move i c _ _ _ hc (.reap hz.1 hz.2)
    have hf' : (afterReap choice s).final = false := (afterReap_final choice s).trans hf
    rw [hr, Bool.true_or]
    by_cases hfin : finishEnabled (afterReap choice s) = true
    · rw [if_pos hfin]; exact ⟨2, _, .cons hf e (.one hf' (.finish hfin)), rfl, by simp⟩
    · rw [if_neg hfin]; exact ⟨1, _, .one hf e, rfl, by simp⟩

theorem step_spec (jobs : Nat) (l : Label) (s : State) (hf : s.final = false) :
    ∃ n t, Evs n s t ∧ step jobs l s = { t with pc := l.pcAfter s.pc } ∧ (0 < n ↔ labelEnabled jobs l s = true) := by
  unfold step
  rw [if_neg (by simp [hf])]
  cases l with
  | worker i => exact workerStep_spec i s hf
  | parent ch =>
    simp only [parentStep, labelEnabled, phaseEnabledAt, Label.pcAfter]
    cases s.pc with
    | spawn => exact spawnStep_spec jobs s hf
    | select => exact selectStep_spec s hf
    | wait => exact waitStep_spec ch s hf

theorem step_cases (jobs : Nat) (l : Label) (s : State) (hf : s.final = false) :
    measure (step jobs l s) < measure s ∨
      (labelEnabled jobs l s = false ∧ step jobs l s = { s with pc := l.pcAfter s.pc }) := by
  obtain ⟨n, t, h, hs, hn⟩ := step_spec jobs l s hf
  rw [hs]
  cases n with
  | zero => exact .inr ⟨Bool.eq_false_iff.mpr fun he => Nat.lt_irrefl 0 (hn.mpr he), by rw [h.eq_of_zero]⟩
  | succ n => exact .inl (by have := h.measure_le; rw [measure_pc]; omega)

theorem run_keeps {P : State → Prop} (hev : ∀ {s t}, s.final = false → Ev s t → P s → P t)
    (hpc : ∀ {s} p, P s → P { s with pc := p }) (cfg : Config) (σ : Nat → Label) (h0 : P (init cfg)) :
    ∀ n, P (run cfg σ n)
  | 0 => h0
  | n + 1 => by
    have h := run_keeps hev hpc cfg σ h0 n
    show P (step cfg.jobs (σ n) (run cfg σ n))
    cases hf : (run cfg σ n).final with
    | true => simpa [step, hf] using h
    | false =>
      obtain ⟨k, t, hk, hs, -⟩ := step_spec cfg.jobs (σ n) _ hf
      rw [hs]
      refine hpc _ ?_
      clear hs hf
      generalize run cfg σ n = s at h hk
      induction hk with
      | nil => exact h
      | cons hf e _ ih => exact ih (hev hf e h)

theorem size_run (cfg : Config) (σ : Nat → Label) (n : Nat) : size (run cfg σ n) = cfg.workers.length :=
  run_keeps (P := fun s => size s = cfg.workers.length) (fun _ e h => e.size.trans h) (fun _ h => h) cfg σ
    (by simp [init, size]) n

theorem no_deadlock (jobs : Nat) (hj : 1 ≤ jobs) (s : State)
    (hdead : ∀ c ∈ s.kids, c.dead = true)
    (hs : spawnEnabled jobs s = false) (hr : readEnabled s = false) (hz : reapEnabled s = false) :
    finishEnabled s = true := by
  simp only [reapEnabled, readEnabled, List.any_eq_false, Child.zombie, Child.ready, Bool.and_eq_true, Bool.or_eq_true] at hz hr
  have htab : ∀ c ∈ s.kids, c.inTable = false := fun c hc => by simpa [hdead c hc] using hz c hc
  have hopen : ∀ c ∈ s.kids, c.pipeOpen = false := fun c hc => by simpa [hdead c hc] using hr c hc
  have hcount : tableCount s = 0 := by
    unfold tableCount
    have : s.kids.filter (·.inTable) = [] := List.filter_eq_nil_iff.mpr (fun c hc => by simp [htab c hc])
    simp [this]
  have hpend : s.pending.isEmpty = true := by
    unfold spawnEnabled at hs
    cases hp : s.pending.isEmpty with
    | true => rfl
    | false =>
      rw [hp, hcount] at hs
      simp at hs; omega
  unfold finishEnabled
  simp only [hpend, Bool.true_and]
  exact List.all_eq_true.mpr (fun c hc => by simp [htab c hc, hopen c hc])

theorem exists_enabled (jobs : Nat) (hj : 1 ≤ jobs) (s : State) :
    (∃ i, i < s.kids.length ∧ workerEnabled i s = true) ∨ ∃ q, phaseEnabledAt jobs q s = true := by
  by_cases hd : ∀ c ∈ s.kids, c.dead = true
  · right
    cases hs : spawnEnabled jobs s
    case true => exact ⟨.spawn, hs⟩
    cases hr : readEnabled s
    case true => exact ⟨.select, hr⟩
    cases hz : reapEnabled s
    case true => exact ⟨.wait, by simp [phaseEnabledAt, hz]⟩
    exact ⟨.wait, by simp [phaseEnabledAt, no_deadlock jobs hj s hd hs hr hz]⟩
  · left
    obtain ⟨c, hd⟩ := Classical.not_forall.mp hd
    obtain ⟨hc, hcd⟩ := Classical.not_imp.mp hd
    obtain ⟨i, hi⟩ := List.mem_iff_getElem?.mp hc
    exact ⟨i, (List.getElem?_eq_some_iff.mp hi).1, by simpa [workerEnabled, hi] using hcd⟩

/-- the parent and every worker get a turn again and again; a parent turn runs the phase of `pc`, and one whose phase is not
    enabled moves `pc` on, so every phase comes round as well (`frozen_phase`) -/
def Fair (cfg : Config) (σ : Nat → Label) : Prop :=
  (∀ n, ∃ m, n ≤ m ∧ ∃ ch, σ m = .parent ch) ∧
  (∀ i, i < cfg.workers.length → ∀ n, ∃ m, n ≤ m ∧ σ m = .worker i)

/-- forget the parent's program counter -/
def core (s : State) : State := { s with pc := .spawn }

theorem Phase.reaches (p q : Phase) : q = p ∨ q = p.next ∨ q = p.next.next := by
  cases p <;> cases q <;> simp [Phase.next]

section frozen
variable {cfg : Config} {σ : Nat → Label} {n : Nat} (hnf : (run cfg σ n).final = false)
  (hno : ∀ m, ¬ measure (run cfg σ m) < measure (run cfg σ n))
include hnf hno

theorem frozen_step {m : Nat} (hc : core (run cfg σ m) = core (run cfg σ n)) :
    labelEnabled cfg.jobs (σ m) (run cfg σ m) = false ∧ core (run cfg σ (m + 1)) = core (run cfg σ n) ∧
      (run cfg σ (m + 1)).pc = (σ m).pcAfter (run cfg σ m).pc := by
  rcases step_cases cfg.jobs (σ m) (run cfg σ m) ((congrArg State.final hc).trans hnf) with h | ⟨he, hs⟩
  · exact absurd ((congrArg measure hc) ▸ h) (hno (m + 1))
  · refine ⟨he, ?_⟩
    show core (step cfg.jobs (σ m) (run cfg σ m)) = _ ∧ (step cfg.jobs (σ m) (run cfg σ m)).pc = _
    rw [hs]
    exact ⟨hc, rfl⟩

theorem frozen (k : Nat) : core (run cfg σ (n + k)) = core (run cfg σ n) := by
  induction k with
  | zero => rfl
  | succ k ih => exact (frozen_step hnf hno ih).2.1

theorem frozen_phase {m m' : Nat} (hc : core (run cfg σ m) = core (run cfg σ n)) (hm : m ≤ m') (hσ : ∃ ch, σ m' = .parent ch) :
    phaseEnabledAt cfg.jobs (run cfg σ m).pc (run cfg σ n) = false ∧
      ∃ k, core (run cfg σ k) = core (run cfg σ n) ∧ (run cfg σ k).pc = (run cfg σ m).pc.next := by
  obtain ⟨hdis, hc', hpc⟩ := frozen_step hnf hno hc
  cases hl : σ m with
  | parent ch =>
    rw [hl] at hdis hpc
    exact ⟨(congrArg (phaseEnabledAt cfg.jobs _) hc).symm.trans hdis, m + 1, hc', hpc⟩
  | worker j =>
    -- a worker's turn: the parent's turn is still ahead and it is in the same phase
    rw [hl] at hpc
    have hlt : m + 1 ≤ m' := Nat.lt_of_le_of_ne hm fun h => by
      subst h
      obtain ⟨ch, hσ⟩ := hσ
      rw [hl] at hσ
      cases hσ
    have := frozen_phase hc' hlt hσ
    rwa [show (run cfg σ (m + 1)).pc = (run cfg σ m).pc from hpc] at this
termination_by m' - m
decreasing_by exact Nat.sub_lt_sub_left (Nat.lt_of_succ_le hlt) (Nat.lt_succ_self m)

end frozen

theorem progress (cfg : Config) (hj : 1 ≤ cfg.jobs) (σ : Nat → Label) (hfair : Fair cfg σ) (n : Nat)
    (hnf : (run cfg σ n).final = false) : ∃ m, measure (run cfg σ m) < measure (run cfg σ n) := by
  -- otherwise the run is frozen from `n` on, but some label is enabled at `n` and gets its turn
  apply Classical.byContradiction
  intro hex
  have hno : ∀ m, ¬ measure (run cfg σ m) < measure (run cfg σ n) := fun m h => hex ⟨m, h⟩
  rcases exists_enabled cfg.jobs hj (run cfg σ n) with ⟨i, hi, hw⟩ | ⟨q, hq⟩
  · have hiw : i < cfg.workers.length := by
      have := size_run cfg σ n
      simp only [size] at this
      omega
    obtain ⟨m, hm, hσ⟩ := hfair.2 i hiw n
    obtain ⟨k, rfl⟩ := Nat.exists_eq_add_of_le hm
    have hdis := (frozen_step hnf hno (frozen hnf hno k)).1
    rw [hσ] at hdis
    exact nomatch (((congrArg (workerEnabled i) (frozen hnf hno k)).trans hw).symm.trans hdis : true = false)
  · have turn {m : Nat} (hc : core (run cfg σ m) = core (run cfg σ n)) :=
      let ⟨_, hm, hσ⟩ := hfair.1 m
      frozen_phase hnf hno hc hm hσ
    obtain ⟨h0, m1, hc1, hp1⟩ := turn rfl
    obtain ⟨h1, m2, hc2, hp2⟩ := turn hc1
    obtain ⟨h2, _⟩ := turn hc2
    rw [hp2, hp1] at h2
    rw [hp1] at h1
    rcases Phase.reaches (run cfg σ n).pc q with rfl | rfl | rfl
    · exact nomatch hq.symm.trans h0
    · exact nomatch hq.symm.trans h1
    · exact nomatch hq.symm.trans h2

theorem terminates_aux (cfg : Config) (hj : 1 ≤ cfg.jobs) (σ : Nat → Label) (hfair : Fair cfg σ) (k : Nat) :
    ∀ n, measure (run cfg σ n) = k → ∃ m, (run cfg σ m).final = true := by
  induction k using Nat.strongRecOn with
  | _ k ih =>
    intro n hn
    cases hf : (run cfg σ n).final with
    | true => exact ⟨n, hf⟩
    | false =>
      obtain ⟨m, hm⟩ := progress cfg hj σ hfair n hf
      exact ih _ (hn ▸ hm) m rfl

theorem Inv.init (cfg : Config) : Inv cfg.workers (init cfg) :=
  ⟨by simp [ProcFaults.init], by simp [ProcFaults.init], by simp [ProcFaults.init], by simp [ProcFaults.init],
    by simp [ProcFaults.init], rfl, fun h => by cases h⟩

theorem Inv.run (cfg : Config) (hmid : noMidFrame cfg = true) (σ : Nat → Label) (n : Nat) : Inv cfg.workers (run cfg σ n) :=
  run_keeps (fun hf e inv => inv.ev (by simpa [noMidFrame] using hmid) e hf) (fun p inv => inv.pc p) cfg σ (Inv.init cfg) n

/-- in a state left through `break` the children are the workers, each with its pipe closed and reaped -/
theorem Inv.final_map {ws : List Worker} {s : State} (inv : Inv ws s) (hdone : s.done = true) {β : Type} (f : Child → β)
    (g : Worker → β) (h : ∀ c : Child, c.OK → c.pipeOpen = false → c.inTable = false → f c = g c.w) :
    s.kids.map f = ws.map g := by
  obtain ⟨hp, hall⟩ := inv.done_all hdone
  have hw := inv.workers
  rw [hp, List.append_nil] at hw
  rw [← hw, List.map_map]
  exact List.map_congr_left fun c hc => h c (inv.ok c hc) (hall c hc).1 (hall c hc).2

theorem Inv.final_log {ws : List Worker} {s : State} (inv : Inv ws s) (hdone : s.done = true) (r : Report) :
    r ∈ s.log ↔ r ∈ ws.flatMap Worker.reports := by
  rw [inv.log_iff, List.flatMap_def, List.flatMap_def, inv.final_map hdone Child.reports Worker.reports]
  intro c ok hpo hit
  simp [Child.reports, Worker.reports, Worker.delivered, ok.closed_eq hpo, hit]

theorem Inv.final_result {ws : List Worker} {s : State} (inv : Inv ws s) (hdone : s.done = true) :
    s.result = (ws.map Worker.contribution).sum := by
  rw [inv.result_eq, inv.final_map hdone Child.contrib Worker.contribution]
  intro c ok hpo hit
  simp [Child.contrib, Worker.contribution, ok.closed_eq hpo, hit, hpo]

end Cppcheck.ProcFaults
