import Cppcheck.Model.Template
import Cppcheck.Proofs.XmlEsc
import Cppcheck.Proofs.FirstOfKey
/-
C26, text output. A template that tokenizes is a list of segments: literal text without '{' and markers `{name}` with
brace-free names. The text `toString` works on is such a template under a partial valuation of the marker names
(`Rendered`); one `findAndReplace` pass, and one turn of the `{inconclusive:…}` loop, adds one name to the valuation
(`orVal`) and touches nothing else, provided no value put in earlier holds a '{' (`Rendered.scan`). So `toString` is the
simultaneous substitution `Spec.render`.
-/
namespace Cppcheck.Template
open Cppcheck.XmlEsc

theorem farGo_drop (pat to : Str) : ∀ (s : Str) (k : Nat), farGo pat to k s = farGo pat to 0 (s.drop k) := by
  intro s
  induction s with
  | nil => intro k; cases k <;> simp [farGo]
  | cons c r ih =>
    intro k
    cases k with
    | zero => simp
    | succ k => simp [farGo, ih k]

theorem far_cons (pat to : Str) (hp : pat ≠ []) (c : Char) (r : Str) :
    far (c :: r) pat to =
      if pat.isPrefixOf (c :: r) then to ++ far ((c :: r).drop pat.length) pat to else c :: far r pat to := by
  unfold far
  simp only [farGo]
  split
  · rw [farGo_drop]
    cases pat with
    | nil => exact absurd rfl hp
    | cons a t => simp
  · rfl

@[simp] theorem far_nil (pat to : Str) : far [] pat to = [] := by simp [far, farGo]

theorem far_prefix (pat to : Str) (hp : pat ≠ []) (q : Str) : far (pat ++ q) pat to = to ++ far q pat to := by
  cases pat with
  | nil => exact absurd rfl hp
  | cons a t =>
    have h : (a :: t).isPrefixOf (a :: (t ++ q)) = true := by
      rw [List.isPrefixOf_iff_prefix]; exact List.prefix_append (a :: t) q
    have := far_cons (a :: t) to hp a (t ++ q)
    simp only [List.cons_append] at *
    rw [this, if_pos h]
    congr 2
    have : (a :: (t ++ q)) = (a :: t) ++ q := rfl
    rw [this, List.drop_left]

theorem far_skip (h : Char) (t to : Str) (p q : Str) (hp : ∀ c ∈ p, c ≠ h) :
    far (p ++ q) (h :: t) to = p ++ far q (h :: t) to := by
  induction p with
  | nil => rfl
  | cons c p ih =>
    have hc : c ≠ h := hp c (by simp)
    have : (h :: t).isPrefixOf (c :: (p ++ q)) = false := by
      simp [List.isPrefixOf, Ne.symm hc]
    rw [List.cons_append, far_cons _ _ (by simp), this]
    simp only [Bool.false_eq_true, if_false, List.cons_append]
    rw [ih (fun c' hc' => hp c' (by simp [hc']))]

/-- `{name}` -/
def mark (n : Str) : Str := '{' :: (n ++ ['}'])

def noOpen (s : Str) : Prop := ∀ c ∈ s, c ≠ '{'
def noBrace (s : Str) : Prop := ∀ c ∈ s, c ≠ '{' ∧ c ≠ '}'

theorem noBrace.noOpen {s : Str} (h : noBrace s) : noOpen s := fun c hc => (h c hc).1

theorem noOpen_nil : noOpen [] := fun _ h => nomatch h

theorem noOpen_drop {n : Str} (h : noBrace n) (k : Nat) : noOpen (n.drop k) :=
  fun c hc => (h c (List.mem_of_mem_drop hc)).1

theorem noOpen_append {a b : Str} : noOpen (a ++ b) ↔ noOpen a ∧ noOpen b := List.forall_mem_append

theorem noOpen_cons {c : Char} {a : Str} : noOpen (c :: a) ↔ c ≠ '{' ∧ noOpen a := List.forall_mem_cons

def Marker (pat n : Str) : Prop := pat = mark n ∧ noBrace n

theorem prefix_of_noClose : ∀ (p n q : Str), (∀ c ∈ p, c ≠ '}') → p <+: (n ++ '}' :: q) → p <+: n := by
  intro p
  induction p with
  | nil => intro n q _ _; exact List.nil_prefix
  | cons a p ih =>
    intro n q hp hpre
    cases n with
    | nil =>
      simp only [List.nil_append, List.cons_prefix_cons] at hpre
      exact absurd hpre.1 (hp a (by simp))
    | cons b n =>
      simp only [List.cons_append, List.cons_prefix_cons] at hpre ⊢
      exact ⟨hpre.1, ih n q (fun c hc => hp c (by simp [hc])) hpre.2⟩

theorem name_prefix_eq (n n' q : Str) (hn : noBrace n) (hn' : noBrace n') (h : (n ++ ['}']) <+: (n' ++ '}' :: q)) : n = n' := by
  obtain ⟨r, rfl⟩ := prefix_of_noClose n n' q (fun c hc => (hn c hc).2) ((List.prefix_append n _).trans h)
  rw [List.append_assoc, List.prefix_append_right_inj] at h
  cases r with
  | nil => exact (List.append_nil n).symm
  | cons a r =>
    rw [List.cons_append, List.cons_prefix_cons] at h
    exact absurd h.1.symm (hn' a (by simp)).2

theorem mark_ne_nil (n : Str) : mark n ≠ [] := by simp [mark]

theorem mark_append (n q : Str) : mark n ++ q = '{' :: ((n ++ ['}']) ++ q) := rfl

theorem mark_length (n : Str) : (mark n).length = n.length + 2 := by simp [mark]

theorem mark_inj {a b : Str} : mark a = mark b ↔ a = b := by
  constructor
  · intro h
    simp only [mark, List.cons.injEq, true_and] at h
    exact List.append_cancel_right h
  · intro h; rw [h]

theorem mark_beq (a b : Str) : (mark a == mark b) = decide (a = b) := by
  by_cases h : a = b
  · subst h; simp
  · have : mark a ≠ mark b := fun hh => h (mark_inj.mp hh)
    simp [h, this]

theorem mark_tail_noOpen {n : Str} (hn : noBrace n) : noOpen (n ++ ['}']) :=
  noOpen_append.mpr ⟨hn.noOpen, noOpen_cons.mpr ⟨by decide, noOpen_nil⟩⟩

theorem far_other_mark (n n' to q : Str) (hn : noBrace n) (hn' : noBrace n') (hne : n' ≠ n) :
    far (mark n' ++ q) (mark n) to = mark n' ++ far q (mark n) to := by
  have hnp : ¬ (mark n).isPrefixOf (mark n' ++ q) = true := by
    intro h
    rw [List.isPrefixOf_iff_prefix] at h
    simp only [mark, List.cons_append, List.cons_prefix_cons, true_and, List.append_assoc] at h
    exact hne (name_prefix_eq n n' q hn hn' h).symm
  rw [mark_append, far_cons _ _ (mark_ne_nil n), ← mark_append, if_neg hnp, mark,
    far_skip '{' _ to _ q (mark_tail_noOpen hn')]
  rfl

theorem far_mark_ne {pat n pat' n' : Str} (hm : Marker pat n) (hm' : Marker pat' n') (hne : n' ≠ n) (to : Str) :
    far pat' pat to = pat' := by
  obtain ⟨rfl, hn⟩ := hm
  obtain ⟨rfl, hn'⟩ := hm'
  simpa using far_other_mark n n' to [] hn hn' hne

theorem far_mark_self {pat n : Str} (hm : Marker pat n) (to : Str) : far pat pat to = to := by
  obtain ⟨rfl, _⟩ := hm
  simpa using far_prefix (mark n) to (mark_ne_nil n) []

theorem marker_id : Marker "{id}".toList "id".toList := by unfold Marker noBrace; decide +kernel
theorem marker_severity : Marker "{severity}".toList "severity".toList := by unfold Marker noBrace; decide +kernel
theorem marker_cwe : Marker "{cwe}".toList "cwe".toList := by unfold Marker noBrace; decide +kernel
theorem marker_message : Marker "{message}".toList "message".toList := by unfold Marker noBrace; decide +kernel
theorem marker_remark : Marker "{remark}".toList "remark".toList := by unfold Marker noBrace; decide +kernel
theorem marker_callstack : Marker "{callstack}".toList "callstack".toList := by unfold Marker noBrace; decide +kernel
theorem marker_file : Marker "{file}".toList "file".toList := by unfold Marker noBrace; decide +kernel
theorem marker_line : Marker "{line}".toList "line".toList := by unfold Marker noBrace; decide +kernel
theorem marker_column : Marker "{column}".toList "column".toList := by unfold Marker noBrace; decide +kernel
theorem marker_code : Marker "{code}".toList "code".toList := by unfold Marker noBrace; decide +kernel
theorem marker_info : Marker "{info}".toList "info".toList := by unfold Marker noBrace; decide +kernel

def Seg.wf : Seg → Prop
  | .lit s => noOpen s
  | .mk n => noBrace n

def SegsWF (segs : List Seg) : Prop := ∀ s ∈ segs, s.wf

theorem SegsWF_cons {s : Seg} {r : List Seg} : SegsWF (s :: r) ↔ s.wf ∧ SegsWF r := List.forall_mem_cons

theorem flatten_cons (s : Seg) (r : List Seg) : flatten (s :: r) = s.flat ++ flatten r := by
  simp [flatten]

@[simp] theorem flatten_nil : flatten [] = [] := rfl

theorem flatten_append (a b : List Seg) : flatten (a ++ b) = flatten a ++ flatten b := by
  simp [flatten]

def orVal (f g : Str → Option Str) (n : Str) : Option Str :=
  match f n with
  | some v => some v
  | none => g n

def one (n v : Str) : Str → Option Str := fun m => if m = n then some v else none

-- 13 is the length of `incPre` ("inconclusive:"); the 14 of `take_with` counts the opening brace as well
def incVal (inc : Bool) : Str → Option Str := fun m => if incP m then some (if inc then m.drop 13 else []) else none

theorem subst_cons (val : Str → Option Str) (s : Seg) (r : List Seg) : subst val (s :: r) = substSeg val s ++ subst val r := by
  simp [subst]

theorem subst_append (val : Str → Option Str) (a b : List Seg) : subst val (a ++ b) = subst val a ++ subst val b := by
  simp [subst]

theorem subst_none (segs : List Seg) : subst (fun _ => none) segs = flatten segs := by
  simp only [flatten, subst]; congr 1

theorem orVal_assoc (f g h : Str → Option Str) : orVal (orVal f g) h = orVal f (orVal g h) := by
  funext n; simp only [orVal]; cases f n <;> rfl

theorem orVal_none (g : Str → Option Str) : orVal (fun _ => none) g = g := rfl

theorem orVal_none_right (f : Str → Option Str) : orVal f (fun _ => none) = f := by
  funext n; unfold orVal; cases f n <;> rfl

theorem orVal_one (n v : Str) (g : Str → Option Str) (m : Str) : orVal (one n v) g m = if m = n then some v else g m := by
  unfold orVal one
  by_cases h : m = n
  · simp only [if_pos h]
  · simp only [if_neg h]

theorem orVal_incVal (inc : Bool) (g : Str → Option Str) (m : Str) :
    orVal (incVal inc) g m = if incP m then some (if inc then m.drop 13 else []) else g m := by
  unfold orVal incVal; cases incP m <;> rfl

def ValsOK (val : Str → Option Str) : Prop := ∀ n v, noBrace n → val n = some v → noOpen v

theorem ValsOK.none : ValsOK (fun _ => none) := fun _ _ _ h => by simp at h

theorem ValsOK.one {v : Str} (n : Str) (hv : noOpen v) : ValsOK (one n v) := by
  intro m w _ h
  simp only [Template.one] at h
  split at h
  · simp only [Option.some.injEq] at h; exact h ▸ hv
  · simp at h

theorem ValsOK.incVal (inc : Bool) : ValsOK (incVal inc) := by
  intro m w hm h
  simp only [Template.incVal] at h
  split at h
  · simp only [Option.some.injEq] at h
    subst h
    split
    · exact noOpen_drop hm 13
    · exact noOpen_nil
  · simp at h

theorem ValsOK.or {f g : Str → Option Str} (hf : ValsOK f) (hg : ValsOK g) : ValsOK (orVal f g) := by
  intro n v hn h
  simp only [orVal] at h
  cases hfn : f n with
  | some w => rw [hfn] at h; simp only [Option.some.injEq] at h; exact h ▸ hf n w hn hfn
  | none => rw [hfn] at h; exact hg n v hn h

/-- the invariant of the passes of `toString`: `val` is what the passes so far add up to, `r` what they made of `segs` -/
structure Rendered (segs : List Seg) (val : Str → Option Str) (r : Str) : Prop where
  wf : SegsWF segs
  ok : ValsOK val
  eq : r = subst val segs

namespace Rendered
variable {segs : List Seg} {val : Str → Option Str} {r : Str}

theorem init (hwf : SegsWF segs) : Rendered segs (fun _ => none) (flatten segs) := ⟨hwf, .none, (subst_none segs).symm⟩

/-- a pass that copies text without '{' and puts `w n` for a marker `{n}`, or copies it, adds `w` to the valuation:
    a value put in earlier holds no '{' and is copied -/
theorem scan (h : Rendered segs val r) (sc : Str → Str) (w : Str → Option Str) (hnil : sc [] = [])
    (hlit : ∀ t q, noOpen t → sc (t ++ q) = t ++ sc q)
    (hmk : ∀ n q, noBrace n → sc (mark n ++ q) = (w n).getD (mark n) ++ sc q) : sc r = subst (orVal val w) segs := by
  obtain ⟨hwf, hval, rfl⟩ := h
  induction segs with
  | nil => exact hnil
  | cons s r ih =>
    obtain ⟨hs, hr⟩ := SegsWF_cons.mp hwf
    rw [subst_cons, subst_cons, ← ih hr]
    cases s with
    | lit t => exact hlit t _ hs
    | mk n =>
      simp only [substSeg, orVal]
      cases hv : val n with
      | some v => exact hlit v _ (hval n v hs hv)
      | none => exact hmk n _ hs

theorem far_eq (h : Rendered segs val r) {pat n : Str} (hm : Marker pat n) (v : Str) :
    far r pat v = subst (orVal val (one n v)) segs := by
  obtain ⟨rfl, hn⟩ := hm
  exact h.scan (far · (mark n) v) (one n v) (far_nil _ _) (fun t q ht => far_skip '{' _ v t q ht) fun n' q hn' => by
    unfold one
    split
    · rename_i h; subst h; exact far_prefix _ _ (mark_ne_nil _) _
    · rename_i h; exact far_other_mark n n' v q hn hn' h

theorem far (h : Rendered segs val r) {pat n v : Str} (hm : Marker pat n) (hv : noOpen v) :
    Rendered segs (orVal val (one n v)) (far r pat v) := ⟨h.wf, h.ok.or (.one n hv), h.far_eq hm v⟩

end Rendered

theorem find_zero (pat s : Str) : find pat s 0 = findFrom pat s 0 := by simp [find]

theorem find_append_left (pat p q : Str) : find pat (p ++ q) p.length = findFrom pat q p.length := by
  unfold find
  rw [if_pos (by simp), List.drop_left]

theorem findFrom_skip (h : Char) (t : Str) : ∀ (p q : Str) (i : Nat), (∀ c ∈ p, c ≠ h) →
    findFrom (h :: t) (p ++ q) i = findFrom (h :: t) q (i + p.length) := by
  intro p
  induction p with
  | nil => intro q i _; simp
  | cons c p ih =>
    intro q i hp
    have hc : c ≠ h := hp c (by simp)
    have : (h :: t).isPrefixOf (c :: (p ++ q)) = false := by simp [List.isPrefixOf, Ne.symm hc]
    simp only [List.cons_append, findFrom, this, Bool.false_eq_true, if_false]
    rw [ih q (i + 1) (fun c' hc' => hp c' (by simp [hc']))]
    simp [Nat.add_assoc, Nat.add_comm 1]

theorem findFrom_hit (pat : Str) (c : Char) (r : Str) (i : Nat) (h : pat.isPrefixOf (c :: r) = true) :
    findFrom pat (c :: r) i = some i := by
  simp [findFrom, h]

/-- an `{inconclusive:…}` marker that the valuation has not replaced yet -/
def Seg.pending (val : Str → Option Str) : Seg → Bool
  | .lit _ => false
  | .mk n => incP n && (val n).isNone

theorem mInc_eq : mInc = '{' :: incPre := by decide +kernel

theorem incPre_noClose : ∀ c ∈ incPre, c ≠ '}' := by decide +kernel

theorem mInc_prefix_mark (n q : Str) : mInc.isPrefixOf (mark n ++ q) = true → incP n = true := by
  intro h
  rw [List.isPrefixOf_iff_prefix, mInc_eq] at h
  simp only [mark, List.cons_append, List.cons_prefix_cons, true_and, List.append_assoc] at h
  unfold incP
  rw [List.isPrefixOf_iff_prefix]
  exact prefix_of_noClose incPre n q incPre_noClose h

theorem mInc_prefix_of_incP (n q : Str) (h : incP n = true) : mInc.isPrefixOf (mark n ++ q) = true := by
  unfold incP at h
  rw [List.isPrefixOf_iff_prefix] at h ⊢
  rw [mInc_eq]
  simp only [mark, List.cons_append, List.cons_prefix_cons, true_and, List.append_assoc]
  exact List.IsPrefix.trans h (List.prefix_append n _)

theorem findFrom_skip_segs {val : Str → Option Str} (hval : ValsOK val) : ∀ (A : List Seg) (q : Str) (i : Nat), SegsWF A →
    (∀ s ∈ A, s.pending val = false) →
    findFrom mInc (subst val A ++ q) i = findFrom mInc q (i + (subst val A).length) := by
  intro A
  induction A with
  | nil => intro q i _ _; rfl
  | cons s r ih =>
    intro q i hwf hni
    obtain ⟨hs, hr⟩ := SegsWF_cons.mp hwf
    obtain ⟨hi, hnr⟩ := List.forall_mem_cons.mp hni
    rw [subst_cons, List.append_assoc, List.length_append, ← Nat.add_assoc, ← ih q _ hr hnr]
    have hplain : ∀ t : Str, noOpen t → findFrom mInc (t ++ (subst val r ++ q)) i = findFrom mInc (subst val r ++ q) (i + t.length) :=
      fun t ht => by rw [mInc_eq]; exact findFrom_skip '{' incPre t _ i ht
    cases s with
    | lit t => exact hplain t hs
    | mk n =>
      simp only [substSeg]
      cases hv : val n with
      | some v => exact hplain v (hval n v hs hv)
      | none =>
        have hnp : ¬ mInc.isPrefixOf (mark n ++ (subst val r ++ q)) = true := fun h => by
          rw [Seg.pending, mInc_prefix_mark n _ h, hv] at hi; cases hi
        show findFrom mInc (mark n ++ _) i = findFrom mInc _ (i + (mark n).length)
        rw [mark_append, findFrom, ← mark_append, if_neg hnp, mInc_eq,
          findFrom_skip '{' incPre _ _ (i + 1) (mark_tail_noOpen hs), mark_length, List.length_append]
        congr 1
        simp only [List.length_singleton]; omega

theorem subst_orVal_of_not_pending {val g : Str → Option Str} (hg : ∀ m, incP m = false → g m = none) (A : List Seg)
    (hA : ∀ s ∈ A, s.pending val = false) : subst (orVal val g) A = subst val A := by
  simp only [subst, List.flatMap_def]
  rw [List.map_congr_left fun s hs => ?_]
  cases s with
  | lit t => rfl
  | mk m =>
    simp only [substSeg, orVal]
    cases hv : val m with
    | some v => rfl
    | none => rw [hg m (by simpa [Seg.pending, hv] using hA _ hs)]

theorem pending_orVal (val g : Str → Option Str) (s : Seg) : s.pending (orVal val g) = true → s.pending val = true := by
  cases s with
  | lit t => exact id
  | mk m =>
    simp only [Seg.pending, orVal, Bool.and_eq_true]
    cases val m with
    | none => exact fun h => ⟨h.1, rfl⟩
    | some v => exact fun h => by simp at h

theorem orVal_one_incVal (inc : Bool) {n : Str} (hn : incP n = true) :
    orVal (one n (if inc then n.drop 13 else [])) (incVal inc) = incVal inc := by
  funext m
  rw [orVal_one]
  split
  · rename_i h; subst h; simp only [incVal, hn, if_true]
  · rfl

theorem close_pos (pa n fb : Str) (hn : noBrace n) :
    find ['}'] (pa ++ (mark n ++ fb)) (pa.length + 1) = some (pa.length + 1 + n.length) := by
  unfold find
  have hlen : pa.length + 1 ≤ (pa ++ (mark n ++ fb)).length := by simp [mark]
  rw [if_pos hlen]
  have hd : (pa ++ (mark n ++ fb)).drop (pa.length + 1) = n ++ ('}' :: fb) := by
    rw [List.drop_length_add_append]; simp [mark]
  rw [hd, findFrom_skip '}' [] n ('}' :: fb) (pa.length + 1) (fun c hc => (hn c hc).2)]
  exact findFrom_hit ['}'] '}' fb _ (by simp [List.isPrefixOf])

theorem take_from (pa n fb : Str) :
    ((pa ++ (mark n ++ fb)).drop pa.length).take (pa.length + 1 + n.length - pa.length + 1) = mark n := by
  rw [List.drop_left]
  have : pa.length + 1 + n.length - pa.length + 1 = (mark n).length := by rw [mark_length]; omega
  rw [this, List.take_left]

theorem take_with (pa n fb : Str) (hn : incP n = true) :
    ((pa ++ (mark n ++ fb)).drop (pa.length + 14)).take (pa.length + 1 + n.length - pa.length - 14) = n.drop 13 := by
  have h13 : incPre.length = 13 := by decide +kernel
  obtain ⟨d, rfl⟩ : incPre <+: n := List.isPrefixOf_iff_prefix.mp hn
  have hm : mark (incPre ++ d) ++ fb = ('{' :: incPre) ++ (d ++ '}' :: fb) := by simp [mark]
  rw [List.drop_length_add_append, hm, List.drop_left' (by rw [List.length_cons, h13]), List.drop_left' h13]
  exact List.take_left' (by rw [List.length_append, h13]; omega)

/-- every iteration replaces the first pending marker `{n}` and its copies, i.e. adds `n ↦ …`; so `fuel` > number of
    pending segments is enough -/
theorem inconclusiveLoop_subst (brk inc : Bool) {segs : List Seg} (hwf : SegsWF segs) : ∀ (fuel : Nat) (val : Str → Option Str),
    ValsOK val → segs.countP (Seg.pending val) < fuel →
    inconclusiveLoop brk inc fuel (subst val segs) (findFrom mInc (subst val segs) 0) =
      some (subst (orVal val (incVal inc)) segs) := by
  intro fuel
  induction fuel with
  | zero => intro val _ h; omega
  | succ fuel ih =>
    intro val hval hcnt
    cases hf : segs.find? (Seg.pending val) with
    | none =>
      have hnone : ∀ s ∈ segs, s.pending val = false := by simpa using hf
      have h0 : findFrom mInc (subst val segs) 0 = none := by
        have := findFrom_skip_segs hval segs [] 0 hwf hnone
        simp only [List.append_nil] at this
        rw [this, mInc_eq]; simp [findFrom]
      rw [h0, subst_orVal_of_not_pending (fun m hm => by simp only [incVal, hm]; rfl) segs hnone]
      rfl
    | some s =>
      obtain ⟨hn, A, B, rfl, hA⟩ := List.find?_eq_some_iff_append.mp hf
      replace hA : ∀ s ∈ A, s.pending val = false := fun s hs => by simpa using hA s hs
      cases s with
      | lit t => cases hn
      | mk n =>
        obtain ⟨hn, hvn⟩ : incP n = true ∧ val n = none := by simpa [Seg.pending] using hn
        have hwfA : SegsWF A := fun x hx => hwf x (by simp [hx])
        have hnb : noBrace n := hwf (.mk n) (by simp)
        have hs : subst val (A ++ Seg.mk n :: B) = subst val A ++ (mark n ++ subst val B) := by
          rw [subst_append, subst_cons]; simp only [substSeg, hvn]; rfl
        have h0 : findFrom mInc (subst val (A ++ Seg.mk n :: B)) 0 = some (subst val A).length := by
          have hp := mInc_prefix_of_incP n (subst val B) hn
          rw [mark_append] at hp
          rw [hs, findFrom_skip_segs hval A _ 0 hwfA hA, mark_append, findFrom_hit mInc _ _ _ hp, Nat.zero_add]
        rw [h0]
        simp only [inconclusiveLoop]
        rw [hs, close_pos (subst val A) n (subst val B) hnb]
        simp only [take_from, take_with (subst val A) n (subst val B) hn]
        have hwo : noOpen (if inc = true then n.drop 13 else []) := by
          split
          · exact noOpen_drop hnb 13
          · exact noOpen_nil
        have hone : ∀ m, incP m = false → one n (if inc = true then n.drop 13 else []) m = none := fun m hm => by
          simp only [one]; split
          · rename_i h; rw [h, hn] at hm; cases hm
          · rfl
        have hor := orVal_one_incVal inc hn
        generalize (if inc = true then n.drop 13 else []) = w at hwo hone hor ⊢
        have hcnt' : (A ++ Seg.mk n :: B).countP (Seg.pending (orVal val (one n w))) < fuel := by
          have hle : ∀ l : List Seg, l.countP (Seg.pending (orVal val (one n w))) ≤ l.countP (Seg.pending val) :=
            fun l => List.countP_mono_left fun s _ => pending_orVal _ _ s
          have h1 : Seg.pending (orVal val (one n w)) (Seg.mk n) = false := by simp [Seg.pending, orVal, hvn, one]
          have h2 : Seg.pending val (Seg.mk n) = true := by simp [Seg.pending, hvn, hn]
          have := hle A
          have := hle B
          simp only [List.countP_append, List.countP_cons, h1, h2, if_true, Bool.false_eq_true, if_false] at hcnt ⊢
          omega
        -- the search restarts at `|A|`; a search from 0 skips `A` as well
        have hrestart : find mInc (subst (orVal val (one n w)) (A ++ Seg.mk n :: B)) (subst val A).length =
            findFrom mInc (subst (orVal val (one n w)) (A ++ Seg.mk n :: B)) 0 := by
          rw [subst_append, subst_orVal_of_not_pending hone A hA, find_append_left, findFrom_skip_segs hval A _ 0 hwfA hA,
            Nat.zero_add]
        rw [← hs, Rendered.far_eq ⟨hwf, hval, rfl⟩ ⟨rfl, hnb⟩ w, hrestart, ih _ (hval.or (.one n hwo)) hcnt', orVal_assoc, hor]

theorem countP_pending_le_length (val : Str → Option Str) : ∀ segs : List Seg,
    segs.countP (Seg.pending val) ≤ (subst val segs).length := by
  intro segs
  induction segs with
  | nil => simp
  | cons s r ih =>
    rw [subst_cons, List.countP_cons, List.length_append]
    have : (if s.pending val = true then 1 else 0) ≤ (substSeg val s).length := by
      cases s with
      | lit t => simp [Seg.pending]
      | mk n =>
        cases hv : val n <;> simp [Seg.pending, substSeg, hv]
        split <;> omega
    omega

theorem Rendered.inc {segs : List Seg} {val : Str → Option Str} {r : Str} (h : Rendered segs val r) (brk inc : Bool) :
    ∃ r', inconclusiveLoop brk inc (r.length + 1) r (find mInc r 0) = some r' ∧ Rendered segs (orVal val (incVal inc)) r' := by
  refine ⟨_, ?_, h.wf, h.ok.or (.incVal inc), rfl⟩
  rw [h.eq, find_zero, inconclusiveLoop_subst brk inc h.wf _ val h.ok (Nat.lt_succ_of_le (countP_pending_le_length val segs))]

/- `replace(std::string&, const unordered_map&)`, the empty-call-stack branch of `toString`. -/
theorem replaceMapGo_drop (m : List (Str × Str)) : ∀ (s : Str) (k : Nat) (st : Bool),
    replaceMapGo m k st s = replaceMapGo m 0 st (s.drop k) := by
  intro s
  induction s with
  | nil => intro k st; cases k <;> simp [replaceMapGo]
  | cons c r ih =>
    intro k st
    cases k with
    | zero => simp
    | succ k => simp [replaceMapGo, ih k st]

theorem replaceMapGo_skip (m : List (Str × Str)) : ∀ (p q : Str), noOpen p →
    replaceMapGo m 0 false (p ++ q) = p ++ replaceMapGo m 0 false q := by
  intro p
  induction p with
  | nil => intro q _; rfl
  | cons c p ih =>
    intro q hp
    have hc : c ≠ '{' := hp c (by simp)
    simp only [List.cons_append, replaceMapGo, hc, if_false]
    rw [ih q (fun c' hc' => hp c' (by simp [hc']))]

theorem Rendered.replaceMap_eq {segs : List Seg} {val : Str → Option Str} {r : Str} (h : Rendered segs val r) (m : List (Str × Str)) :
    replaceMap m r = subst (orVal val fun n => m.lookup (mark n)) segs :=
  h.scan (replaceMap m) _ rfl (replaceMapGo_skip m) fun n q hn => by
    have hlen : n.length + 1 = (n ++ ['}']).length := (List.length_append (bs := ['}'])).symm
    have hfind : findFrom ['}'] ((n ++ ['}']) ++ q) 0 = some n.length := by
      rw [List.append_assoc, findFrom_skip '}' [] n _ 0 (fun c hc => (hn c hc).2), Nat.zero_add]
      exact findFrom_hit ['}'] '}' _ _ rfl
    unfold replaceMap
    rw [mark_append]
    simp only [replaceMapGo, if_true, hfind, hlen, List.take_left]
    rw [← mark]
    cases m.lookup (mark n) with
    | some v => rw [replaceMapGo_drop, List.drop_left]; rfl
    | none => rw [replaceMapGo_skip m _ _ (mark_tail_noOpen hn)]; rfl

theorem digit_ne : ∀ m, m < 10 → Char.ofNat (48 + m) ≠ '{' := by decide

theorem natDec_noOpen (n : Nat) : noOpen (natDec n) := natDec_all digit_ne n

theorem intDec_noOpen (i : Int) : noOpen (intDec i) := intDec_all digit_ne (by decide) i

theorem sevStr_noOpen (n : Nat) : noOpen (sevStr n) :=
  fun c hc e => absurd (e ▸ (sevStr_lower n c hc).2) (by decide)

theorem toNative_noOpen {s : Str} (h : noOpen s) : noOpen (toNative s) := by
  intro c hc
  simp only [toNative, List.mem_map] at hc
  obtain ⟨a, ha, rfl⟩ := hc
  split
  · decide
  · exact h a ha

theorem stringify_noOpen (l : Loc) (h : noOpen l.file) : noOpen (stringify l) := by
  unfold stringify
  simp only [noOpen_cons, noOpen_append]
  refine ⟨by decide, ⟨toNative_noOpen h, ?_⟩, by decide, noOpen_nil⟩
  split
  · exact noOpen_cons.mpr ⟨by decide, noOpen_append.mpr ⟨intDec_noOpen _, noOpen_nil⟩⟩
  · exact noOpen_nil

theorem callStackToString_noOpen : ∀ st : List Loc, (∀ l ∈ st, noOpen l.file) → noOpen (callStackToString st) := by
  intro st
  induction st with
  | nil => intro _; exact noOpen_nil
  | cons l r ih =>
    intro h
    obtain ⟨hl, hr⟩ := List.forall_mem_cons.mp h
    cases r with
    | nil => exact stringify_noOpen l hl
    | cons l2 r2 =>
      simp only [callStackToString, noOpen_append]
      exact ⟨⟨stringify_noOpen l hl, by unfold noOpen; decide +kernel⟩, ih hr⟩

theorem lookup_mark_cons (b w : Str) (r : List (Str × Str)) :
    (fun n => List.lookup (mark n) ((mark b, w) :: r)) = orVal (one b w) (fun n => List.lookup (mark n) r) := by
  funext n
  rw [orVal_one]
  simp only [List.lookup, mark_beq]
  by_cases h : n = b
  · simp only [h, decide_true, if_true]
  · simp only [h, decide_false, if_false]

theorem lookup_mark_nil : (fun n => List.lookup (mark n) ([] : List (Str × Str))) = fun _ => none := rfl

theorem noStackMap_eq : noStackMap = [(mark "callstack".toList, []), (mark "file".toList, "nofile".toList),
    (mark "line".toList, ['0']), (mark "column".toList, ['0']), (mark "code".toList, [])] := by decide +kernel

def substOne (n v : Str) : Seg → Seg
  | .lit s => .lit s
  | .mk n' => if n' = n then .lit v else .mk n'

def substInc (inc : Bool) : Seg → Seg
  | .lit s => .lit s
  | .mk n => if incP n then .lit (if inc then n.drop 13 else []) else .mk n

/-- the passes before the call-stack fields: id, inconclusive, severity, cwe, message, remark -/
def chainHead (e : Env) (s : Seg) : Seg :=
  substOne "remark".toList e.remark (substOne "message".toList e.message (substOne "cwe".toList e.cwe
    (substOne "severity".toList e.severity (substInc e.inconclusive (substOne "id".toList e.id s)))))

theorem chainHead_lit (e : Env) (t : Str) : chainHead e (.lit t) = .lit t := rfl

/-- no field value that is substituted *before* another pass holds a '{' -/
structure ValuesOK (f : Finding) (verbose : Bool) : Prop where
  id : noOpen (if f.guideline = [] then f.id else f.guideline)
  cls : noOpen f.classification
  msg : noOpen (if verbose then f.verboseMsg else f.shortMsg)
  remark : noOpen f.remark
  files : ∀ l ∈ f.stack, noOpen l.file

theorem Env.value_eq (e : Env) : e.value = orVal e.valueNoCode (one "code".toList e.code) := by
  funext n; unfold Env.value orVal one; cases e.valueNoCode n <;> rfl

theorem Env.valueNoCode_eq (e : Env) : e.valueNoCode =
    orVal (one "id".toList e.id) (orVal (incVal e.inconclusive) (orVal (one "severity".toList e.severity)
      (orVal (one "cwe".toList e.cwe) (orVal (one "message".toList e.message) (orVal (one "remark".toList e.remark)
        (orVal (one "callstack".toList e.callstack) (orVal (one "file".toList e.file) (orVal (one "line".toList e.line)
          (one "column".toList e.column))))))))) := by
  funext m; simp only [orVal_one, orVal_incVal]; rfl

theorem mainText_eq_spec (brk : Bool) (src : Loc → Str) (f : Finding) (verbose : Bool) (segs : List Seg) (hwf : SegsWF segs)
    (hv : ValuesOK f verbose) : mainText brk src f verbose (flatten segs) = some (Spec.renderMain src f verbose segs) := by
  have hsev : noOpen (if f.classification = [] then sevStr f.severity else f.classification) := by
    split
    · exact sevStr_noOpen _
    · exact hv.cls
  obtain ⟨r, hr, h⟩ := ((Rendered.init hwf).far marker_id hv.id).inc brk f.inconclusive
  replace h := (((h.far marker_severity hsev).far marker_cwe (natDec_noOpen f.cwe)).far marker_message hv.msg).far marker_remark hv.remark
  unfold mainText Spec.renderMain
  simp only []  -- reduces the `let`s of the unfolded bodies (here and below)
  rw [hr]
  cases hlast : f.stack.getLast? with
  | some last =>
    replace h := (((h.far marker_callstack (callStackToString_noOpen _ hv.files)).far marker_file
      (toNative_noOpen (hv.files last (List.mem_of_getLast? hlast)))).far marker_line (intDec_noOpen last.line)).far marker_column
      (natDec_noOpen last.column)
    simp only []
    rw [h.far_eq marker_code, h.eq]
    -- the nine passes add up to `valueNoCode` of the environment, whatever its `code` field: both phases of
    -- `Spec.renderMain` substitute the same `W`
    generalize hW : orVal _ (one "column".toList _) = W
    have hE : ∀ c, (envOf f verbose c).valueNoCode = W := by
      intro c
      rw [← hW, Env.valueNoCode_eq]
      simp only [orVal_assoc, orVal_none, envOf, hlast]
    rw [Env.value_eq, hE, hE, codeOf, hlast]
    rfl
  | none =>
    simp only []
    rw [h.replaceMap_eq, Env.value_eq, Env.valueNoCode_eq, noStackMap_eq]
    have hcs : callStackToString f.stack = [] := by rw [List.getLast?_eq_none_iff.mp hlast]; rfl
    simp only [orVal_assoc, orVal_none, orVal_none_right, lookup_mark_cons, lookup_mark_nil, envOf, hlast, codeOf, hcs]

theorem locValueNoCode_eq (l : Loc) (shortMsg : Str) : locValueNoCode l shortMsg =
    orVal (one "file".toList (toNative l.file)) (orVal (one "line".toList (intDec l.line))
      (orVal (one "column".toList (natDec l.column)) (one "info".toList (if l.info = [] then shortMsg else l.info)))) := by
  funext m; simp only [orVal_one]; rfl

theorem locValue_eq (l : Loc) (shortMsg code : Str) :
    locValue l shortMsg code = orVal (locValueNoCode l shortMsg) (one "code".toList code) := by
  funext n; unfold locValue orVal one; cases locValueNoCode l shortMsg n <;> rfl

theorem locText_eq_spec (src : Loc → Str) (shortMsg : Str) (segs : List Seg) (l : Loc) (hwf : SegsWF segs)
    (hfile : noOpen l.file) (hinfo : noOpen (if l.info = [] then shortMsg else l.info)) :
    locText src shortMsg (flatten segs) l = Spec.renderLoc src shortMsg segs l := by
  have h := ((((Rendered.init hwf).far marker_file (toNative_noOpen hfile)).far marker_line (intDec_noOpen l.line)).far marker_column
    (natDec_noOpen l.column)).far marker_info hinfo
  unfold locText Spec.renderLoc
  simp only []
  rw [h.far_eq marker_code, h.eq, locValue_eq, locValueNoCode_eq]
  simp only [orVal_assoc, orVal_none]

/-- the location infos matter only when location lines are printed -/
theorem toString_eq_spec (brk : Bool) (src : Loc → Str) (f : Finding) (verbose : Bool) (segsF segsL : List Seg)
    (hF : SegsWF segsF) (hL : SegsWF segsL) (hv : ValuesOK f verbose)
    (hl : flatten segsL ≠ [] ∧ 2 ≤ f.stack.length → ∀ l ∈ f.stack, noOpen (if l.info = [] then f.shortMsg else l.info)) :
    toString brk src f verbose (flatten segsF) (flatten segsL) = some (Spec.render src f verbose segsF segsL) := by
  unfold toString Spec.render
  rw [mainText_eq_spec brk src f verbose segsF hF hv]
  simp only []
  congr 1
  split
  · rename_i hc
    rw [List.flatMap_def, List.flatMap_def, List.map_congr_left fun l hmem => by
      rw [locText_eq_spec src f.shortMsg segsL l hL (hv.files l hmem) (hl hc l hmem)]]
  · simp

theorem flushLit_flat (cur : Str) (acc : List Seg) : flatten (flushLit cur acc).reverse = flatten acc.reverse ++ cur.reverse := by
  unfold flushLit
  split
  · rename_i h; simp at h; simp [h]
  · simp [flatten_append, flatten_cons, Seg.flat]

theorem flushLit_wf (cur : Str) (acc : List Seg) (hc : noOpen cur) (ha : SegsWF acc) : SegsWF (flushLit cur acc) := by
  unfold flushLit
  split
  · exact ha
  · intro s hs
    simp only [List.mem_cons] at hs
    rcases hs with rfl | hs
    · intro c hcm; exact hc c (by simpa using hcm)
    · exact ha s hs

/-- `parseTemplate` only cuts: the segments spell the template, literal text has no '{', names no brace -/
theorem parseGo_spec (t : Str) (st : Option Str) (cur : Str) (acc segs : List Seg) :
    parseGo t st cur acc = some segs → noOpen cur → (∀ n, st = some n → noBrace n) → SegsWF acc →
    SegsWF segs ∧ flatten segs = flatten acc.reverse ++ (match st with | none => cur.reverse | some n => '{' :: n.reverse) ++ t := by
  -- in the order of the branches of `parseGo`: end of the text outside / inside a marker; outside a marker `{`, another
  -- character; inside a marker `{`, `}`, another character
  fun_induction parseGo t st cur acc with
  | case1 cur acc =>
    intro h hc _ ha
    cases h
    exact ⟨fun s hs => flushLit_wf cur acc hc ha s (List.mem_reverse.mp hs), by simp [flushLit_flat]⟩
  | case2 => intro h; cases h
  | case3 r cur acc ih =>
    intro h hc _ ha
    have := ih h noOpen_nil (fun n hn => by cases hn; exact fun _ hx => nomatch hx) (flushLit_wf cur acc hc ha)
    exact ⟨this.1, by rw [this.2, flushLit_flat]; simp⟩
  | case4 c r cur acc hcb ih =>
    intro h hc _ ha
    have := ih h (noOpen_cons.mpr ⟨hcb, hc⟩) (fun n hn => nomatch hn) ha
    exact ⟨this.1, by rw [this.2]; simp⟩
  | case5 => intro h; cases h
  | case6 r n cur acc _ ih =>
    intro h _ hn ha
    have hwf : SegsWF (Seg.mk n.reverse :: acc) := SegsWF_cons.mpr ⟨fun x hx => hn n rfl x (List.mem_reverse.mp hx), ha⟩
    have := ih h noOpen_nil (fun n hn => nomatch hn) hwf
    exact ⟨this.1, by rw [this.2]; simp [flatten_append, flatten_cons, Seg.flat]⟩
  | case7 c r n cur acc hc1 hc2 ih =>
    intro h hc hn ha
    have := ih h hc (fun m hm => by cases hm; exact List.forall_mem_cons.mpr ⟨⟨hc1, hc2⟩, hn n rfl⟩) ha
    exact ⟨this.1, by rw [this.2]; simp⟩

theorem parseTemplate_spec (t : Str) (segs : List Seg) (h : parseTemplate t = some segs) :
    SegsWF segs ∧ flatten segs = t := by
  have := parseGo_spec t none [] [] segs h (fun x hx => by simp at hx) (fun n hn => by simp at hn)
    (fun s hs => by simp at hs)
  simpa using this

theorem openFree_noOpen {s : Str} (h : openFree s = true) : noOpen s := by
  intro c hc
  unfold openFree at h
  rw [List.all_eq_true] at h
  have := h c hc
  simpa using this

theorem stdLoggerGo_eq (render : Finding → Str) (fs : List Finding) (shown : List Str) :
    stdLoggerGo render fs shown = FirstOfKey.firsts render shown (fs.filter fun f => f.severity ≠ 8) := by
  fun_induction stdLoggerGo render fs shown with
  | case1 => rfl
  | case2 g r shown hsev ih => rw [ih, List.filter_cons_of_neg (by simpa using hsev)]
  | case3 g r shown hsev hshown ih =>
    rw [ih, List.filter_cons_of_pos (by simpa using hsev), FirstOfKey.firsts, if_pos (by simpa using hshown)]
  | case4 g r shown hsev hshown ih =>
    rw [ih, List.filter_cons_of_pos (by simpa using hsev), FirstOfKey.firsts, if_neg (by simpa using hshown)]

theorem stdLogger_eq (render : Finding → Str) (fs : List Finding) :
    stdLogger render fs = FirstOfKey.firsts render [] (fs.filter fun f => f.severity ≠ 8) := stdLoggerGo_eq render fs []

end Cppcheck.Template
