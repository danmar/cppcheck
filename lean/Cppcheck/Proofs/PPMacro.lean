import Cppcheck.Model.PPMacro
/-
helper lemmas for C11 / C06 (macros): the ifstates machine against the group semantics; -D / -U; what a directive does to the
state (`DirStep`), and with it the directive loop against `dui.undefined` and against the abstract inclusion machine (`LineOK`);
the equations of `expand`; replacement lists without macro names and without `#`, where replacement is substitution of the parameters
(object-like, then function-like with the context `argCtx` in which arguments are replaced).
The termination facts of `expand` stand with its definition in Model/PPMacro.
-/
namespace Cppcheck.PPMacro
open Cppcheck.PPCond

/-! ## conditional inclusion -/

/-- the state of the innermost section `s` agrees with (enclosing group processed, a group of the section already taken) -/
def RelS (a taken : Bool) (s : IfState) : Prop :=
  (a = false → s = .alwaysFalse) ∧ (a = true → taken = false → s = .elseIsTrue) ∧
  (a = true → taken = true → s = .tru ∨ s = .alwaysFalse)

theorem top_cons (s : IfState) (st : IfStack) : top (s :: st) = s := rfl

theorem RelS_open (s : IfState) (c : Bool) :
    RelS (s == .tru) c (if s != .tru then .alwaysFalse else if c then .tru else .elseIsTrue) ∧
    ((if s != .tru then IfState.alwaysFalse else if c then .tru else .elseIsTrue) == .tru) = ((s == .tru) && c) := by
  unfold RelS; cases s <;> cases c <;> decide

theorem RelS_else {a taken : Bool} {s : IfState} (h : RelS a taken s) :
    ((if s == .elseIsTrue then IfState.tru else .alwaysFalse) == .tru) = (a && !taken) := by
  obtain ⟨h1, h2, h3⟩ := h
  cases a <;> cases taken
  · rw [h1 rfl]; rfl
  · rw [h1 rfl]; rfl
  · rw [h2 rfl rfl]; rfl
  · rcases h3 rfl rfl with h | h <;> rw [h] <;> rfl

theorem RelS_elif {a taken : Bool} {s : IfState} (c : Bool) (h : RelS a taken s) :
    RelS a (taken || c) (if s == .tru then .alwaysFalse else if (s == .elseIsTrue && c) then .tru else s) ∧
    ((if s == .tru then IfState.alwaysFalse else if (s == .elseIsTrue && c) then .tru else s) == .tru) = (a && !taken && c) := by
  obtain ⟨h1, h2, h3⟩ := h
  unfold RelS
  cases a <;> cases taken
  · rw [h1 rfl]; cases c <;> decide
  · rw [h1 rfl]; cases c <;> decide
  · rw [h2 rfl rfl]; cases c <;> decide
  · rcases h3 rfl rfl with h | h <;> rw [h] <;> cases c <;> decide

/- stated with the lines `k` that follow, so that the induction goes through nested sections: a section's body is followed by its tail -/
mutual
theorem items_run : ∀ (its : Items) (st : IfStack) (k : List CLine),
    runC st (its.flat ++ k) = (runC st k).map (its.incl (top st == .tru) ++ ·)
  | .nil, st, k => by simp [Items.flat, Items.incl]
  | .cons i r, st, k => by
    rw [Items.flat, List.append_assoc, item_run i st, items_run r st k]
    cases runC st k <;> simp [Items.incl]
theorem item_run : ∀ (i : Item) (st : IfStack) (k : List CLine),
    runC st (i.flat ++ k) = (runC st k).map (i.incl (top st == .tru) ++ ·)
  | .text n, st, k => by
    simp only [Item.flat, List.cons_append, List.nil_append, runC, Item.incl]
    cases runC st k with
    | none => simp
    | some r =>
      simp
      split <;> simp
  | .sect c body tail, st, k => by
    obtain ⟨hr, e⟩ := RelS_open (top st) c
    simp only [Item.flat, List.cons_append, List.append_assoc, runC, ifOpen]
    rw [items_run body _ (tail.flat ++ k), top_cons, e, tail_run tail st _ k (top st == .tru) c hr]
    cases runC st k <;> simp [Item.incl]
theorem tail_run : ∀ (t : Tail) (st : IfStack) (s : IfState) (k : List CLine) (a taken : Bool), RelS a taken s →
    runC (s :: st) (t.flat ++ k) = (runC st k).map (t.incl a taken ++ ·)
  | .endif, st, s, k, a, taken, _ => by
    simp [Tail.flat, runC, Tail.incl]
  | .els body, st, s, k, a, taken, hr => by
    have e0 : (Tail.els body).flat ++ k = .els :: (body.flat ++ (.endif :: k)) := by simp [Tail.flat]
    rw [e0]
    simp only [runC, List.isEmpty_cons, Bool.false_eq_true, if_false, ifElse]
    rw [items_run body _ (.endif :: k), top_cons, RelS_else hr]
    simp only [runC, List.isEmpty_cons, Bool.false_eq_true, if_false, List.tail_cons]
    cases runC st k <;> simp [Tail.incl]
  | .elif c body tail, st, s, k, a, taken, hr => by
    obtain ⟨hr', e⟩ := RelS_elif c hr
    have e0 : (Tail.elif c body tail).flat ++ k = .elifc c :: (body.flat ++ (tail.flat ++ k)) := by simp [Tail.flat]
    rw [e0]
    simp only [runC, List.isEmpty_cons, Bool.false_eq_true, if_false, ifElif]
    rw [items_run body _ (tail.flat ++ k), top_cons, e, tail_run tail st _ k a (taken || c) hr']
    cases runC st k <;> simp [Tail.incl]
end

/-! ## -D / -U -/

theorem lookup_define_ne {ms : List Macro} {m : Macro} {x : Tok} (h : m.name ≠ x) : lookup (define ms m) x = lookup ms x := by
  unfold lookup define
  rw [List.find?_cons_of_neg (by simpa using h), List.find?_filter]
  -- a macro named `x` is not named `m.name`: the filter does not matter
  congr 1
  funext a
  by_cases ha : a.name = x
  · simp [ha, Ne.symm h]
  · simp [ha]

theorem lookup_define_self (ms : List Macro) (m : Macro) : lookup (define ms m) m.name = some m := by
  simp [lookup, define]

theorem lookup_undefine_none {ms : List Macro} {n x : Tok} (h : lookup ms x = none) : lookup (undefine ms n) x = none := by
  unfold lookup undefine at *
  simp only [List.find?_eq_none] at h ⊢
  intro a ha
  exact h a (List.mem_filter.mp ha).1

theorem lookup_append (ms : List Macro) (m : Macro) (x : Tok) :
    lookup (ms ++ [m]) x = (lookup ms x).or (if m.name == x then some m else none) := by
  cases h : m.name == x <;> simp [lookup, List.find?_append, h]

/-- walks down the `if` chains of `stepDirective` and the like one test at a time: `split` on a hypothesis of that size is very slow -/
theorem ite_eq_cases {α : Sort _} {c : Prop} [Decidable c] {a b r : α} (h : (if c then a else b) = r) :
    c ∧ a = r ∨ ¬c ∧ b = r := by
  by_cases hc : c
  · exact .inl ⟨hc, by rwa [if_pos hc] at h⟩
  · exact .inr ⟨hc, by rwa [if_neg hc] at h⟩

theorem initStep_ok {undefs : List Tok} {ms ms' : List Macro} {d : List Char} (h : initStep undefs ms d = .ok ms') :
    (undefs.contains (defName d) = true ∧ ms' = ms) ∨
    (undefs.contains (defName d) = false ∧
      ∃ m, parseEntry d = some m ∧ ms' = if (lookup ms m.name).isSome then ms else ms ++ [m]) := by
  unfold initStep at h
  rcases ite_eq_cases h with ⟨hc, h⟩ | ⟨hc, h⟩
  · cases h; exact .inl ⟨hc, rfl⟩
  · cases hp : parseEntry d with
    | none => rw [hp] at h; cases h
    | some m => rw [hp] at h; cases h; exact .inr ⟨Bool.eq_false_iff.mpr hc, m, rfl, rfl⟩

theorem initFrom_inv (undefs : List Tok) (P : List (List Char) → List Macro → Prop)
    (step : ∀ d r a b, P (d :: r) a → initStep undefs a d = .ok b → P r b) :
    ∀ (defines : List (List Char)) (ms0 ms : List Macro), P defines ms0 → initFrom undefs ms0 defines = .ok ms → P [] ms
  | [], ms0, ms, h0, h => by cases h; exact h0
  | d :: r, ms0, ms, h0, h => by
    rw [initFrom] at h
    cases h1 : initStep undefs ms0 d with
    | error e => rw [h1] at h; cases h
    | ok ms1 => rw [h1] at h; exact initFrom_inv undefs P step r ms1 ms (step d r _ _ h0 h1) h

theorem entriesOK_cons {d : List Char} {r : List (List Char)} (h : entriesOK (d :: r) = true) :
    (∀ m, parseEntry d = some m → m.name = defName d) ∧ entriesOK r = true := by
  simp only [entriesOK, List.all_cons, Bool.and_eq_true] at h
  exact ⟨fun m hp => by simpa [hp] using h.1, h.2⟩

/-- the `dui.defines` loop never defines a name of `dui.undefined` -/
theorem initFrom_undef (undefs : List Tok) (x : Tok) (hx : undefs.contains x = true) (defines : List (List Char))
    (ms0 ms : List Macro) (hok : entriesOK defines = true) (h0 : lookup ms0 x = none)
    (h : initFrom undefs ms0 defines = .ok ms) : lookup ms x = none := by
  refine (initFrom_inv undefs (fun r t => entriesOK r = true ∧ lookup t x = none) (fun d r a b ⟨hok, ha⟩ hs => ?_)
    defines ms0 ms ⟨hok, h0⟩ h).2
  obtain ⟨hd, hr⟩ := entriesOK_cons hok
  refine ⟨hr, ?_⟩
  rcases initStep_ok hs with ⟨_, rfl⟩ | ⟨hnu, m, hp, rfl⟩
  · exact ha
  · split
    · exact ha
    · have hn : (m.name == x) = false := beq_eq_false_iff_ne.mpr fun e => by rw [← e, hd m hp, hnu] at hx; cases hx
      simp [lookup_append, ha, hn]

/-- the invariant: the entry is still to come, or its name is defined -/
theorem initFrom_defines (undefs : List Tok) (defines : List (List Char)) (ms0 ms : List Macro) (d : List Char)
    (hok : entriesOK defines = true) (hd : d ∈ defines) (hnu : undefs.contains (defName d) = false)
    (h : initFrom undefs ms0 defines = .ok ms) : (lookup ms (defName d)).isSome = true := by
  refine (initFrom_inv undefs (fun r t => entriesOK r = true ∧ (d ∈ r ∨ (lookup t (defName d)).isSome = true))
    (fun d0 r a b ⟨hok, ha⟩ hs => ?_) defines ms0 ms ⟨hok, .inl hd⟩ h).2.resolve_left List.not_mem_nil
  obtain ⟨hd0, hr⟩ := entriesOK_cons hok
  refine ⟨hr, ?_⟩
  rcases initStep_ok hs with ⟨hu, rfl⟩ | ⟨_, m, hp, rfl⟩
  · exact ha.imp_left fun hm => (List.mem_cons.mp hm).resolve_left fun e => by rw [e, hu] at hnu; cases hnu
  · -- the step that meets `d` defines its name or finds it defined; a later step keeps it
    rcases ha with hm | ha
    · rcases List.mem_cons.mp hm with rfl | hm
      · right; rw [← hd0 m hp]; split
        · assumption
        · simp [lookup_append]
      · exact .inl hm
    · right; split
      · exact ha
      · rw [lookup_append, Option.isSome_or, ha]; rfl

/-! ## the directive loop: what a directive does -/

/-- a directive name that is none of the conditional ones -/
def Plain (dn : Tok) : Prop :=
  isCondOpen dn = false ∧ (dn == tokS "elif") = false ∧ (dn == tokS "else") = false ∧ (dn == tokS "endif") = false

/-- what a directive `# dn rest` that does not fail does to the state -/
inductive DirStep (q : Quirks) (undefs : List Tok) (st : PState) (dn : Tok) (rest : List LTok) : PState → Prop
  | skip : Plain dn → DirStep q undefs st dn rest st
  | define (m : Macro) : Plain dn → undefs.contains m.name = false →
      DirStep q undefs st dn rest { st with macros := define st.macros m }
  | undef (x : Tok) : Plain dn → DirStep q undefs st dn rest { st with macros := undefine st.macros x }
  | ifc (c : Bool) : isCondOpen dn = true → condOf q st dn rest = .ok c →
      DirStep q undefs st dn rest { st with ifs := ifOpen st.ifs c }
  | elifc (c : Bool) : dn = tokS "elif" → st.ifs.isEmpty = false → condOf q st dn rest = .ok c →
      DirStep q undefs st dn rest { st with ifs := ifElif st.ifs c }
  | els : dn = tokS "else" → st.ifs.isEmpty = false → DirStep q undefs st dn rest { st with ifs := ifElse st.ifs }
  | endif : dn = tokS "endif" → st.ifs.isEmpty = false → DirStep q undefs st dn rest { st with ifs := st.ifs.tail }

theorem plain_define : Plain (tokS "define") := by unfold Plain; decide +kernel
theorem plain_include : Plain (tokS "include") := by unfold Plain; decide +kernel

theorem stepDirective_ok {q : Quirks} {undefs : List Tok} {st st' : PState} {dn : Tok} {rest : List LTok}
    (h : stepDirective q undefs st dn rest = .ok st') : DirStep q undefs st dn rest st' := by
  unfold stepDirective at h
  rcases ite_eq_cases h with ⟨_, h⟩ | ⟨c1, h⟩
  · cases h
  rcases ite_eq_cases h with ⟨_, h⟩ | ⟨_, h⟩
  · cases h
  rcases ite_eq_cases h with ⟨hd, hdef⟩ | ⟨_, h⟩
  · obtain rfl : dn = tokS "define" := eq_of_beq hd
    rcases ite_eq_cases hdef with ⟨_, h⟩ | ⟨_, h⟩
    · cases h; exact .skip plain_define
    cases hp : parseDefine rest with
    | none => rw [hp] at h; cases h
    | some m =>
      rw [hp] at h
      rcases ite_eq_cases h with ⟨_, h⟩ | ⟨hnu, h⟩ <;> cases h
      · exact .skip plain_define
      · exact .define m plain_define (Bool.eq_false_iff.mpr hnu)
  rcases ite_eq_cases h with ⟨hd, hinc⟩ | ⟨_, h⟩
  · obtain rfl : dn = tokS "include" := eq_of_beq hd
    rcases ite_eq_cases hinc with ⟨_, h⟩ | ⟨_, h⟩ <;> cases h
    exact .skip plain_include
  rcases ite_eq_cases h with ⟨hc, h⟩ | ⟨hc, h⟩
  · rcases ite_eq_cases h with ⟨_, h⟩ | ⟨_, h⟩
    · cases h
    cases hv : condOf q st dn rest with
    | error e => rw [hv] at h; cases h
    | ok v =>
      rw [hv] at h; cases h
      by_cases he : dn = tokS "elif"
      · rw [if_pos (beq_of_eq he)]; exact .elifc v he (by simpa [he] using c1) hv
      · rw [if_neg (mt eq_of_beq he)]; exact .ifc v (by simpa [isCondOpen, he] using hc) hv
  have ho : isCondOpen dn = false ∧ (dn == tokS "elif") = false := by simpa [isCondOpen, not_or] using hc
  rcases ite_eq_cases h with ⟨hd, h⟩ | ⟨h3, h⟩
  · cases h; exact .els (eq_of_beq hd) (by simpa [hd] using c1)
  rcases ite_eq_cases h with ⟨hd, h⟩ | ⟨h4, h⟩
  · cases h; exact .endif (eq_of_beq hd) (by simpa [hd] using c1)
  have hpl : Plain dn := ⟨ho.1, ho.2, Bool.eq_false_iff.mpr h3, Bool.eq_false_iff.mpr h4⟩
  rcases ite_eq_cases h with ⟨_, h⟩ | ⟨_, h⟩
  · cases rest with
    | nil => cases h; exact .skip hpl
    | cons y _ =>
      rcases ite_eq_cases h with ⟨_, h⟩ | ⟨_, h⟩ <;> cases h
      · exact .undef y.s hpl
      · exact .skip hpl
  · cases h; exact .skip hpl

/-! ### the file cannot define a name of `dui.undefined` -/

section
variable {q : Quirks} {undefs : List Tok} {P : List Macro → Prop}
  (hdef : ∀ ms m, undefs.contains m.name = false → P ms → P (define ms m)) (hund : ∀ ms x, P ms → P (undefine ms x))
include hdef hund

theorem stepLine_macros {st st' : PState} {line : List LTok} (h0 : P st.macros) (h : stepLine q undefs st line = .ok st') :
    P st'.macros := by
  cases line with
  | nil => cases h; exact h0
  | cons hd more =>
    unfold stepLine at h
    rcases ite_eq_cases h with ⟨_, h⟩ | ⟨_, h⟩
    · cases more with
      | nil => cases h; exact h0
      | cons d rest =>
        rcases ite_eq_cases h with ⟨_, h⟩ | ⟨_, h⟩
        · cases h; exact h0
        · cases stepDirective_ok h with
          | define m _ hm => exact hdef _ m hm h0
          | undef x => exact hund _ x h0
          | _ => exact h0
    rcases ite_eq_cases h with ⟨_, h⟩ | ⟨_, h⟩
    · cases h; exact h0
    · split at h
      · cases h
      · cases h; exact h0

theorem runLines_macros : ∀ (lines : List (List LTok)) {st st' : PState}, P st.macros →
    runLines q undefs st lines = .ok st' → P st'.macros
  | [], st, st', h0, h => by cases h; exact h0
  | l :: r, st, st', h0, h => by
    rw [runLines] at h
    cases hs : stepLine q undefs st l with
    | error e => rw [hs] at h; cases h
    | ok st1 => rw [hs] at h; exact runLines_macros r (stepLine_macros hdef hund h0 hs) h
end

theorem runLines_undef (q : Quirks) (undefs : List Tok) (x : Tok) (hx : undefs.contains x = true) (lines : List (List LTok))
    (st st' : PState) : lookup st.macros x = none → runLines q undefs st lines = .ok st' → lookup st'.macros x = none :=
  runLines_macros (P := (lookup · x = none))
    (fun _ m hm h0 => (lookup_define_ne fun e => by rw [e, hx] at hm; cases hm).trans h0) (fun _ _ => lookup_undefine_none) lines

/-! ### the directive loop follows the abstract inclusion machine -/

theorem tokS_ne (a b : String) (h : a.toList ≠ b.toList) : (tokS a == tokS b) = false := by
  simp [tokS, h]

/-- on the skeleton entry `c` of the line `l`, `runC` steps as the directive loop does from `st` to `st'` and keeps the line it keeps -/
def LineOK (st st' : PState) (i : Nat) (l : List LTok) (c : Option CLine) : Prop :=
  ∀ sk, runC st.ifs ((match c with | some c => [c] | none => []) ++ sk) =
    (runC st'.ifs sk).map ((match l with | h :: _ => if h.s != ['#'] && top st.ifs == .tru then [i] else [] | [] => []) ++ ·)

theorem kind_elif : isCondOpen (tokS "elif") = false := by decide +kernel
theorem kind_else : isCondOpen (tokS "else") = false ∧ (tokS "else" == tokS "elif") = false := by decide +kernel
theorem kind_endif : isCondOpen (tokS "endif") = false ∧ (tokS "endif" == tokS "elif") = false ∧
    (tokS "endif" == tokS "else") = false := by decide +kernel

theorem stepLine_skel (q : Quirks) (undefs : List Tok) (st st' : PState) (i : Nat) (l : List LTok) (c : Option CLine)
    (hs : skelLine q st i l = .ok c) (h : stepLine q undefs st l = .ok st') : LineOK st st' i l c := by
  intro sk
  cases l with
  | nil => cases hs; cases h; simp
  | cons hd more =>
    simp only [skelLine] at hs
    simp only [stepLine] at h
    rcases ite_eq_cases hs with ⟨hb, hs⟩ | ⟨hb, hs⟩
    · rw [if_pos hb] at h
      -- a directive line is not kept
      simp only [bne, hb, Bool.not_true, Bool.false_and, Bool.false_eq_true, if_false]
      cases more with
      | nil => cases hs; cases h; simp
      | cons d rest =>
        dsimp only at h
        rcases ite_eq_cases hs with ⟨hn, hs⟩ | ⟨hn, hs⟩
        · rw [if_pos hn] at h; cases hs; cases h; simp
        rw [if_neg hn] at h
        -- the tests of `skelLine` on the name, decided by what `stepDirective` did
        cases stepDirective_ok h with
        | skip hp | define _ hp | undef _ hp =>
          simp only [hp.1, hp.2.1, hp.2.2.1, hp.2.2.2, Bool.false_eq_true, if_false] at hs
          cases hs; simp
        | ifc b ho hc => simp only [ho, if_true, hc] at hs; cases hs; simp [runC]
        | elifc b he hne hc =>
          simp only [he, kind_elif, beq_self_eq_true, Bool.false_eq_true, if_false, if_true] at hs hc
          rw [hc] at hs; cases hs; simp [runC, hne]
        | els he hne =>
          simp only [he, kind_else, beq_self_eq_true, Bool.false_eq_true, if_false, if_true] at hs
          cases hs; simp [runC, hne]
        | endif he hne =>
          simp only [he, kind_endif, beq_self_eq_true, Bool.false_eq_true, if_false, if_true] at hs
          cases hs; simp [runC, hne]
    · cases hs
      rw [if_neg hb] at h
      have e : st'.ifs = st.ifs := by
        rcases ite_eq_cases h with ⟨_, h⟩ | ⟨_, h⟩
        · cases h; rfl
        · split at h <;> cases h
          rfl
      simp only [List.singleton_append, runC, e, bne, Bool.eq_false_iff.mpr hb, Bool.not_false, Bool.true_and]
      cases runC st.ifs sk with
      | none => simp
      | some r =>
        simp
        split <;> simp

theorem map_eq_ok {ε α β : Type} {f : α → β} {x : Except ε α} {y : β} (h : x.map f = .ok y) : ∃ z, x = .ok z ∧ f z = y := by
  cases x with
  | error e => cases h
  | ok z => cases h; exact ⟨z, rfl, rfl⟩

theorem runLines_kept_eq_runC (q : Quirks) (undefs : List Tok) : ∀ (lines : List (List LTok)) (st : PState) (i : Nat)
    (sk : List CLine) (k : List Nat), skelLines q undefs st i lines = .ok sk → keptLines q undefs st i lines = .ok k →
      runC st.ifs sk = some k := by
  intro lines
  induction lines with
  | nil => intro st i sk k h1 h2; cases h1; cases h2; rfl
  | cons l r ih =>
    intro st i sk k h1 h2
    simp only [skelLines] at h1
    simp only [keptLines] at h2
    split at h1
    · rename_i c st' hc hst
      rw [hst] at h2
      obtain ⟨sk', hsk, rfl⟩ := map_eq_ok h1
      obtain ⟨k', hk, rfl⟩ := map_eq_ok h2
      refine (stepLine_skel q undefs st st' i l c hc hst sk').trans ?_
      rw [ih st' (i + 1) sk' k' hsk hk]
      rfl
    · cases h1
    · cases h1

/-! ## macro replacement: the equations of `expand` -/

def tokOf (s : Tok) : XTok := ⟨s, false⟩

/-- all macros are object-like and named by identifiers; replacement lists contain neither a macro name nor `#` -/
def flatTable (ms : List Macro) : Bool :=
  ms.all fun m => m.params.isNone && isName m.name && m.body.all fun t => (lookup ms t).isNone && t != ['#']

/-- the replacement of one token -/
def substTok (ms : List Macro) (t : XTok) : List XTok :=
  match lookup ms t.s with
  | some m => m.body.map tokOf
  | none => [t]

theorem lookup_some_name {ms : List Macro} {n : Tok} {m : Macro} (h : lookup ms n = some m) : m ∈ ms ∧ m.name = n := by
  unfold lookup at h
  exact ⟨List.mem_of_find?_eq_some h, by simpa using List.find?_some h⟩

/-- a token the rescan leaves alone: it names no macro, or it is painted -/
def Inert (ms : List Macro) (x : XTok) : Prop := lookup ms x.s = none ∨ x.blue = true

theorem expand_skip (q : Quirks) (ms : List Macro) (dis : List Tok) (t : XTok) (rest : List XTok) (h : Inert ms t) :
    expand q ms dis (t :: rest) = (expand q ms dis rest).map (t :: ·) := by
  rw [expand]
  by_cases hb : (!isName t.s || t.blue) = true
  · rw [if_pos hb]
  · rw [if_neg hb]
    split
    · rfl
    · rename_i m hl
      rcases h with h | h
      · rw [h] at hl; cases hl
      · rw [h, Bool.or_true] at hb; exact absurd rfl hb

theorem expand_inert (q : Quirks) (ms : List Macro) : ∀ (ts : List XTok) (dis : List Tok),
    (∀ t ∈ ts, Inert ms t) → expand q ms dis ts = .ok ts := by
  intro ts
  induction ts with
  | nil => intro dis _; rw [expand]
  | cons t r ih =>
    intro dis h
    rw [expand_skip q ms dis t r (h t (List.mem_cons_self ..)), ih dis fun x hx => h x (List.mem_cons_of_mem _ hx)]
    rfl

/-- 6.10.3.4p2: a token that names a macro whose replacement is being rescanned is painted and left alone -/
theorem expand_blue (q : Quirks) (ms : List Macro) (dis : List Tok) (t : XTok) (rest : List XTok) (m : Macro)
    (htn : isName t.s = true) (htb : t.blue = false) (hl : lookup ms t.s = some m) (hd : dis.contains t.s = true) :
    expand q ms dis (t :: rest) = (expand q ms dis rest).map ({ t with blue := true } :: ·) := by
  rw [expand, if_neg (by rw [htn, htb]; decide)]
  split
  · rename_i h0; rw [hl] at h0; cases h0
  · rw [dif_pos hd]

theorem expand_obj (q : Quirks) (ms : List Macro) (dis : List Tok) (t : XTok) (rest : List XTok) (m : Macro) (body r : List XTok)
    (hn : isName t.s = true) (hb : t.blue = false) (hl : lookup ms t.s = some m) (hd : dis.contains t.s = false)
    (hp : m.params = none) (hs : subst q false [] [] [] m.body [] = some body) (hr : expand q ms (t.s :: dis) body = .ok r)
    (hj : (match r.getLast?, rest with
      | some a, n :: _ => isFnName ms a && n.s == ['(']
      | _, _ => false) = false) :
    expand q ms dis (t :: rest) = (expand q ms dis rest).map (r ++ ·) := by
  rw [expand, if_neg (by rw [hn, hb]; decide)]
  split
  · rename_i h0; rw [hl] at h0; cases h0
  · rename_i m' hl'
    obtain rfl : m = m' := Option.some.inj (hl.symm.trans hl')
    rw [dif_neg (by rw [hd]; decide)]
    split
    · rw [hs, Option.map_some, hr]
      exact if_neg (Bool.eq_false_iff.mp hj)
    · rename_i ps hps; rw [hp] at hps; cases hps

theorem flat_facts {ms : List Macro} (hf : flatTable ms = true) {n : Tok} {m : Macro} (h : lookup ms n = some m) :
    m.params = none ∧ isName n = true ∧ (∀ t ∈ m.body, lookup ms t = none ∧ (t != ['#']) = true) := by
  obtain ⟨hm, hn⟩ := lookup_some_name h
  unfold flatTable at hf
  have := List.all_eq_true.mp hf m hm
  simp only [Bool.and_eq_true, Option.isNone_iff_eq_none, List.all_eq_true] at this
  exact ⟨this.1.1, by rw [← hn]; exact this.1.2, fun t ht => this.2 t ht⟩

theorem no_join (ms : List Macro) (l rest : List XTok) (h : ∀ x ∈ l, lookup ms x.s = none) :
    (match l.getLast?, rest with
      | some a, n :: _ => isFnName ms a && n.s == ['(']
      | _, _ => false) = false := by
  cases hl : l.getLast? with
  | none => rfl
  | some a =>
    cases rest with
    | nil => rfl
    | cons n r =>
      have : a ∈ l := List.mem_of_getLast? hl
      simp [isFnName, h a this]

/-! ## replacement lists without macro names and `#`: replacement = substitution of the parameters -/

/-- the replacement list with every parameter replaced by its argument -/
def substParams (ps : List Tok) (args : List (List XTok)) (body : List Tok) : List XTok :=
  body.flatMap fun s => match argOf ps args s with
    | some a => a
    | none => [tokOf s]

theorem nextIsPaste_false : ∀ (l : List Tok), (∀ t ∈ l, (t != ['#']) = true) → nextIsPaste l = false := by
  intro l h
  match l with
  | [] => rfl
  | [a] => rfl
  | a :: b :: r =>
    have : (a == ['#']) = false := by simpa using h a (by simp)
    simp [nextIsPaste, this]

theorem indexOf_none {t : Tok} : ∀ {l : List Tok}, l.contains t = false → indexOf l t = none
  | [], _ => rfl
  | p :: r, h => by
    rw [List.contains_cons, Bool.or_eq_false_iff] at h
    rw [indexOf, if_neg (fun e => ne_of_beq_false h.1 (eq_of_beq e).symm), indexOf_none h.2]
    rfl

theorem subst_params (q : Quirks) (fn : Bool) (ps : List Tok) (raw args : List (List XTok)) (hva : ps.contains (tokS "__VA_ARGS__") = false) :
    ∀ (body : List Tok) (out : List XTok), (∀ t ∈ body, (t != ['#']) = true) →
      subst q fn ps raw args body out = some (out.reverse ++ substParams ps args body) := by
  have hraw : ∀ t, (argOf ps raw t).isSome = (argOf ps args t).isSome := by
    intro t; unfold argOf; split <;> simp [Option.isSome_map]
  -- `__VA_ARGS__` is no parameter, so the comma rule of `subst` never applies
  have hv : ∀ t a, argOf ps args t = some a → (t == tokS "__VA_ARGS__") = false := by
    intro t a h
    rw [beq_eq_false_iff_ne]
    rintro rfl
    rw [argOf, indexOf_none hva] at h
    split at h <;> cases h
  intro body
  induction body using List.rec with
  | nil => intro out _; simp [subst, substParams]
  | cons t r ih =>
    intro out h
    have ht : (t == ['#']) = false := by have := h t (by simp); simpa using this
    have hr : ∀ x ∈ r, (x != ['#']) = true := fun x hx => h x (by simp [hx])
    cases r with
    | nil =>
      cases ha : argOf ps args t with
      | none => simp [subst, ht, ha, substParams, tokOf]
      | some a => simp [subst, ht, ha, substParams]
    | cons h2 r' =>
      rw [subst.eq_def]
      simp only [ht, Bool.false_eq_true, if_false]
      have hnp : nextIsPaste (h2 :: r') = false := nextIsPaste_false _ hr
      cases ha : argOf ps args t with
      | none =>
        have hrn : argOf ps raw t = none := by simpa [ha] using hraw t
        have := ih (tokOf t :: out) hr
        simp only [tokOf] at this
        simp [this, substParams, ha, hrn, tokOf]
      | some a =>
        obtain ⟨rr, hrr⟩ := Option.isSome_iff_exists.mp ((hraw t).trans (by rw [ha]; rfl))
        have := ih (a.reverse ++ out) hr
        simp only [hrr, hnp, Bool.false_eq_true, if_false, hv t a ha, Bool.and_false, Bool.false_and]
        simp [this, substParams, ha]

theorem subst_plain (q : Quirks) (body : List Tok) (out : List XTok) (h : ∀ t ∈ body, (t != ['#']) = true) :
    subst q false [] [] [] body out = some (out.reverse ++ body.map tokOf) := by
  have e : substParams [] [] body = body.map tokOf := by
    induction body with
    | nil => rfl
    | cons t r ih =>
      have harg : argOf [] [] t = none := by unfold argOf; split <;> rfl
      rw [substParams, List.flatMap_cons, harg, ← substParams, ih fun x hx => h x (List.mem_cons_of_mem _ hx)]
      rfl
  rw [subst_params q false [] [] [] rfl body out h, e]

theorem expand_flat (q : Quirks) (ms : List Macro) (hf : flatTable ms = true) : ∀ (ts : List XTok),
    (∀ t ∈ ts, t.blue = false) → expand q ms [] ts = .ok (ts.flatMap (substTok ms)) := by
  intro ts
  induction ts with
  | nil => intro _; rw [expand]; rfl
  | cons t r ih =>
    intro hb
    have ihr := ih fun x hx => hb x (List.mem_cons_of_mem _ hx)
    rw [List.flatMap_cons, substTok]
    cases hl : lookup ms t.s with
    | none => rw [expand_skip q ms [] t r (.inl hl), ihr]; rfl
    | some m =>
      obtain ⟨hp, hn, hbody⟩ := flat_facts hf hl
      have hnm : ∀ x ∈ m.body.map tokOf, lookup ms x.s = none := by
        intro x hx
        obtain ⟨y, hy, rfl⟩ := List.mem_map.mp hx
        exact (hbody y hy).1
      rw [expand_obj q ms [] t r m _ _ hn (hb t (List.mem_cons_self ..)) hl rfl hp
        (subst_plain q m.body [] fun x hx => (hbody x hx).2) (expand_inert q ms _ _ fun x hx => .inl (hnm x hx)) (no_join ms _ r hnm), ihr]
      rfl

/-- replacement lists contain neither a macro name nor `#` (macros may be function-like) -/
def flatBodies (ms : List Macro) : Bool :=
  ms.all fun m => m.body.all fun t => (lookup ms t).isNone && t != ['#']

theorem flatBodies_facts {ms : List Macro} (hf : flatBodies ms = true) {n : Tok} {m : Macro} (h : lookup ms n = some m) :
    ∀ t ∈ m.body, lookup ms t = none ∧ (t != ['#']) = true := by
  obtain ⟨hm, _⟩ := lookup_some_name h
  unfold flatBodies at hf
  have := List.all_eq_true.mp hf m hm
  simp only [Bool.and_eq_true, Option.isNone_iff_eq_none, List.all_eq_true] at this
  exact fun t ht => this t ht

theorem substParams_inert {ms : List Macro} {ps : List Tok} {args : List (List XTok)} {body : List Tok}
    (hb : ∀ t ∈ body, lookup ms t = none) (ha : ∀ a ∈ args, ∀ x ∈ a, Inert ms x) :
    ∀ x ∈ substParams ps args body, Inert ms x := by
  intro x hx
  simp only [substParams, List.mem_flatMap] at hx
  obtain ⟨s, hs, hx⟩ := hx
  cases hao : argOf ps args s with
  | none => rw [hao] at hx; simp at hx; subst hx; exact Or.inl (hb s hs)
  | some a =>
    rw [hao] at hx
    unfold argOf at hao
    split at hao
    · -- `a` is an argument, or empty when the index is beyond the list
      obtain ⟨i, _, rfl⟩ := Option.map_eq_some_iff.mp hao
      rw [List.getD_eq_getElem?_getD] at hx
      cases hi : args[i]? with
      | none => rw [hi] at hx; simp at hx
      | some b => rw [hi] at hx; exact ha b (List.mem_of_getElem? hi) x hx
    · cases hao

theorem mapM_ok_of_getElem {α β : Type} (f : α → Except XErr β) : ∀ (l : List α) (r : List β) (hl : r.length = l.length),
    (∀ i (h : i < l.length), f l[i] = .ok (r[i]'(by omega))) → l.mapM f = .ok r := by
  intro l
  induction l with
  | nil => intro r hl _; cases r with
    | nil => rfl
    | cons _ _ => simp at hl
  | cons a l' ih =>
    intro r hl h
    cases r with
    | nil => simp at hl
    | cons b r' =>
      have h0 := h 0 (by simp)
      have hr := ih r' (by simpa using hl) (fun i hi => by have := h (i + 1) (by simp; omega); simpa using this)
      simp only [List.getElem_cons_zero] at h0
      simp [List.mapM_cons, h0, hr, bind, Except.bind, pure, Except.pure]

theorem mapM_ok_eq {α β : Type} (f : α → Except XErr β) (g : α → β) : ∀ (l : List α), (∀ x ∈ l, f x = .ok (g x)) →
    l.mapM f = .ok (l.map g) :=
  fun l h => mapM_ok_of_getElem f l (l.map g) (by simp) fun i hi => by simpa using h l[i] (List.getElem_mem hi)

/-- the context in which the arguments of an invocation of `n` are macro replaced: that of the caller (6.10.3.1); the variant
`argInherit` (not the code, not the standard) adds the invoked macro's own name -/
def argCtx (q : Quirks) (n : Tok) (dis : List Tok) : List Tok := if q.argInherit then n :: dis else dis

end Cppcheck.PPMacro
