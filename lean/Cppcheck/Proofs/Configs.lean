/-
C12 — the proofs behind Props/C12.lean.  String layer: what `cfg`, `defines`, `isUndefined` compute on well-formed `configs_if`
entries.  Family trees (distinct fresh macros, no `-D`) are first treated without the state of the fold: `Walk` gives the rules by
which a stretch of such a file takes the names on `configs_if` and the result set to the new result set, a configuration being
known by the macros it defines; coverage, its converse and the syntactic classes follow from the rules alone.  Then the fold
itself: `walk_run`, on a family tree `run` obeys the rules; `StepShape`, what one directive does to any state, and from it, for any
directive list: no configuration names a `-U` macro, the empty configuration stays, the size of the result set.  Last the
specification side and the selection: `currentConfig` under `-D`, `reach`, `effDefines`, the duplicate-configuration purge.
-/
import Cppcheck.Model.Configs
import Cppcheck.Proofs.TextLemmas
import Cppcheck.Proofs.FirstOfKey
namespace Cppcheck.Configs

/-! ### sets as lists -/

theorem mem_setInsert {a x : Str} {l : List Str} : x ∈ setInsert a l ↔ x = a ∨ x ∈ l := by
  induction l with
  | nil => simp [setInsert]
  | cons b bs ih =>
    simp only [setInsert]
    split
    · next h => subst h; simp
    · split
      · simp
      · simp [ih]; constructor
        · rintro (h | h | h) <;> simp [h]
        · rintro (h | h | h) <;> simp [h]

theorem mem_toSet {x : Str} {l : List Str} : x ∈ toSet l ↔ x ∈ l := by
  induction l with
  | nil => simp [toSet]
  | cons b bs ih => simp only [toSet, List.foldr_cons] at *; simp [mem_setInsert, ih]

theorem length_setInsert_le (a : Str) (l : List Str) : (setInsert a l).length ≤ l.length + 1 := by
  induction l with
  | nil => simp [setInsert]
  | cons b bs ih =>
    simp only [setInsert]
    split
    · simp
    · split
      · simp
      · simp only [List.length_cons]; omega

/-! ### names -/

/-- the entry `M=M` -/
def eD (m : Str) : Str := m ++ '=' :: m

theorem okName_ne_nil {m : Str} (h : okName m = true) : m ≠ [] := by
  intro h'; subst h'; simp [okName] at h

theorem okName_chars {m : Str} (h : okName m = true) : ∀ c ∈ m, c ≠ ';' ∧ c ≠ '=' ∧ c ≠ '(' := by
  simp [okName] at h
  intro c hc
  have := h.1.2 c hc
  simp_all

theorem takeWhile_eD {m : Str} {p : Char → Bool} (h : ∀ c ∈ m, p c = true) (he : p '=' = false) : (eD m).takeWhile p = m := by
  unfold eD
  rw [List.takeWhile_append_of_pos h, List.takeWhile_cons_of_neg (by simp [he]), List.append_nil]

theorem nameOf_ok {m : Str} (h : okName m = true) : nameOf m = m := by
  have := List.takeWhile_append_of_pos (p := fun c => c != '=' && c != '(') (l₁ := m) (l₂ := [])
    (fun c hc => by simp [okName_chars h c hc])
  simpa [nameOf] using this

theorem nameOf_eD {m : Str} (h : okName m = true) : nameOf (eD m) = m :=
  takeWhile_eD (fun c hc => by simp [okName_chars h c hc]) rfl

theorem beforeEq_eD {m : Str} (h : okName m = true) : beforeEq (eD m) = m :=
  takeWhile_eD (fun c hc => by simp [okName_chars h c hc]) rfl

theorem fromEq_eD {m : Str} (h : okName m = true) : fromEq (eD m) = '=' :: m := by
  unfold fromEq eD
  rw [List.dropWhile_append_of_pos (fun c hc => by simp [okName_chars h c hc]), List.dropWhile_cons_of_neg (by simp)]

theorem hasEq_eD (m : Str) : hasEq (eD m) = true := by simp [hasEq, eD]

theorem hasEq_ok {m : Str} (h : okName m = true) : hasEq m = false := by
  simp [hasEq]
  intro hc
  exact (okName_chars h _ hc).2.1 rfl

theorem splitSemi_eq : ∀ s, splitSemi s = s.splitOn ';' :=
  Text.eq_splitOn rfl (fun r => by simp [splitSemi]) fun x r w ws hx h => by simp [splitSemi, hx, h]

theorem splitSemi_ne_nil (s : Str) : splitSemi s ≠ [] := splitSemi_eq s ▸ List.splitOn_ne_nil ';' s

theorem splitSemi_append_semi (a b : Str) : splitSemi (a ++ ';' :: b) = splitSemi a ++ splitSemi b := by
  simp only [splitSemi_eq, List.splitOn_append_cons_self]

theorem splitSemi_noSemi {m : Str} (h : ∀ c ∈ m, c ≠ ';') : splitSemi m = [m] := by
  rw [splitSemi_eq, List.splitOn_eq_singleton fun hm => h ';' hm rfl]

theorem dropTrailingEmpty_eq : ∀ l : List Str, dropTrailingEmpty l = if l.getLast? = some [] then l.dropLast else l
  | [] => rfl
  | [x] => by by_cases h : x = [] <;> simp [dropTrailingEmpty, h]
  | x :: y :: r => by
    rw [dropTrailingEmpty, dropTrailingEmpty_eq (y :: r), List.getLast?_cons_cons, List.dropLast_cons_cons]
    split <;> rfl

theorem dropTrailingEmpty_append {l l' : List Str} (h : l' ≠ []) :
    dropTrailingEmpty (l ++ l') = l ++ dropTrailingEmpty l' := by
  rw [dropTrailingEmpty_eq, dropTrailingEmpty_eq, List.getLast?_append, List.getLast?_eq_some_getLast h, Option.some_or,
    List.dropLast_append_of_ne_nil h]
  split <;> rfl

theorem dropTrailingEmpty_cons {x : Str} {l : List Str} (hl : l ≠ []) :
    dropTrailingEmpty (x :: l) = x :: dropTrailingEmpty l :=
  dropTrailingEmpty_append (l := [x]) hl

theorem mem_of_mem_dropTrailingEmpty {p : Str} {l : List Str} (h : p ∈ dropTrailingEmpty l) : p ∈ l := by
  rw [dropTrailingEmpty_eq] at h
  split at h
  · exact List.dropLast_subset l h
  · exact h

/-- entries that survive a `;`-join unchanged -/
def okPiece (x : Str) : Prop := x ≠ [] ∧ ∀ c ∈ x, c ≠ ';'

theorem joinSemi_eq : ∀ xs, joinSemi xs = [';'].intercalate xs :=
  Text.eq_intercalate rfl (fun _ => rfl) fun _ _ _ => rfl

theorem pieces_joinSemi {xs : List Str} (h : ∀ x ∈ xs, okPiece x) : pieces (joinSemi xs) = xs := by
  by_cases hx : xs = []
  · subst hx; rfl
  · rw [pieces, joinSemi_eq, splitSemi_eq, List.splitOn_intercalate ';' (fun a ha hm => (h a ha).2 ';' hm rfl) hx,
      dropTrailingEmpty_eq, if_neg fun hl => (h [] (List.mem_of_getLast? hl)).1 rfl]

theorem pieces_single {x : Str} (h : okPiece x) : pieces x = [x] :=
  pieces_joinSemi (xs := [x]) (fun y hy => by rw [List.mem_singleton.mp hy]; exact h)

theorem pieces_nil : pieces [] = [] := by simp [pieces, splitSemi, dropTrailingEmpty]

theorem defines_nil (x : Str) : defines [] x = false := by simp [defines, pieces_nil]

/-! ### stack entries and `cfg` -/

theorem okPiece_of_ok {m : Str} (h : okName m = true) : okPiece m :=
  ⟨okName_ne_nil h, fun c hc => (okName_chars h c hc).1⟩

theorem okPiece_eD {m : Str} (h : okName m = true) : okPiece (eD m) := by
  refine ⟨by simp [eD], ?_⟩
  intro c hc
  simp [eD] at hc
  rcases hc with hc | hc | hc
  · exact (okName_chars h c hc).1
  · subst hc; decide
  · exact (okName_chars h c hc).1

theorem nameOf_nil : nameOf [] = [] := rfl

/-- what `cfg` and `defines` need of a `configs_if` entry; the fold on well-formed names pushes only the empty entry, `M` and `M=M` -/
def EntryWF (e : Str) : Prop := e ≠ [] → okPiece e ∧ e ≠ ['0'] ∧ nameOf e ≠ []

theorem EntryWF.nil : EntryWF [] := fun h => absurd rfl h

theorem EntryWF.bare {m : Str} (h : okName m = true) : EntryWF m := fun _ =>
  ⟨okPiece_of_ok h, fun h0 => by subst h0; simp [okName] at h, by rw [nameOf_ok h]; exact okName_ne_nil h⟩

theorem EntryWF.self {m : Str} (h : okName m = true) : EntryWF (eD m) := fun _ => by
  refine ⟨okPiece_eD h, fun h0 => ?_, by rw [nameOf_eD h]; exact okName_ne_nil h⟩
  have : '=' ∈ eD m := by simp [eD]
  rw [h0] at this; simp at this

theorem hasDefine_nil (c : Str) : hasDefine [] c = false := by
  simp [hasDefine, hasDefineGo]

theorem pieces_cfg {ifs : List Str} (ud : Str) (h : ∀ e ∈ ifs, EntryWF e) :
    pieces (cfg ifs ud) = (toSet ifs).filter fun c => !c.isEmpty && !hasDefine ud c := by
  have h0 : ifs.contains ['0'] = false := by
    cases hc : ifs.contains ['0'] with
    | false => rfl
    | true =>
      have := List.contains_iff_mem.mp hc
      exact absurd rfl (h _ this (by simp)).2.1
  simp only [cfg, h0]
  apply pieces_joinSemi
  intro x hx
  have hx' := List.mem_filter.mp hx
  have hmem : x ∈ ifs := mem_toSet.mp hx'.1
  have hne : x ≠ [] := by
    intro hnil; subst hnil; simp at hx'
  exact (h x hmem hne).1

theorem defines_cfg {ifs : List Str} (ud : Str) (h : ∀ e ∈ ifs, EntryWF e) (x : Str) :
    defines (cfg ifs ud) x = true ↔ ∃ e ∈ ifs, e ≠ [] ∧ hasDefine ud e = false ∧ nameOf e = x := by
  simp only [defines, pieces_cfg ud h, List.contains_iff_mem, List.mem_map, List.mem_filter, mem_toSet, Bool.and_eq_true,
    Bool.not_eq_true', List.isEmpty_eq_false_iff]
  exact ⟨fun ⟨e, ⟨he, hne, hd⟩, hn⟩ => ⟨e, he, hne, hd, hn⟩, fun ⟨e, he, hne, hd, hn⟩ => ⟨e, ⟨he, hne, hd⟩, hn⟩⟩

theorem mem_names_map {ifs : List Str} (wf : ∀ e ∈ ifs, EntryWF e) (x : Str) :
    x ∈ names (ifs.map nameOf) ↔ ∃ e ∈ ifs, e ≠ [] ∧ nameOf e = x := by
  simp only [names, List.mem_filter, List.mem_map]
  constructor
  · rintro ⟨⟨e, he, hn⟩, hne⟩
    refine ⟨e, he, ?_, hn⟩
    intro h0; subst h0; subst hn; simp [nameOf] at hne
  · rintro ⟨e, he, hne, hn⟩
    refine ⟨⟨e, he, hn⟩, ?_⟩
    have := (wf e he hne).2.2
    rw [hn] at this
    cases x with
    | nil => exact absurd rfl this
    | cons a as => rfl

theorem defines_cfg_names {ifs : List Str} (wf : ∀ e ∈ ifs, EntryWF e) (x : Str) :
    defines (cfg ifs []) x = true ↔ x ∈ names (ifs.map nameOf) := by
  simp only [defines_cfg [] wf, mem_names_map wf, hasDefine_nil, true_and]

theorem defines_ok {m : Str} (h : okName m = true) (x : Str) : defines m x = true ↔ x = m := by
  have := pieces_single (okPiece_of_ok h)
  simp [defines, this, nameOf_ok h, eq_comm]

theorem defines_eD {m : Str} (h : okName m = true) (x : Str) : defines (eD m) x = true ↔ x = m := by
  have := pieces_single (okPiece_eD h)
  simp [defines, this, nameOf_eD h, eq_comm]

theorem isUndefined_nil (undefs : List Str) : isUndefined [] undefs = false := by
  simp [isUndefined, pieces_nil]

theorem isUndefined_ok {m : Str} (undefs : List Str) (h : okName m = true) : isUndefined m undefs = undefs.contains m := by
  simp [isUndefined, pieces_single (okPiece_of_ok h), isUndefinedPiece, hasEq_ok h]

theorem isUndefined_eD {m : Str} (undefs : List Str) (h : okName m = true) :
    isUndefined (eD m) undefs = undefs.contains m := by
  have h0 : m ≠ ['0'] := by intro h0; subst h0; simp [okName] at h
  simp [isUndefined, pieces_single (okPiece_eD h), isUndefinedPiece, hasEq_eD, beforeEq_eD h, fromEq_eD h, h0]

/-! ### the names on `configs_if`, and which configurations a stretch of the fold adds

`stk`: the names of the entries of `configs_if`, `[]` for an entry without a name (what `safeItems` replays) -/

theorem mem_names {l : List Str} {x : Str} : x ∈ names l ↔ x ∈ l ∧ x ≠ [] := by
  simp [names, List.mem_filter]

theorem names_cons_nil (l : List Str) : names ([] :: l) = names l := by simp [names]

theorem names_cons_ne {e : Str} {l : List Str} (h : e ≠ []) : names (e :: l) = e :: names l := by
  cases e with
  | nil => exact absurd rfl h
  | cons a as => simp [names]

theorem names_drop_sub {l : List Str} {j : Nat} {x : Str} (h : x ∈ names (l.drop j)) : x ∈ names l := by
  rw [mem_names] at *; exact ⟨List.mem_of_mem_drop h.1, h.2⟩

theorem names_elseStack (fl : Flags) (stk : List Str) (a : Nat) : names (elseStack fl stk a) = names (stk.drop a) := by
  cases h : fl.fixElse <;> simp [elseStack, h, names]

theorem names_elseStack_sub {fl : Flags} {stk : List Str} {a : Nat} {x : Str} (h : x ∈ names (elseStack fl stk a)) :
    x ∈ names stk := names_drop_sub (names_elseStack fl stk a ▸ h)

theorem sameSet_iff {a b : List Str} : sameSet a b = true ↔ ∀ x, x ∈ a ↔ x ∈ b := by
  simp only [sameSet, Bool.and_eq_true, List.all_eq_true, List.contains_iff_mem]
  constructor
  · rintro ⟨h1, h2⟩ x; exact ⟨h1 x, h2 x⟩
  · intro h; exact ⟨fun x hx => (h x).mp hx, fun x hx => (h x).mpr hx⟩

/-- `c` defines exactly the names on `stk`: the configuration inserted while `stk` is the stack -/
def CfgOf (stk : List Str) (c : Str) : Prop := ∀ x, defines c x = true ↔ x ∈ names stk

/-- the name an `#if..` line leaves on `configs_if` -/
def ename (fl : Flags) (k : Kind) (m : Str) : Str := if cls fl k = .neg then [] else m

theorem ename_mem {fl : Flags} {k : Kind} {m : Str} {ms : List Str} (hm : m ∈ ms) : ename fl k m ≠ [] → ename fl k m ∈ ms := by
  unfold ename; split
  · exact fun h => absurd rfl h
  · exact fun _ => hm

/-- `c` was inserted while the bottom `stk.drop j` of the vector was still in place: it defines all names of that part,
    and beyond them only macros of `ms` -/
def AddedBy (stk : List Str) (ms : List Str) (c : Str) : Prop :=
  ∃ j, (∀ x, defines c x = true → x ∈ names (stk.drop j) ∨ x ∈ ms) ∧ (∀ x ∈ names (stk.drop j), defines c x = true)

theorem CfgOf.addedBy {stk : List Str} {c : Str} (h : CfgOf stk c) : AddedBy stk [] c :=
  ⟨0, fun x hx => Or.inl ((h x).mp hx), fun x hx => (h x).mpr hx⟩

theorem AddedBy.mono {stk ms ms' : List Str} {c : Str} (h : AddedBy stk ms c) (hs : ∀ x ∈ ms, x ∈ ms') : AddedBy stk ms' c := by
  obtain ⟨j, h1, h2⟩ := h
  exact ⟨j, fun x hx => (h1 x hx).imp id (hs x), h2⟩

theorem AddedBy.of_drop {stk ms : List Str} {c : Str} {a : Nat} (h : AddedBy (stk.drop a) ms c) : AddedBy stk ms c := by
  obtain ⟨j, h1, h2⟩ := h
  refine ⟨a + j, ?_, ?_⟩ <;> rw [List.drop_drop] at * <;> assumption

theorem AddedBy.of_cons {e : Str} {stk ms ms' : List Str} {c : Str} (h : AddedBy (e :: stk) ms c)
    (he : e ≠ [] → e ∈ ms') (hs : ∀ x ∈ ms, x ∈ ms') : AddedBy stk ms' c := by
  obtain ⟨j, h1, h2⟩ := h
  cases j with
  | zero =>
    refine ⟨0, fun x hx => ?_, fun x hx => h2 x ?_⟩
    · rcases h1 x hx with h | h
      · obtain ⟨h, hne⟩ := mem_names.mp h
        rcases List.mem_cons.mp h with rfl | h
        · exact Or.inr (he hne)
        · exact Or.inl (mem_names.mpr ⟨h, hne⟩)
      · exact Or.inr (hs x h)
    · exact mem_names.mpr ⟨List.mem_cons_of_mem _ (mem_names.mp hx).1, (mem_names.mp hx).2⟩
  | succ j => exact ⟨j, fun x hx => (h1 x hx).imp id (hs x), h2⟩

theorem AddedBy.defines_mem {stk ms : List Str} {c Y : Str} (h : AddedBy stk ms c) (hd : defines c Y = true) :
    Y ∈ names stk ∨ Y ∈ ms := by
  obtain ⟨j, hu, _⟩ := h
  exact (hu Y hd).imp names_drop_sub id

/-! ### the fold on a family stretch, as rules -/

/-- the `configs_if` vector right after `#else`, over the vector `l` below the conditional's own entry: the model's `elseStack`
    but for the push of an `#ifndef` (`elseStk_drop`) -/
def elseStk (fl : Flags) (k : Kind) (m : Str) (l : List Str) : List Str :=
  if cls fl k = .neg then m :: l else (if fl.fixElse then [[]] else []) ++ l

/-- the result set right after `#else`: only an `#ifndef` inserts the configuration `c` of its candidate -/
def elseRet (fl : Flags) (k : Kind) (c : Str) (ret : List Str) : List Str :=
  if cls fl k = .neg then setInsert c ret else ret

theorem elseStk_cases (fl : Flags) (k : Kind) (m : Str) (l : List Str) :
    elseStk fl k m l = l ∨ elseStk fl k m l = [] :: l ∨ elseStk fl k m l = m :: l := by
  unfold elseStk
  cases cls fl k <;> cases fl.fixElse <;> simp

theorem mem_elseRet {fl : Flags} {k : Kind} {c c' : Str} {r : List Str} :
    c ∈ elseRet fl k c' r ↔ c ∈ r ∨ (cls fl k = .neg ∧ c = c') := by
  unfold elseRet; split
  · next h => simp [mem_setInsert, h, or_comm]
  · next h => simp [h]

/-- the fold on a stretch `t` of a family file takes the names `stk` on `configs_if` and the result set `ret` to `ret'`; `hm`,
    `hm2`: what such a file guarantees at the `#if..` line and, for an `#ifndef`, at `#else` -/
inductive Walk (fl : Flags) : Items → List Str → List Str → List Str → Prop
  | done {stk ret} : Walk fl .done stk ret ret
  | region {r rest stk ret ret'} : Walk fl rest stk ret ret' → Walk fl (.region r rest) stk ret ret'
  | cond {k m thn rest stk ret r2 ret' c1} (ok : m ≠ []) (hm : ∀ c ∈ ret, defines c m = false)
      (nd : (Items.cond k m thn rest).macros.Nodup) (hc1 : CfgOf (ename fl k m :: stk) c1)
      (hT : Walk fl thn (ename fl k m :: stk) (setInsert c1 ret) r2)
      (hR : Walk fl rest (stk.drop (loss fl thn)) r2 ret') : Walk fl (.cond k m thn rest) stk ret ret'
  | condElse {k m thn els rest stk ret r2 r4 ret' c1 c3} (ok : m ≠ []) (hm : ∀ c ∈ ret, defines c m = false)
      (nd : (Items.condElse k m thn els rest).macros.Nodup) (hc1 : CfgOf (ename fl k m :: stk) c1)
      (hT : Walk fl thn (ename fl k m :: stk) (setInsert c1 ret) r2)
      (hm2 : cls fl k = .neg → ∀ c ∈ r2, defines c m = false) (hc3 : CfgOf (m :: stk.drop (loss fl thn)) c3)
      (hE : Walk fl els (elseStk fl k m (stk.drop (loss fl thn))) (elseRet fl k c3 r2) r4)
      (hR : Walk fl rest (stk.drop (loss fl thn + loss fl els + (if dropsAtElse fl k then 1 else 0))) r4 ret') :
      Walk fl (.condElse k m thn els rest) stk ret ret'

namespace Walk
theorem mono {fl : Flags} {t : Items} {stk ret ret' : List Str} (h : Walk fl t stk ret ret') : ∀ c ∈ ret, c ∈ ret' := by
  induction h with
  | done => exact fun _ h => h
  | region _ ih => exact ih
  | cond _ _ _ _ _ _ ihT ihR => exact fun c hc => ihR c (ihT c (mem_setInsert.mpr (Or.inr hc)))
  | condElse _ _ _ _ _ _ _ _ _ ihT ihE ihR =>
    exact fun c hc => ihR c (ihE c (mem_elseRet.mpr (Or.inl (ihT c (mem_setInsert.mpr (Or.inr hc))))))
end Walk

/- `Walk.new` (below), rule by rule: where the configurations come from that a stretch adds to the result set -/
theorem new_push {l ret r2 ms : List Str} {c1 : Str} (hc1 : CfgOf l c1)
    (h : ∀ c ∈ r2, c ∈ setInsert c1 ret ∨ AddedBy l ms c) : ∀ c ∈ r2, c ∈ ret ∨ AddedBy l ms c := fun c hc =>
  (h c hc).elim (fun h => (mem_setInsert.mp h).elim (fun h => Or.inr (h ▸ hc1.addedBy.mono (by simp))) Or.inl) Or.inr

theorem new_elsePush {fl : Flags} {k : Kind} {m c3 : Str} {l r2 r4 ms : List Str} (hc3 : CfgOf (m :: l) c3)
    (h : ∀ c ∈ r4, c ∈ elseRet fl k c3 r2 ∨ AddedBy (elseStk fl k m l) ms c) :
    ∀ c ∈ r4, c ∈ r2 ∨ AddedBy (elseStk fl k m l) ms c := fun c hc =>
  (h c hc).elim (fun h => (mem_elseRet.mp h).imp id fun ⟨hc, h⟩ => by
    rw [h, elseStk, if_pos hc]; exact hc3.addedBy.mono (by simp)) Or.inr

theorem AddedBy.of_elseStk {fl : Flags} {k : Kind} {m c : Str} {l ms ms' : List Str} (hm : m ∈ ms')
    (hs : ∀ x ∈ ms, x ∈ ms') (h : AddedBy (elseStk fl k m l) ms c) : AddedBy l ms' c := by
  rcases elseStk_cases fl k m l with e | e | e <;> rw [e] at h
  · exact h.mono hs
  · exact h.of_cons (fun h => absurd rfl h) hs
  · exact h.of_cons (fun _ => hm) hs

theorem new_cond {fl : Flags} {k : Kind} {m c1 : Str} {stk ret r2 msT ms' : List Str} (hc1 : CfgOf (ename fl k m :: stk) c1)
    (hm : m ∈ ms') (hsT : ∀ x ∈ msT, x ∈ ms')
    (hT : ∀ c ∈ r2, c ∈ setInsert c1 ret ∨ AddedBy (ename fl k m :: stk) msT c) :
    ∀ c ∈ r2, c ∈ ret ∨ AddedBy stk ms' c := fun c hc =>
  (new_push hc1 hT c hc).imp id (·.of_cons (ename_mem hm) hsT)

theorem new_condElse {fl : Flags} {k : Kind} {m c1 c3 : Str} {stk ret r2 r4 msT ms ms' : List Str} {a : Nat}
    (hc1 : CfgOf (ename fl k m :: stk) c1) (hc3 : CfgOf (m :: stk.drop a) c3)
    (hm : m ∈ ms') (hsT : ∀ x ∈ msT, x ∈ ms') (hs : ∀ x ∈ ms, x ∈ ms')
    (hT : ∀ c ∈ r2, c ∈ setInsert c1 ret ∨ AddedBy (ename fl k m :: stk) msT c)
    (hE : ∀ c ∈ r4, c ∈ elseRet fl k c3 r2 ∨ AddedBy (elseStk fl k m (stk.drop a)) ms c) :
    ∀ c ∈ r4, c ∈ ret ∨ AddedBy stk ms' c := fun c hc =>
  (new_elsePush hc3 hE c hc).elim (new_cond hc1 hm hsT hT c) (fun h => Or.inr (h.of_elseStk hm hs).of_drop)

namespace Walk
theorem new {fl : Flags} {t : Items} {stk ret ret' : List Str} (h : Walk fl t stk ret ret') :
    ∀ c ∈ ret', c ∈ ret ∨ AddedBy stk t.macros c := by
  induction h with
  | done => exact fun _ h => Or.inl h
  | region _ ih => exact ih
  | cond _ _ _ hc1 _ _ ihT ihR =>
    refine fun c hc => (ihR c hc).elim ?_ (fun h => Or.inr (h.of_drop.mono (fun x hx => by simp [Items.macros, hx])))
    exact new_cond hc1 (by simp [Items.macros]) (fun x hx => by simp [Items.macros, hx]) ihT c
  | condElse _ _ _ hc1 _ _ hc3 _ _ ihT ihE ihR =>
    refine fun c hc => (ihR c hc).elim ?_ (fun h => Or.inr (h.of_drop.mono (fun x hx => by simp [Items.macros, hx])))
    exact new_condElse hc1 hc3 (by simp [Items.macros]) (fun x hx => by simp [Items.macros, hx])
      (fun x hx => by simp [Items.macros, hx]) ihT ihE c
end Walk

theorem new_back {r r' l ms : List Str} {Y : Str} (hnew : ∀ c ∈ r', c ∈ r ∨ AddedBy l ms c)
    (h1 : Y ∉ names l) (h2 : Y ∉ ms) : ∀ c ∈ r', defines c Y = true → c ∈ r :=
  fun c hc hd => (hnew c hc).resolve_right fun h => (h.defines_mem hd).elim h1 h2

/-! ### requirements on an assignment, and what a conditional emits -/

/-- assignments that agree with the forced macros -/
def Agrees (d : Str → Bool) (pos neg : List Str) : Prop := (∀ x ∈ pos, d x = true) ∧ (∀ x ∈ neg, d x = false)

theorem agrees_cons_pos {d : Str → Bool} {pos neg : List Str} {m : Str} :
    Agrees d (m :: pos) neg ↔ Agrees d pos neg ∧ d m = true := by
  simp only [Agrees, List.forall_mem_cons]
  exact ⟨fun h => ⟨⟨h.1.2, h.2⟩, h.1.1⟩, fun h => ⟨⟨h.2, h.1.1⟩, h.1.2⟩⟩

theorem agrees_cons_neg {d : Str → Bool} {pos neg : List Str} {m : Str} :
    Agrees d pos (m :: neg) ↔ Agrees d pos neg ∧ d m = false := by
  simp only [Agrees, List.forall_mem_cons]
  exact ⟨fun h => ⟨⟨h.1, h.2.2⟩, h.2.1⟩, fun h => ⟨h.1.1, h.2, h.1.2⟩⟩

theorem holds_true_iff (k : Kind) (d : Str → Bool) (m : Str) : k.holds d m = true ↔ d m = k.positive := by
  cases k <;> cases h : d m <;> simp [Kind.holds, Kind.positive, h]

theorem holds_false_iff (k : Kind) (d : Str → Bool) (m : Str) : k.holds d m = false ↔ d m = !k.positive := by
  cases k <;> cases h : d m <;> simp [Kind.holds, Kind.positive, h]

theorem holds_pos {fl : Flags} {k : Kind} (h : cls fl k = .pos) (d : Str → Bool) (m : Str) : k.holds d m = d m := by
  cases k <;> simp [cls] at h <;> simp [Kind.holds]
  split at h <;> simp at h

theorem holds_nonpos {fl : Flags} {k : Kind} (h : cls fl k ≠ .pos) (d : Str → Bool) (m : Str) : k.holds d m = !d m := by
  cases k <;> simp [cls] at h <;> simp [Kind.holds]

theorem mem_emit_cond {k : Kind} {m : Str} {thn rest : Items} {r : Nat} {d : Str → Bool} :
    r ∈ (Items.cond k m thn rest).emit d ↔ (k.holds d m = true ∧ r ∈ thn.emit d) ∨ r ∈ rest.emit d := by
  cases h : k.holds d m <;> simp [Items.emit, h]

theorem mem_emit_condElse {k : Kind} {m : Str} {thn els rest : Items} {r : Nat} {d : Str → Bool} :
    r ∈ (Items.condElse k m thn els rest).emit d ↔
      (k.holds d m = true ∧ r ∈ thn.emit d) ∨ (k.holds d m = false ∧ r ∈ els.emit d) ∨ r ∈ rest.emit d := by
  cases h : k.holds d m <;> simp [Items.emit, h]

/-! ### coverage -/

/-- the configuration inserted by a push of the name `m`, when the names on the stack are exactly the required macros -/
theorem agrees_pushed {stk : List Str} {m c c0 : Str} {P N : List Str} (hc : CfgOf (m :: stk) c) (hm : m ≠ [])
    (hs : sameSet (names stk) P = true) (h0 : Agrees (defines c0) P N) (hmN : m ∉ N) : Agrees (defines c) (m :: P) N := by
  have key : ∀ x, defines c x = true ↔ x = m ∨ x ∈ P := fun x => by
    rw [hc, names_cons_ne hm, List.mem_cons, sameSet_iff.mp hs x]
  constructor
  · intro p hp
    rw [key]; exact List.mem_cons.mp hp
  · intro n hn'
    cases hd : defines c n with
    | false => rfl
    | true =>
      rcases (key n).mp hd with h | h
      · subst h; exact absurd hn' hmN
      · have := h0.1 n h; rw [h0.2 n hn'] at this; exact absurd this (by simp)

/-- what the coverage induction proves of a stretch -/
def Covers (fl : Flags) (t : Items) (stk ret ret' : List Str) : Prop :=
  ∀ P N : List Str, (∀ x ∈ t.macros, x ∉ N) → (∃ c ∈ ret, Agrees (defines c) P N) → safeItems fl stk P t = true →
    ∀ r ∈ t.regions, ∃ c ∈ ret', Agrees (defines c) P N ∧ r ∈ t.emit (defines c)

theorem thenCheck_pos {fl : Flags} {k : Kind} {m : Str} {stk P : List Str} {rec : List Str → List Str → Bool}
    (hc : cls fl k = .pos) : thenCheck fl k m stk P rec = (sameSet (names stk) P && rec (ename fl k m :: stk) (m :: P)) := by
  simp [thenCheck, ename, hc]

theorem thenCheck_nonpos {fl : Flags} {k : Kind} {m : Str} {stk P : List Str} {rec : List Str → List Str → Bool}
    (hc : cls fl k ≠ .pos) : thenCheck fl k m stk P rec = rec (ename fl k m :: stk) P := by
  unfold thenCheck ename
  cases h : cls fl k <;> simp_all

theorem elseStk_drop (fl : Flags) (k : Kind) (m : Str) (stk : List Str) (a : Nat) :
    elseStk fl k m (stk.drop a) = if cls fl k = .neg then m :: stk.drop a else elseStack fl stk a := rfl

theorem not_mem_cons_of {m : Str} {ms N : List Str} (hm : m ∉ ms) (h : ∀ x ∈ ms, x ∉ N) : ∀ x ∈ ms, x ∉ m :: N := by
  intro x hx hmem
  rcases List.mem_cons.mp hmem with rfl | h'
  · exact hm hx
  · exact h x hx h'

section conditional
variable {fl : Flags} {k : Kind} {m c0 c1 c3 : Str} {thn els : Items} {stk ret r2 r4 P N : List Str}

theorem then_cover (ok : m ≠ []) (hm : ∀ c ∈ ret, defines c m = false) (hmT : m ∉ thn.macros) (hc1 : CfgOf (ename fl k m :: stk) c1)
    (ih : Covers fl thn (ename fl k m :: stk) (setInsert c1 ret) r2)
    (hmN : m ∉ N) (hN : ∀ x ∈ thn.macros, x ∉ N) (hc0 : c0 ∈ ret) (hs0 : Agrees (defines c0) P N)
    (sf : (thn.regions.isEmpty || thenCheck fl k m stk P (fun stk' P' => safeItems fl stk' P' thn)) = true) :
    ∀ r ∈ thn.regions, ∃ c ∈ r2, Agrees (defines c) P N ∧ k.holds (defines c) m = true ∧ r ∈ thn.emit (defines c) := by
  intro r hr
  rw [List.isEmpty_eq_false_iff_exists_mem.mpr ⟨r, hr⟩, Bool.false_or] at sf
  by_cases hc : cls fl k = .pos
  · rw [thenCheck_pos hc, Bool.and_eq_true] at sf
    have e : ename fl k m = m := if_neg (by simp [hc])
    obtain ⟨c, hc', hs, he⟩ := ih (m :: P) N hN
      ⟨c1, mem_setInsert.mpr (Or.inl rfl), agrees_pushed (e ▸ hc1) ok sf.1 hs0 hmN⟩ sf.2 r hr
    exact ⟨c, hc', (agrees_cons_pos.mp hs).1, by rw [holds_pos hc]; exact (agrees_cons_pos.mp hs).2, he⟩
  · rw [thenCheck_nonpos hc] at sf
    obtain ⟨c, hc', hs, he⟩ := ih P (m :: N) (not_mem_cons_of hmT hN)
      ⟨c0, mem_setInsert.mpr (Or.inr hc0), agrees_cons_neg.mpr ⟨hs0, hm c0 hc0⟩⟩ sf r hr
    exact ⟨c, hc', (agrees_cons_neg.mp hs).1, by rw [holds_nonpos hc, (agrees_cons_neg.mp hs).2]; rfl, he⟩

theorem else_cover (ok : m ≠ []) (hm : ∀ c ∈ ret, defines c m = false) (hmE : m ∉ els.macros) (hc1 : CfgOf (ename fl k m :: stk) c1)
    (hT : ∀ c ∈ setInsert c1 ret, c ∈ r2) (hc3 : CfgOf (m :: stk.drop (loss fl thn)) c3)
    (ih : Covers fl els (elseStk fl k m (stk.drop (loss fl thn))) (elseRet fl k c3 r2) r4)
    (hmN : m ∉ N) (hN : ∀ x ∈ els.macros, x ∉ N) (hc0 : c0 ∈ ret) (hs0 : Agrees (defines c0) P N)
    (sf : (els.regions.isEmpty || elseCheck fl k m stk P (loss fl thn) (fun stk' P' => safeItems fl stk' P' els)) = true) :
    ∀ r ∈ els.regions, ∃ c ∈ r4, Agrees (defines c) P N ∧ k.holds (defines c) m = false ∧ r ∈ els.emit (defines c) := by
  intro r hr
  rw [List.isEmpty_eq_false_iff_exists_mem.mpr ⟨r, hr⟩, Bool.false_or] at sf
  unfold elseCheck at sf
  rw [elseStk_drop] at ih
  cases hc : cls fl k with
  | pos =>
    simp only [hc] at sf ih
    obtain ⟨c, hc', hs, he⟩ := ih P (m :: N) (not_mem_cons_of hmE hN)
      ⟨c0, mem_elseRet.mpr (Or.inl (hT c0 (mem_setInsert.mpr (Or.inr hc0)))), agrees_cons_neg.mpr ⟨hs0, hm c0 hc0⟩⟩ sf r hr
    exact ⟨c, hc', (agrees_cons_neg.mp hs).1, by rw [holds_pos hc]; exact (agrees_cons_neg.mp hs).2, he⟩
  | neg =>
    simp only [hc, Bool.and_eq_true] at sf ih
    obtain ⟨c, hc', hs, he⟩ := ih (m :: P) N hN ⟨c3, mem_elseRet.mpr (Or.inr ⟨hc, rfl⟩), agrees_pushed hc3 ok sf.1 hs0 hmN⟩
      sf.2 r hr
    exact ⟨c, hc', (agrees_cons_pos.mp hs).1, by rw [holds_nonpos (fl := fl) (by simp [hc]), (agrees_cons_pos.mp hs).2]; rfl, he⟩
  | nd =>
    simp only [hc, Bool.and_eq_true] at sf ih
    have e : ename fl k m = m := if_neg (by simp [hc])
    obtain ⟨c, hc', hs, he⟩ := ih (m :: P) N hN ⟨c1, mem_elseRet.mpr (Or.inl (hT _ (mem_setInsert.mpr (Or.inl rfl)))),
      agrees_pushed (e ▸ hc1) ok sf.1 hs0 hmN⟩ sf.2 r hr
    exact ⟨c, hc', (agrees_cons_pos.mp hs).1, by rw [holds_nonpos (fl := fl) (by simp [hc]), (agrees_cons_pos.mp hs).2]; rfl, he⟩

end conditional

namespace Walk
theorem cover {fl : Flags} {t : Items} {stk ret ret' : List Str} (h : Walk fl t stk ret ret') : Covers fl t stk ret ret' := by
  induction h with
  | done => intro _ _ _ _ _ r hr; simp [Items.regions] at hr
  | @region r0 rest _ _ _ h ih =>
    intro P N hN av sf r hr
    rcases List.mem_cons.mp hr with rfl | hr
    · obtain ⟨c0, hc0, hs0⟩ := av
      exact ⟨c0, h.mono c0 hc0, hs0, by simp [Items.emit]⟩
    · obtain ⟨c, hc, hs, he⟩ := ih P N hN av (by simpa [safeItems] using sf) r hr
      exact ⟨c, hc, hs, by simp [Items.emit, he]⟩
  | @cond k m thn rest _ _ _ _ _ ok hm nd hc1 hT hR ihT ihR =>
    intro P N hN av sf r hr
    have hN0 : ∀ x ∈ m :: (thn.macros ++ rest.macros), x ∉ N := hN
    have hmn := (List.nodup_cons.mp (show (m :: (thn.macros ++ rest.macros)).Nodup from nd)).1
    obtain ⟨c0, hc0, hs0⟩ := av
    simp only [safeItems, Bool.and_eq_true] at sf
    rcases List.mem_append.mp (show r ∈ thn.regions ++ rest.regions from hr) with h | h
    · obtain ⟨c, hc, hs, hh, he⟩ := then_cover ok hm (fun h => hmn (by simp [h])) hc1 ihT (hN0 m (by simp))
        (fun x hx => hN0 x (by simp [hx])) hc0 hs0 sf.1 r h
      exact ⟨c, hR.mono c hc, hs, by simp [Items.emit, hh, he]⟩
    · obtain ⟨c, hc, hs, he⟩ := ihR P N (fun x hx => hN0 x (by simp [hx]))
        ⟨c0, hT.mono c0 (mem_setInsert.mpr (Or.inr hc0)), hs0⟩ sf.2 r h
      exact ⟨c, hc, hs, by simp [Items.emit, he]⟩
  | @condElse k m thn els rest _ _ _ _ _ _ _ ok hm nd hc1 hT _ hc3 hE hR ihT ihE ihR =>
    intro P N hN av sf r hr
    have hN0 : ∀ x ∈ m :: (thn.macros ++ els.macros ++ rest.macros), x ∉ N := hN
    have hmn := (List.nodup_cons.mp (show (m :: (thn.macros ++ els.macros ++ rest.macros)).Nodup from nd)).1
    obtain ⟨c0, hc0, hs0⟩ := av
    simp only [safeItems, Bool.and_eq_true] at sf
    rcases List.mem_append.mp (show r ∈ thn.regions ++ els.regions ++ rest.regions from hr) with h | h
    · rcases List.mem_append.mp h with h | h
      · obtain ⟨c, hc, hs, hh, he⟩ := then_cover ok hm (fun h => hmn (by simp [h])) hc1 ihT (hN0 m (by simp))
          (fun x hx => hN0 x (by simp [hx])) hc0 hs0 sf.1.1 r h
        exact ⟨c, hR.mono c (hE.mono c (mem_elseRet.mpr (Or.inl hc))), hs, by simp [Items.emit, hh, he]⟩
      · obtain ⟨c, hc, hs, hh, he⟩ := else_cover ok hm (fun h => hmn (by simp [h])) hc1 hT.mono hc3 ihE (hN0 m (by simp))
          (fun x hx => hN0 x (by simp [hx])) hc0 hs0 sf.1.2 r h
        exact ⟨c, hR.mono c hc, hs, by simp [Items.emit, hh, he]⟩
    · obtain ⟨c, hc, hs, he⟩ := ihR P N (fun x hx => hN0 x (by simp [hx]))
        ⟨c0, hE.mono c0 (mem_elseRet.mpr (Or.inl (hT.mono c0 (mem_setInsert.mpr (Or.inr hc0))))), hs0⟩ sf.2 r h
      exact ⟨c, hc, hs, by simp [Items.emit, he]⟩

end Walk

/-! ### necessity: `safe` is exactly the class of covered trees -/

theorem emit_sub_regions (d : Str → Bool) : ∀ (t : Items) (r : Nat), r ∈ t.emit d → r ∈ t.regions
  | .done, r, h => by simp [Items.emit] at h
  | .region r0 rest, r, h => by
    simp only [Items.emit, List.mem_cons] at h
    simp only [Items.regions, List.mem_cons]
    exact h.imp id (emit_sub_regions d rest r)
  | .cond k m t rest, r, h => by
    simp only [Items.regions, List.mem_append]
    exact (mem_emit_cond.mp h).imp (fun h => emit_sub_regions d t r h.2) (emit_sub_regions d rest r)
  | .condElse k m t e rest, r, h => by
    simp only [Items.regions, List.mem_append]
    rcases mem_emit_condElse.mp h with h | h | h
    · exact Or.inl (Or.inl (emit_sub_regions d t r h.2))
    · exact Or.inl (Or.inr (emit_sub_regions d e r h.2))
    · exact Or.inr (emit_sub_regions d rest r h)

/-- the core of necessity: a configuration that defines the name `Y` on top of the stack was inserted while the whole stack
    was in place, so it satisfies the requirements only if the names below `Y` are exactly the required macros -/
theorem sameSet_of_top {Y c : Str} {stk ms P N : List Str} (h : AddedBy (Y :: stk) ms c) (hd : defines c Y = true)
    (hY : Y ∉ P ∧ Y ∉ N) (h1 : Y ∉ ms) (hms : ∀ x ∈ ms, x ∉ P) (hPN : ∀ x ∈ names stk, x ∈ P ∨ x ∈ N)
    (hs : Agrees (defines c) P N) : sameSet (names stk) P = true := by
  obtain ⟨j, hu, hl⟩ := h
  cases j with
  | succ j =>
    exact ((hu Y hd).elim (fun h => (hPN Y (names_drop_sub (l := stk) (j := j) h)).elim hY.1 hY.2) h1).elim
  | zero =>
    refine sameSet_iff.mpr fun x => ⟨fun hx => (hPN x hx).resolve_right fun h => ?_, fun hx => ?_⟩
    · have := hs.2 x h
      rw [hl x (mem_names.mpr ⟨List.mem_cons_of_mem _ (mem_names.mp hx).1, (mem_names.mp hx).2⟩)] at this; cases this
    · rcases hu x (hs.1 x hx) with h | h
      · obtain ⟨h, hne⟩ := mem_names.mp h
        exact (List.mem_cons.mp h).elim (fun h' => absurd hx (h' ▸ hY.1)) fun h' => mem_names.mpr ⟨h', hne⟩
      · exact absurd hx (hms x h)

/-- what the necessity induction proves of a stretch; `R` is a later result set, whose configurations that define a macro of
    the stretch were there when the stretch ended -/
def Needs (fl : Flags) (R : List Str) (t : Items) (stk ret' : List Str) : Prop :=
  ∀ P N : List Str, t.regions.Nodup → (∀ x ∈ t.macros, x ∉ P ∧ x ∉ N) → (∀ x ∈ names stk, x ∈ P ∨ x ∈ N) →
    (∀ c ∈ R, ∀ Y ∈ t.macros, defines c Y = true → c ∈ ret') →
    (∀ r ∈ t.regions, ∃ c ∈ R, Agrees (defines c) P N ∧ r ∈ t.emit (defines c)) → safeItems fl stk P t = true

section conditional
variable {fl : Flags} {k : Kind} {m c3 : Str} {thn els : Items} {stk ret r2 r4 R P N : List Str}

theorem then_needs (ok : m ≠ []) (hm : ∀ c ∈ ret, defines c m = false) (hmT : m ∉ thn.macros)
    (hnew : ∀ c ∈ r2, c ∈ ret ∨ AddedBy (ename fl k m :: stk) thn.macros c)
    (ih : Needs fl R thn (ename fl k m :: stk) r2) (hreg : thn.regions.Nodup)
    (hfr : ∀ x ∈ m :: thn.macros, x ∉ P ∧ x ∉ N) (hstk : ∀ x ∈ names stk, x ∈ P ∨ x ∈ N)
    (hR : ∀ c ∈ R, ∀ Y, Y ∈ thn.macros ∨ (Y = m ∧ cls fl k = .pos) → defines c Y = true → c ∈ r2)
    (hcov : ∀ r ∈ thn.regions, ∃ c ∈ R, Agrees (defines c) P N ∧ k.holds (defines c) m = true ∧ r ∈ thn.emit (defines c)) :
    (thn.regions.isEmpty || thenCheck fl k m stk P (fun stk' P' => safeItems fl stk' P' thn)) = true := by
  cases hne : thn.regions.isEmpty with
  | true => rfl
  | false =>
    have hmP := hfr m (by simp)
    have hT : ∀ x ∈ thn.macros, x ∉ P ∧ x ∉ N := fun x hx => hfr x (List.mem_cons_of_mem _ hx)
    have hR' : ∀ c ∈ R, ∀ Y ∈ thn.macros, defines c Y = true → c ∈ r2 := fun c hc Y hY => hR c hc Y (Or.inl hY)
    rw [Bool.false_or]
    by_cases hc : cls fl k = .pos
    · have hcov' : ∀ r ∈ thn.regions, ∃ c ∈ R, Agrees (defines c) (m :: P) N ∧ r ∈ thn.emit (defines c) := fun r hr => by
        obtain ⟨c, hcR, hs, hh, he⟩ := hcov r hr
        exact ⟨c, hcR, agrees_cons_pos.mpr ⟨hs, by rwa [holds_pos hc] at hh⟩, he⟩
      -- a configuration that covers a region of the branch defines `m`, so it was built on the whole stack
      obtain ⟨r0, hr0⟩ := List.isEmpty_eq_false_iff_exists_mem.mp hne
      obtain ⟨c, hcR, hs, -⟩ := hcov' r0 hr0
      have hdef := hs.1 m List.mem_cons_self
      rw [thenCheck_pos hc]
      rw [show ename fl k m = m from if_neg (by simp [hc])] at hnew ih ⊢
      have hadd := (hnew c (hR c hcR m (Or.inr ⟨rfl, hc⟩) hdef)).resolve_left fun h => by simp [hm c h] at hdef
      rw [sameSet_of_top hadd hdef hmP hmT (fun x hx => (hT x hx).1) hstk (agrees_cons_pos.mp hs).1, Bool.true_and]
      refine ih (m :: P) N hreg (fun x hx => ⟨not_mem_cons_of hmT (fun x hx => (hT x hx).1) x hx, (hT x hx).2⟩) ?_ hR' hcov'
      rw [names_cons_ne ok]
      exact fun x hx => (List.mem_cons.mp hx).elim (fun h => Or.inl (by simp [h])) fun h => (hstk x h).imp (List.mem_cons_of_mem _) id
    · rw [thenCheck_nonpos hc]
      refine ih P (m :: N) hreg (fun x hx => ⟨(hT x hx).1, not_mem_cons_of hmT (fun x hx => (hT x hx).2) x hx⟩)
        (fun x hx => ?_) hR' fun r hr => ?_
      · obtain ⟨hx, hne⟩ := mem_names.mp hx
        rcases List.mem_cons.mp hx with rfl | h
        · exact Or.inr (ename_mem (by simp) hne)
        · exact (hstk x (mem_names.mpr ⟨h, hne⟩)).imp id (List.mem_cons_of_mem _)
      · obtain ⟨c, hcR, hs, hh, he⟩ := hcov r hr
        exact ⟨c, hcR, agrees_cons_neg.mpr ⟨hs, by simpa [holds_nonpos hc] using hh⟩, he⟩

theorem else_needs (ok : m ≠ []) (hm : ∀ c ∈ ret, defines c m = false) (hmT : m ∉ thn.macros) (hmE : m ∉ els.macros)
    (hnewT : ∀ c ∈ r2, c ∈ ret ∨ AddedBy (ename fl k m :: stk) thn.macros c)
    (hm2 : cls fl k = .neg → ∀ c ∈ r2, defines c m = false)
    (hnewE : ∀ c ∈ r4, c ∈ r2 ∨ AddedBy (elseStk fl k m (stk.drop (loss fl thn))) els.macros c)
    (ih : Needs fl R els (elseStk fl k m (stk.drop (loss fl thn))) r4) (hreg : els.regions.Nodup)
    (hfr : ∀ x ∈ m :: (thn.macros ++ els.macros), x ∉ P ∧ x ∉ N)
    (hstk : ∀ x ∈ names stk, x ∈ P ∨ x ∈ N)
    (hR : ∀ c ∈ R, ∀ Y, Y ∈ els.macros ∨ (Y = m ∧ cls fl k ≠ .pos) → defines c Y = true → c ∈ r4)
    (hcov : ∀ r ∈ els.regions, ∃ c ∈ R, Agrees (defines c) P N ∧ k.holds (defines c) m = false ∧ r ∈ els.emit (defines c)) :
    (els.regions.isEmpty ||
      elseCheck fl k m stk P (loss fl thn) (fun stk' P' => safeItems fl stk' P' els)) = true := by
  cases hne : els.regions.isEmpty with
  | true => rfl
  | false =>
    have hmP := hfr m (by simp)
    have hT : ∀ x ∈ thn.macros, x ∉ P ∧ x ∉ N := fun x hx => hfr x (by simp [hx])
    have hE : ∀ x ∈ els.macros, x ∉ P ∧ x ∉ N := fun x hx => hfr x (by simp [hx])
    have hEP : ∀ x ∈ els.macros, x ∉ m :: P ∧ x ∉ N := fun x hx =>
      ⟨not_mem_cons_of hmE (fun x hx => (hE x hx).1) x hx, (hE x hx).2⟩
    have hmS : m ∉ names stk := fun h => (hstk m h).elim hmP.1 hmP.2
    have hR' : ∀ c ∈ R, ∀ Y ∈ els.macros, defines c Y = true → c ∈ r4 := fun c hc Y hY => hR c hc Y (Or.inl hY)
    have hcov' : cls fl k ≠ .pos → ∀ r ∈ els.regions, ∃ c ∈ R, Agrees (defines c) (m :: P) N ∧ r ∈ els.emit (defines c) := fun hc r hr => by
      obtain ⟨c, hcR, hs, hh, he⟩ := hcov r hr
      exact ⟨c, hcR, agrees_cons_pos.mpr ⟨hs, by simpa [holds_nonpos hc] using hh⟩, he⟩
    obtain ⟨r0, hr0⟩ := List.isEmpty_eq_false_iff_exists_mem.mp hne
    rw [Bool.false_or]
    unfold elseCheck
    rw [elseStk_drop] at ih hnewE
    cases hc : cls fl k with
    | pos =>
      simp only [hc] at ih ⊢
      refine ih P (m :: N) hreg (fun x hx => ⟨(hE x hx).1, not_mem_cons_of hmE (fun x hx => (hE x hx).2) x hx⟩)
        (fun x hx => (hstk x (names_elseStack_sub hx)).imp id (List.mem_cons_of_mem _)) hR' fun r hr => ?_
      obtain ⟨c, hcR, hs, hh, he⟩ := hcov r hr
      exact ⟨c, hcR, agrees_cons_neg.mpr ⟨hs, by rwa [holds_pos hc] at hh⟩, he⟩
    | neg =>
      have hnp : cls fl k ≠ .pos := by simp [hc]
      obtain ⟨c, hcR, hs, -⟩ := hcov' hnp r0 hr0
      have hdef := hs.1 m List.mem_cons_self
      simp only [hc, if_true] at ih hnewE ⊢
      have hadd := (hnewE c (hR c hcR m (Or.inr ⟨rfl, hnp⟩) hdef)).resolve_left fun h => by simp [hm2 hc c h] at hdef
      rw [sameSet_of_top hadd hdef hmP hmE (fun x hx => (hE x hx).1) (fun x hx => hstk x (names_drop_sub hx))
        (agrees_cons_pos.mp hs).1, Bool.true_and]
      refine ih (m :: P) N hreg hEP ?_ hR' (hcov' hnp)
      rw [names_cons_ne ok]
      exact fun x hx => (List.mem_cons.mp hx).elim (fun h => Or.inl (by simp [h]))
        fun h => (hstk x (names_drop_sub h)).imp (List.mem_cons_of_mem _) id
    | nd =>
      have hnp : cls fl k ≠ .pos := by simp [hc]
      obtain ⟨c, hcR, hs, -⟩ := hcov' hnp r0 hr0
      have hdef := hs.1 m List.mem_cons_self
      simp only [hc] at ih hnewE ⊢
      rw [show ename fl k m = m from if_neg (by simp [hc])] at hnewT
      have hthen : c ∈ r2 := new_back hnewE (fun hx => hmS (names_elseStack_sub hx)) hmE c
        (hR c hcR m (Or.inr ⟨rfl, hnp⟩) hdef) hdef
      have hadd := (hnewT c hthen).resolve_left fun h => by simp [hm c h] at hdef
      rw [sameSet_of_top hadd hdef hmP hmT (fun x hx => (hT x hx).1) hstk (agrees_cons_pos.mp hs).1, Bool.true_and]
      exact ih (m :: P) N hreg hEP (fun x hx => (hstk x (names_elseStack_sub hx)).imp (List.mem_cons_of_mem _) id)
        hR' (hcov' hnp)

end conditional

namespace Walk
theorem needs {fl : Flags} {t : Items} {stk ret ret' : List Str} (R : List Str) (h : Walk fl t stk ret ret') : Needs fl R t stk ret' := by
  induction h with
  | done => intro _ _ _ _ _ _ _; rfl
  | @region r0 rest _ _ _ _ ih =>
    intro P N hreg hfr hstk hR hcov
    obtain ⟨hr0, hregR⟩ := List.nodup_cons.mp (show (r0 :: rest.regions).Nodup from hreg)
    refine ih P N hregR hfr hstk hR fun r hr => ?_
    obtain ⟨c, hc, hs, he⟩ := hcov r (List.mem_cons_of_mem _ hr)
    simp only [Items.emit, List.mem_cons] at he
    exact ⟨c, hc, hs, he.resolve_left fun h => hr0 (h ▸ hr)⟩
  | @cond k m thn rest stk _ _ _ _ ok hm nd hc1 hT hW ihT ihR =>
    intro P N hreg hfr hstk hR hcov
    obtain ⟨hregT, hregR, hdisjR⟩ := List.nodup_append.mp (show (thn.regions ++ rest.regions).Nodup from hreg)
    obtain ⟨ndT, -, notRest⟩ := List.nodup_append.mp (show ((m :: thn.macros) ++ rest.macros).Nodup from nd)
    have hfrC : ∀ x ∈ m :: thn.macros, x ∉ P ∧ x ∉ N := fun x hx => hfr x (List.mem_append_left _ hx)
    have hstkD : ∀ {a : Nat}, ∀ x ∈ names (stk.drop a), x ∈ P ∨ x ∈ N := fun x hx => hstk x (names_drop_sub hx)
    simp only [safeItems, Bool.and_eq_true]
    constructor
    · refine then_needs ok hm (List.nodup_cons.mp ndT).1 (new_push hc1 hT.new) ihT hregT hfrC hstk
        (fun c hc Y hY hd => ?_) fun r hr => ?_
      · have hYin : Y ∈ m :: thn.macros := by rcases hY with h | ⟨h, _⟩ <;> simp [h]
        exact new_back hW.new (fun h => (hstkD Y h).elim (hfrC Y hYin).1 (hfrC Y hYin).2) (fun h => notRest Y hYin Y h rfl) c
          (hR c hc Y (List.mem_append_left _ hYin) hd) hd
      · obtain ⟨c, hc, hs, he⟩ := hcov r (List.mem_append_left _ hr)
        obtain ⟨hh, he⟩ := (mem_emit_cond.mp he).resolve_right fun h => hdisjR r hr r (emit_sub_regions _ rest r h) rfl
        exact ⟨c, hc, hs, hh, he⟩
    · refine ihR P N hregR (fun x hx => hfr x (List.mem_append_right _ hx)) hstkD
        (fun c hc Y hY => hR c hc Y (List.mem_append_right _ hY)) fun r hr => ?_
      obtain ⟨c, hc, hs, he⟩ := hcov r (List.mem_append_right _ hr)
      exact ⟨c, hc, hs, (mem_emit_cond.mp he).resolve_left fun h => hdisjR r (emit_sub_regions _ thn r h.2) r hr rfl⟩
  | @condElse k m thn els rest stk _ r2 _ _ _ _ ok hm nd hc1 hT hm2 hc3 hE hW ihT ihE ihR =>
    intro P N hreg hfr hstk hR hcov
    obtain ⟨hregTE, hregR, hdisjR⟩ :=
      List.nodup_append.mp (show (thn.regions ++ els.regions ++ rest.regions).Nodup from hreg)
    obtain ⟨hregT, hregE, hdisjTE⟩ := List.nodup_append.mp hregTE
    obtain ⟨ndME, -, notRest⟩ := List.nodup_append.mp (show ((m :: (thn.macros ++ els.macros)) ++ rest.macros).Nodup from nd)
    obtain ⟨hmn, ndTE⟩ := List.nodup_cons.mp ndME
    have disjTE := (List.nodup_append.mp ndTE).2.2
    have hmT : m ∉ thn.macros := fun h => hmn (List.mem_append_left _ h)
    have hmE : m ∉ els.macros := fun h => hmn (List.mem_append_right _ h)
    have hfrC : ∀ x ∈ m :: (thn.macros ++ els.macros), x ∉ P ∧ x ∉ N := fun x hx => hfr x (List.mem_append_left _ hx)
    have hYS : ∀ Y ∈ m :: (thn.macros ++ els.macros), Y ∉ names stk := fun Y hY h =>
      (hstk Y h).elim (hfrC Y hY).1 (hfrC Y hY).2
    have hstkD : ∀ {a : Nat}, ∀ x ∈ names (stk.drop a), x ∈ P ∨ x ∈ N := fun x hx => hstk x (names_drop_sub hx)
    have hnewT := new_push hc1 hT.new
    have hnewE := new_elsePush hc3 hE.new
    -- a configuration of `R` that defines a macro of the conditional was present right after `#else .. `
    have later : ∀ c ∈ R, ∀ Y ∈ m :: (thn.macros ++ els.macros), defines c Y = true → c ∈ _ := fun c hc Y hY hd =>
      new_back hW.new (fun h => hYS Y hY (names_drop_sub h)) (fun h => notRest Y hY Y h rfl) c
        (hR c hc Y (List.mem_append_left _ hY) hd) hd
    simp only [safeItems, Bool.and_eq_true]
    refine ⟨⟨?_, ?_⟩, ?_⟩
    · refine then_needs ok hm hmT hnewT ihT hregT (fun x hx => hfrC x (by rcases List.mem_cons.mp hx with h | h <;> simp [h])) hstk
        (fun c hc Y hYm hd => ?_) fun r hr => ?_
      · have hYin : Y ∈ m :: (thn.macros ++ els.macros) := by rcases hYm with h | ⟨h, _⟩ <;> simp [h]
        -- `Y` is not named on the stack that `#else` left, nor a macro of the else-branch
        refine new_back hnewE ?_ ?_ c (later c hc Y hYin hd) hd
        · rw [elseStk_drop]
          by_cases hcl : cls fl k = .neg
          · simp only [hcl, if_true, names_cons_ne ok, List.mem_cons]
            rintro (h' | h')
            · rcases hYm with h'' | ⟨_, h''⟩
              · rw [h'] at h''; exact hmT h''
              · rw [hcl] at h''; exact absurd h'' (by simp)
            · exact hYS Y hYin (names_drop_sub h')
          · simp only [hcl, if_false]
            exact fun hx => hYS Y hYin (names_elseStack_sub hx)
        · intro h'
          rcases hYm with h'' | ⟨h'', _⟩
          · exact disjTE Y h'' Y h' rfl
          · rw [h''] at h'; exact hmE h'
      · obtain ⟨c, hc, hs, he⟩ := hcov r (List.mem_append_left _ (List.mem_append_left _ hr))
        rcases mem_emit_condElse.mp he with h | h | h
        · exact ⟨c, hc, hs, h⟩
        · exact absurd rfl (hdisjTE r hr r (emit_sub_regions _ els r h.2))
        · exact absurd rfl (hdisjR r (List.mem_append_left _ hr) r (emit_sub_regions _ rest r h))
    · refine else_needs ok hm hmT hmE hnewT hm2 hnewE ihE hregE hfrC hstk
        (fun c hc Y hYm => later c hc Y (by rcases hYm with h | ⟨h, _⟩ <;> simp [h])) fun r hr => ?_
      obtain ⟨c, hc, hs, he⟩ := hcov r (List.mem_append_left _ (List.mem_append_right _ hr))
      rcases mem_emit_condElse.mp he with h | h | h
      · exact absurd rfl (hdisjTE r (emit_sub_regions _ thn r h.2) r hr)
      · exact ⟨c, hc, hs, h⟩
      · exact absurd rfl (hdisjR r (List.mem_append_right _ hr) r (emit_sub_regions _ rest r h))
    · refine ihR P N hregR (fun x hx => hfr x (List.mem_append_right _ hx)) hstkD
        (fun c hc Y hY => hR c hc Y (List.mem_append_right _ hY)) fun r hr => ?_
      obtain ⟨c, hc, hs, he⟩ := hcov r (List.mem_append_right _ hr)
      rcases mem_emit_condElse.mp he with h | h | h
      · exact absurd rfl (hdisjR r (List.mem_append_left _ (emit_sub_regions _ thn r h.2)) r hr)
      · exact absurd rfl (hdisjR r (List.mem_append_right _ (emit_sub_regions _ els r h.2)) r hr)
      · exact ⟨c, hc, hs, h⟩

end Walk

/-! ### syntactic classes inside `safe` -/

theorem safeItems_of_flat {t : Items} (h : t.flat = true) (fl : Flags) : ∀ stk P, safeItems fl stk P t = true := by
  induction t with
  | done => intro _ _; rfl
  | region r rest ih => intro stk P; simpa [safeItems] using ih (by simpa [Items.flat] using h) stk P
  | cond => simp [Items.flat] at h
  | condElse => simp [Items.flat] at h

theorem sameSet_refl (l : List Str) : sameSet l l = true := sameSet_iff.mpr (fun _ => Iff.rfl)

theorem sameSet_push {stk P : List Str} {m : Str} (hm : m ≠ []) (h : sameSet (names stk) P = true) :
    sameSet (names (m :: stk)) (m :: P) = true := by
  rw [sameSet_iff] at *
  intro x
  rw [names_cons_ne hm]
  simp [h x]

theorem sameSet_push_nil {stk P : List Str} (h : sameSet (names stk) P = true) :
    sameSet (names ([] :: stk)) P = true := by rw [names_cons_nil]; exact h

theorem loss_eq_zero {fl : Flags} : ∀ t : Items, fl.fixElse = true ∨ noDropElse t = true → loss fl t = 0
  | .done, _ => rfl
  | .region _ rest, h => loss_eq_zero rest (h.imp id (by simp [noDropElse]))
  | .cond _ _ t rest, h => by
    have hT := loss_eq_zero t (h.imp id (by simp only [noDropElse, Bool.and_eq_true]; exact And.left))
    have hR := loss_eq_zero rest (h.imp id (by simp only [noDropElse, Bool.and_eq_true]; exact And.right))
    simp [loss, hT, hR]
  | .condElse k _ t e rest, h => by
    have h' : fl.fixElse = true ∨ (k = .ifndef ∧ noDropElse t = true ∧ noDropElse e = true ∧ noDropElse rest = true) :=
      h.imp id (by simp only [noDropElse, Bool.and_eq_true, beq_iff_eq, and_assoc]; exact id)
    have hT := loss_eq_zero t (h'.imp id (·.2.1))
    have hE := loss_eq_zero e (h'.imp id (·.2.2.1))
    have hR := loss_eq_zero rest (h'.imp id (·.2.2.2))
    have hd : dropsAtElse fl k = false := by
      rcases h' with h' | ⟨rfl, _⟩
      · simp [dropsAtElse, h']
      · simp [dropsAtElse, cls]
    simp [loss, hT, hE, hR, hd]

theorem cls_nd {fl : Flags} {k : Kind} (h : cls fl k = .nd) : k = .ifNotDefined ∧ fl.fixNotDef = false := by
  cases k <;> simp [cls] at h ⊢
  exact h

theorem ndLeaf_of_flat : ∀ {t : Items}, t.flat = true → ndLeaf t = true
  | .done, _ => rfl
  | .region _ rest, h => ndLeaf_of_flat (t := rest) h
  | .cond .., h => by simp [Items.flat] at h
  | .condElse .., h => by simp [Items.flat] at h

theorem thenCheck_of_sameSet {fl : Flags} {k : Kind} {m : Str} {stk P : List Str} {rec : List Str → List Str → Bool}
    (hm : m ≠ []) (hs : sameSet (names stk) P = true)
    (hrec : ∀ stk' P', sameSet (names stk') P' = true → rec stk' P' = true)
    (hnd : cls fl k = .nd → ∀ stk' P', rec stk' P' = true) : thenCheck fl k m stk P rec = true := by
  unfold thenCheck
  cases hc : cls fl k with
  | pos => simp [hs, hrec _ _ (sameSet_push hm hs)]
  | neg => exact hrec _ _ (sameSet_push_nil hs)
  | nd => exact hnd hc _ _

theorem elseCheck_of_sameSet {fl : Flags} {k : Kind} {m : Str} {stk P : List Str} {rec : List Str → List Str → Bool}
    (hm : m ≠ []) (hs : sameSet (names stk) P = true)
    (hrec : ∀ stk' P', sameSet (names stk') P' = true → rec stk' P' = true)
    (hnd : cls fl k = .nd → ∀ stk' P', rec stk' P' = true) : elseCheck fl k m stk P 0 rec = true := by
  unfold elseCheck
  cases hc : cls fl k with
  | pos => exact hrec _ _ (by rw [names_elseStack, List.drop_zero]; exact hs)
  | neg => simp [hs, hrec _ _ (sameSet_push hm hs)]
  | nd => simp [hs, hnd hc]

theorem ndLeaf_cond {k : Kind} {m : Str} {t rest : Items} (h : ndLeaf (.cond k m t rest) = true) :
    (k = .ifNotDefined → t.flat = true) ∧ ndLeaf t = true ∧ ndLeaf rest = true := by
  simp only [ndLeaf, Bool.and_eq_true] at h
  by_cases hk : k = .ifNotDefined
  · simp only [hk, if_true] at h; exact ⟨fun _ => h.1, ndLeaf_of_flat h.1, h.2⟩
  · simp only [hk, if_false] at h; exact ⟨fun h' => absurd h' hk, h.1, h.2⟩

theorem ndLeaf_condElse {k : Kind} {m : Str} {t e rest : Items} (h : ndLeaf (.condElse k m t e rest) = true) :
    (k = .ifNotDefined → t.flat = true ∧ e.flat = true) ∧ ndLeaf t = true ∧ ndLeaf e = true ∧ ndLeaf rest = true := by
  simp only [ndLeaf, Bool.and_eq_true] at h
  by_cases hk : k = .ifNotDefined
  · simp only [hk, if_true, Bool.and_eq_true] at h
    exact ⟨fun _ => h.1, ndLeaf_of_flat h.1.1, ndLeaf_of_flat h.1.2, h.2⟩
  · simp only [hk, if_false, Bool.and_eq_true] at h; exact ⟨fun h' => absurd h' hk, h.1.1, h.1.2, h.2⟩

/-- where the surplus pops at `#else` do no harm: there are none, or they hit the empty vector (top level) -/
def DropsOk (fl : Flags) (stk : List Str) (t : Items) : Prop :=
  fl.fixElse = true ∨ noDropElse t = true ∨ (stk = [] ∧ simpleElse t = true)

theorem DropsOk.cond {fl : Flags} {stk : List Str} {k : Kind} {m : Str} {t rest : Items} (h : DropsOk fl stk (.cond k m t rest)) :
    (fl.fixElse = true ∨ noDropElse t = true) ∧ DropsOk fl stk rest := by
  rcases h with h | h | ⟨h0, h⟩
  · exact ⟨Or.inl h, Or.inl h⟩
  · simp only [noDropElse, Bool.and_eq_true] at h; exact ⟨Or.inr h.1, Or.inr (Or.inl h.2)⟩
  · simp only [simpleElse, Bool.and_eq_true] at h; exact ⟨Or.inr h.1, Or.inr (Or.inr ⟨h0, h.2⟩)⟩

theorem DropsOk.condElse {fl : Flags} {stk : List Str} {k : Kind} {m : Str} {t e rest : Items}
    (h : DropsOk fl stk (.condElse k m t e rest)) :
    (fl.fixElse = true ∨ noDropElse t = true) ∧ (fl.fixElse = true ∨ noDropElse e = true) ∧ DropsOk fl stk rest ∧
    stk.drop (if dropsAtElse fl k then 1 else 0) = stk := by
  rcases h with h | h | ⟨h0, h⟩
  · exact ⟨Or.inl h, Or.inl h, Or.inl h, by simp [dropsAtElse, h]⟩
  · simp only [noDropElse, Bool.and_eq_true, beq_iff_eq] at h
    exact ⟨Or.inr h.1.1.2, Or.inr h.1.2, Or.inr (Or.inl h.2), by simp [dropsAtElse, h.1.1.1, cls]⟩
  · simp only [simpleElse, Bool.and_eq_true] at h
    exact ⟨Or.inr h.1.1, Or.inr h.1.2, Or.inr (Or.inr ⟨h0, h.2⟩), by simp [h0]⟩

/-- the fold keeps `names stk = P` along every branch, and so passes every check of `safeItems`, when the surplus pops do
    no harm and no `#if !defined` pushes a name that its branch needs undefined -/
theorem safeItems_of_sameSet {fl : Flags} :
    ∀ (t : Items) (stk P : List Str), (∀ m ∈ t.macros, m ≠ []) → (fl.fixNotDef = true ∨ ndLeaf t = true) →
      DropsOk fl stk t → sameSet (names stk) P = true → safeItems fl stk P t = true
  | .done, _, _, _, _, _, _ => rfl
  | .region _ rest, stk, P, hm, hl, hn, hs => safeItems_of_sameSet rest stk P hm hl hn hs
  | .cond k m t rest, stk, P, hm, hl, hn, hs => by
    have hl' := hl.imp id ndLeaf_cond
    obtain ⟨hnT, hnR⟩ := hn.cond
    have hT := fun stk' P' => safeItems_of_sameSet t stk' P' (fun x hx => hm x (by simp [Items.macros, hx]))
      (hl'.imp id (·.2.1)) (hnT.imp id Or.inl)
    have hR := safeItems_of_sameSet rest stk P (fun x hx => hm x (by simp [Items.macros, hx]))
      (hl'.imp id (·.2.2)) hnR hs
    have hflat : cls fl k = .nd → ∀ stk' P', safeItems fl stk' P' t = true := fun hc =>
      safeItems_of_flat ((hl'.resolve_left (by simp [(cls_nd hc).2])).1 (cls_nd hc).1) fl
    simp only [safeItems, loss_eq_zero t hnT, List.drop_zero, hR, Bool.and_true, Bool.or_eq_true]
    exact Or.inr (thenCheck_of_sameSet (hm m (by simp [Items.macros])) hs hT hflat)
  | .condElse k m t e rest, stk, P, hm, hl, hn, hs => by
    have hmm : m ≠ [] := hm m (by simp [Items.macros])
    have hl' := hl.imp id ndLeaf_condElse
    obtain ⟨hnT, hnE, hnR, hdrop⟩ := hn.condElse
    have hT := fun stk' P' => safeItems_of_sameSet t stk' P' (fun x hx => hm x (by simp [Items.macros, hx]))
      (hl'.imp id (·.2.1)) (hnT.imp id Or.inl)
    have hE := fun stk' P' => safeItems_of_sameSet e stk' P' (fun x hx => hm x (by simp [Items.macros, hx]))
      (hl'.imp id (·.2.2.1)) (hnE.imp id Or.inl)
    have hR := safeItems_of_sameSet rest stk P (fun x hx => hm x (by simp [Items.macros, hx]))
      (hl'.imp id (·.2.2.2)) hnR hs
    have hflat : cls fl k = .nd → t.flat = true ∧ e.flat = true := fun hc =>
      (hl'.resolve_left (by simp [(cls_nd hc).2])).1 (cls_nd hc).1
    simp only [safeItems, loss_eq_zero t hnT, loss_eq_zero e hnE, Nat.zero_add, hdrop, hR, Bool.and_true, Bool.or_eq_true,
      Bool.and_eq_true]
    exact ⟨Or.inr (thenCheck_of_sameSet hmm hs hT fun hc => safeItems_of_flat (hflat hc).1 fl),
      Or.inr (elseCheck_of_sameSet hmm hs hE fun hc => safeItems_of_flat (hflat hc).2 fl)⟩

theorem safeItems_simpleElse (fl : Flags) :
    ∀ (t : Items), (∀ m ∈ t.macros, m ≠ []) → ndLeaf t = true → simpleElse t = true → safeItems fl [] [] t = true :=
  fun t hm hl hn => safeItems_of_sameSet t [] [] hm (Or.inr hl) (Or.inr (Or.inr ⟨rfl, hn⟩)) (sameSet_refl _)

/-! ### the fold obeys the rules -/

theorem run_append (fl : Flags) (inp : Inp) (s : St) (a b : List Dir) :
    run fl inp s (a ++ b) = run fl inp (run fl inp s a) b := List.foldl_append

theorem run_cons (fl : Flags) (inp : Inp) (s : St) (d : Dir) (ds : List Dir) :
    run fl inp s (d :: ds) = run fl inp (step fl inp s d) ds := rfl

theorem run_nil (fl : Flags) (inp : Inp) (s : St) : run fl inp s [] = s := rfl

theorem step_opn {fl : Flags} {inp : Inp} {s : St} (h : s.skip = none) (k : Kind) (m : Str) :
    step fl inp s (.opn k m) = stepOpen fl inp s k m := by simp [step, h]
theorem step_els {fl : Flags} {inp : Inp} {s : St} (h : s.skip = none) :
    step fl inp s .els = stepElse fl inp s := by simp [step, h]
theorem step_endif {fl : Flags} {inp : Inp} {s : St} (h : s.skip = none) :
    step fl inp s .endif = stepEndif s := by simp [step, h]
theorem step_region {fl : Flags} {inp : Inp} {s : St} (h : s.skip = none) (r : Nat) :
    step fl inp s (.region r) = s := by simp [step, h]

theorem flatten_cond (k : Kind) (m : Str) (t rest : Items) :
    (Items.cond k m t rest).flatten = .opn k m :: (t.flatten ++ (.endif :: rest.flatten)) := rfl

theorem flatten_condElse (k : Kind) (m : Str) (t e rest : Items) :
    (Items.condElse k m t e rest).flatten = .opn k m :: (t.flatten ++ (.els :: (e.flatten ++ (.endif :: rest.flatten)))) := by
  simp [Items.flatten]

theorem pop_drop_cons (a : Nat) (e : Str) (l : List Str) : pop (List.drop a (e :: l)) = List.drop a l := by
  cases a with
  | zero => rfl
  | succ n => simp [pop, List.tail_drop]

theorem pop_drop_elseStk (fl : Flags) (k : Kind) (m : Str) (l : List Str) (b : Nat) :
    pop (List.drop b (elseStk fl k m l)) = List.drop (b + (if dropsAtElse fl k then 1 else 0)) l := by
  unfold elseStk dropsAtElse
  cases hc : cls fl k <;> cases hf : fl.fixElse <;> simp [pop, List.tail_drop]

/-- the entry an `#if..` line on a fresh macro pushes on `configs_if` (its name is `ename`); `nentry`: on `configs_ifndef` -/
def entry (fl : Flags) (k : Kind) (m : Str) : Str :=
  match cls fl k with
  | .pos => eD m
  | .neg => []
  | .nd => m

def nentry (fl : Flags) (k : Kind) (m : Str) : Str := if cls fl k = .neg then m else []

theorem entry_wf (fl : Flags) (k : Kind) {m : Str} (h : okName m = true) : EntryWF (entry fl k m) := by
  unfold entry; split
  · exact EntryWF.self h
  · exact EntryWF.nil
  · exact EntryWF.bare h

theorem nameOf_entry (fl : Flags) (k : Kind) {m : Str} (h : okName m = true) : nameOf (entry fl k m) = ename fl k m := by
  unfold entry ename
  cases hc : cls fl k <;> simp [nameOf_eD h, nameOf_ok h, nameOf_nil]

theorem nameOf_entry_mem {fl : Flags} {k : Kind} {m : Str} {ms : List Str} (h : okName m = true) (hm : m ∈ ms) :
    entry fl k m ≠ [] → nameOf (entry fl k m) ∈ ms := by
  unfold entry; cases cls fl k <;> simp [nameOf_eD h, nameOf_ok h, hm]

theorem wf_elseStk {fl : Flags} {k : Kind} {m : Str} {l : List Str} (hm : okName m = true) (wf : ∀ e ∈ l, EntryWF e) :
    ∀ e ∈ elseStk fl k m l, EntryWF e := by
  rcases elseStk_cases fl k m l with e | e | e <;> rw [e]
  · exact wf
  · exact List.forall_mem_cons.mpr ⟨.nil, wf⟩
  · exact List.forall_mem_cons.mpr ⟨.bare hm, wf⟩

theorem map_nameOf_elseStk (fl : Flags) (k : Kind) {m : Str} (l : List Str) (h : okName m = true) :
    (elseStk fl k m l).map nameOf = elseStk fl k m (l.map nameOf) := by
  unfold elseStk
  cases hc : cls fl k <;> cases hf : fl.fixElse <;> simp [nameOf_ok h, nameOf_nil]

theorem cfgOf_push {e : Str} {ifs : List Str} (wf : ∀ x ∈ e :: ifs, EntryWF x) :
    CfgOf (nameOf e :: ifs.map nameOf) (cfg (e :: ifs) []) :=
  defines_cfg_names wf

/-- macro `x` occurs in a configuration of the result set or on `configs_if` -/
def mentioned (s : St) (x : Str) : Prop :=
  (∃ c ∈ s.ret, defines c x = true) ∨ (∃ e ∈ s.ifs, e ≠ [] ∧ nameOf e = x)

/-- what a family file guarantees of the macro at an `#if..` line -/
structure Fresh (inp : Inp) (s : St) (m : Str) : Prop where
  ok : okName m = true
  notMentioned : ¬ mentioned s m
  notDefined : m ∉ s.defined
  notUndef : m ∉ inp.undefs

theorem not_mem_ret_of_fresh {inp : Inp} {s : St} {m c : Str} (h : Fresh inp s m) (hd : defines c m = true) : c ∉ s.ret :=
  fun hc => h.notMentioned (Or.inl ⟨c, hc, hd⟩)

theorem defines_false_of_fresh {inp : Inp} {s : St} {m : Str} (h : Fresh inp s m) : ∀ c ∈ s.ret, defines c m = false :=
  fun _ hc => Bool.eq_false_iff.mpr fun hd => not_mem_ret_of_fresh h hd hc

/-- the states `walk_run` passes through: nothing is being skipped, and `""` is in the result set, so `#else` finds it there -/
structure Good (s : St) : Prop where
  skip : s.skip = none
  wf : ∀ e ∈ s.ifs, EntryWF e
  empty : [] ∈ s.ret

theorem fresh_not_in_stack {inp : Inp} {s : St} {m : Str} (g : Good s) (h : Fresh inp s m) :
    m ∉ names (s.ifs.map nameOf) := by
  intro hm
  obtain ⟨e, he, hne, hn⟩ := (mem_names_map g.wf m).mp hm
  exact h.notMentioned (Or.inr ⟨e, he, hne, hn⟩)

def FreshAll (inp : Inp) (s : St) (ms : List Str) : Prop := ∀ x ∈ ms, Fresh inp s x

theorem FreshAll.transfer {inp : Inp} {s s' : St} {ms : List Str} (h : FreshAll inp s ms)
    (hd : s'.defined = s.defined) (hm : ∀ x ∈ ms, mentioned s' x → mentioned s x) : FreshAll inp s' ms := by
  intro x hx
  have := h x hx
  exact ⟨this.ok, fun hmm => this.notMentioned (hm x hx hmm), by rw [hd]; exact this.notDefined, this.notUndef⟩

theorem mentioned_of_new {s s' : St} {ms : List Str} {x : Str} (wf : ∀ e ∈ s.ifs, EntryWF e)
    (hifs : ∀ e ∈ s'.ifs, e ∈ s.ifs ∨ (e ≠ [] → nameOf e ∈ ms))
    (hnew : ∀ c ∈ s'.ret, c ∈ s.ret ∨ AddedBy (s.ifs.map nameOf) ms c) (hx : mentioned s' x) : mentioned s x ∨ x ∈ ms := by
  rcases hx with ⟨c, hc, hd⟩ | ⟨e, he, hne, hn⟩
  · exact (hnew c hc).elim (fun h => Or.inl (Or.inl ⟨c, h, hd⟩))
      fun h => (h.defines_mem hd).imp (fun h => Or.inr ((mem_names_map wf x).mp h)) id
  · exact (hifs e he).imp (fun h => Or.inr ⟨e, h, hne, hn⟩) (fun h => hn ▸ h hne)

theorem FreshAll.of_new {inp : Inp} {s s' : St} {ms ms' : List Str} (h : FreshAll inp s ms') (hd : s'.defined = s.defined)
    (wf : ∀ e ∈ s.ifs, EntryWF e) (hifs : ∀ e ∈ s'.ifs, e ∈ s.ifs ∨ (e ≠ [] → nameOf e ∈ ms))
    (hnew : ∀ c ∈ s'.ret, c ∈ s.ret ∨ AddedBy (s.ifs.map nameOf) ms c) (hdisj : ∀ x ∈ ms', x ∉ ms) : FreshAll inp s' ms' :=
  h.transfer hd fun x hx hm => (mentioned_of_new wf hifs hnew hm).resolve_right (hdisj x hx)

/-- `openConfig` on a fresh macro (`openConfig_spec`) -/
def openCfg (k : Kind) (m : Str) : Str :=
  match k with
  | .ifdef | .ifDefined => eD m
  | _ => m

theorem openConfig_spec {inp : Inp} {s : St} {m : Str} (k : Kind) (h : Fresh inp s m) :
    openConfig k m s.defined inp.undefs = openCfg k m := by
  have hd := h.notDefined
  have hu := h.notUndef
  have i1 := isUndefined_ok inp.undefs h.ok
  have i2 := isUndefined_eD inp.undefs h.ok
  unfold eD at i2
  cases k <;> simp [openConfig, openCfg, hd, hu, i1, i2, eD]

theorem stepOpen_spec {fl : Flags} {inp : Inp} {s : St} {k : Kind} {m : Str} (h : Fresh inp s m) :
    stepOpen fl inp s k m =
      { s with ifs := entry fl k m :: s.ifs, ifndefs := nentry fl k m :: s.ifndefs,
               ret := setInsert (cfg (entry fl k m :: s.ifs) inp.userDefines) s.ret } := by
  have h1 : m ∉ s.ret := not_mem_ret_of_fresh h ((defines_ok h.ok m).mpr rfl)
  have h2 : eD m ∉ s.ret := not_mem_ret_of_fresh h ((defines_eD h.ok m).mpr rfl)
  have hne : m.isEmpty = false := by
    cases m with
    | nil => exact absurd rfl (okName_ne_nil h.ok)
    | cons a as => rfl
  have e1 : m ++ '=' :: m = eD m := rfl
  unfold stepOpen
  rw [openConfig_spec k h]
  -- every kind, with and without `fixNotDef`: the tests of `stepOpen` on the configuration are decided by the lemmas on `m` and `m=m`
  cases k <;> cases hfn : fl.fixNotDef <;>
    simp [openCfg, entry, nentry, cls, hfn, hasEq_eD, hasEq_ok h.ok, beforeEq_eD h.ok, h1, h2, hne, e1]

theorem elseIsFalse_nil (ifs : List Str) : elseIsFalse ifs [] = false := by
  simp [elseIsFalse, hasDefine_nil]

/-- `#else` in a family file: the candidate of an `#ifndef` is new and is pushed with its configuration; any other conditional
    inserts nothing, the empty configuration being there (`h0`) -/
theorem stepElse_family {fl : Flags} {inp : Inp} {s : St} {k : Kind} {m : Str} {nd : List Str} (hud : inp.userDefines = [])
    (h0 : [] ∈ s.ret) (hn : s.ifndefs = nentry fl k m :: nd) (ok : okName m = true)
    (hm : cls fl k = .neg → ∀ c ∈ s.ret, defines c m = false) :
    stepElse fl inp s = { s with ifs := elseStk fl k m (pop s.ifs), ret := elseRet fl k (cfg (m :: pop s.ifs) []) s.ret } := by
  unfold stepElse elseStk elseRet
  unfold nentry at hn
  rw [hud, elseIsFalse_nil, hn]
  by_cases hc : cls fl k = .neg
  · have h1 : m ∉ s.ret := fun h => by simpa [(defines_ok ok m).mpr rfl] using hm hc m h
    have h2 : m ++ '=' :: m ∉ s.ret := fun h => by simpa [(defines_eD ok m).mpr rfl] using hm hc (eD m) h
    simp [hc, h1, List.erase_of_not_mem h2]
  · cases hf : fl.fixElse <;> simp [hc, h0]

theorem walk_run (fl : Flags) (inp : Inp) (hud : inp.userDefines = []) :
    ∀ (t : Items) (s : St), Good s → t.macros.Nodup → FreshAll inp s t.macros →
      ∃ r', Walk fl t (s.ifs.map nameOf) s.ret r' ∧
        run fl inp s t.flatten = { s with ifs := s.ifs.drop (loss fl t), ret := r' }
  | .done, s, _, _, _ => ⟨s.ret, .done, rfl⟩
  | .region r rest, s, g, nd, fr => by
    obtain ⟨r', h, e⟩ := walk_run fl inp hud rest s g nd fr
    exact ⟨r', .region h, by rw [Items.flatten, run_cons, step_region g.skip, e]; rfl⟩
  | .cond k m thn rest, s, g, nd, fr => by
    obtain ⟨hmn, ndTR⟩ := List.nodup_cons.mp (show (m :: (thn.macros ++ rest.macros)).Nodup from nd)
    obtain ⟨ndT, ndR, disj⟩ := List.nodup_append.mp ndTR
    have hm : Fresh inp s m := fr m (by simp [Items.macros])
    have frTR : FreshAll inp s (thn.macros ++ rest.macros) := fun x hx => fr x (List.mem_cons_of_mem _ hx)
    -- after the `#if..` line
    let s1 : St := { s with ifs := entry fl k m :: s.ifs, ifndefs := nentry fl k m :: s.ifndefs,
                            ret := setInsert (cfg (entry fl k m :: s.ifs) []) s.ret }
    have e1 : stepOpen fl inp s k m = s1 := by rw [stepOpen_spec hm, hud]
    have wf1 : ∀ e ∈ entry fl k m :: s.ifs, EntryWF e := List.forall_mem_cons.mpr ⟨entry_wf fl k hm.ok, g.wf⟩
    have hc1 : CfgOf (ename fl k m :: s.ifs.map nameOf) _ := nameOf_entry fl k hm.ok ▸ cfgOf_push wf1
    have fr1 : FreshAll inp s1 thn.macros := FreshAll.of_new (ms := [m]) (fun x hx => frTR x (by simp [hx])) rfl g.wf
      (hifs := fun e h => (List.mem_cons.mp h).elim (fun h => Or.inr (h ▸ nameOf_entry_mem hm.ok (by simp))) Or.inl)
      (hnew := new_cond (msT := []) hc1 (by simp) (by simp) fun _ h => Or.inl h)
      (hdisj := fun x hx h => hmn (by simp [List.mem_singleton.mp h ▸ hx]))
    obtain ⟨r2, hT, eT⟩ := walk_run fl inp hud thn s1 ⟨g.skip, wf1, mem_setInsert.mpr (Or.inr g.empty)⟩ ndT fr1
    replace hT : Walk fl thn (ename fl k m :: s.ifs.map nameOf) s1.ret r2 := by rw [← nameOf_entry fl k hm.ok]; exact hT
    -- after `#endif`
    let s3 : St := { s with ifs := s.ifs.drop (loss fl thn), ret := r2 }
    have fr3 : FreshAll inp s3 rest.macros := FreshAll.of_new (ms := m :: thn.macros) (fun x hx => frTR x (by simp [hx])) rfl g.wf
      (hifs := fun e h => Or.inl (List.mem_of_mem_drop h))
      (hnew := new_cond hc1 (by simp) (fun x hx => by simp [hx]) hT.new)
      (hdisj := fun x hx h => (List.mem_cons.mp h).elim (fun h => hmn (by simp [h ▸ hx])) (fun h => disj x h x hx rfl))
    obtain ⟨r', hR, eR⟩ := walk_run fl inp hud rest s3
      ⟨g.skip, fun e h => g.wf e (List.mem_of_mem_drop h), hT.mono _ (mem_setInsert.mpr (Or.inr g.empty))⟩ ndR fr3
    refine ⟨r', .cond (okName_ne_nil hm.ok) (defines_false_of_fresh hm) nd hc1 hT (by rw [← List.map_drop]; exact hR), ?_⟩
    rw [flatten_cond, run_cons, step_opn g.skip, e1, run_append, eT, run_cons, step_endif]
    · show run fl inp { s with ifs := pop (List.drop (loss fl thn) (entry fl k m :: s.ifs)), ret := r2 } _ = _
      rw [pop_drop_cons, eR, List.drop_drop]; rfl
    · exact g.skip
  | .condElse k m thn els rest, s, g, nd, fr => by
    obtain ⟨hmn, ndTER⟩ := List.nodup_cons.mp (show (m :: (thn.macros ++ els.macros ++ rest.macros)).Nodup from nd)
    obtain ⟨ndTE, ndR, disjR⟩ := List.nodup_append.mp ndTER
    obtain ⟨ndT, ndE, disjTE⟩ := List.nodup_append.mp ndTE
    have hm : Fresh inp s m := fr m (by simp [Items.macros])
    have frTER : FreshAll inp s (thn.macros ++ els.macros ++ rest.macros) := fun x hx => fr x (List.mem_cons_of_mem _ hx)
    have wfD : ∀ {a : Nat}, ∀ e ∈ s.ifs.drop a, EntryWF e := fun e h => g.wf e (List.mem_of_mem_drop h)
    -- after the `#if..` line
    let s1 : St := { s with ifs := entry fl k m :: s.ifs, ifndefs := nentry fl k m :: s.ifndefs,
                            ret := setInsert (cfg (entry fl k m :: s.ifs) []) s.ret }
    have e1 : stepOpen fl inp s k m = s1 := by rw [stepOpen_spec hm, hud]
    have wf1 : ∀ e ∈ entry fl k m :: s.ifs, EntryWF e := List.forall_mem_cons.mpr ⟨entry_wf fl k hm.ok, g.wf⟩
    have hc1 : CfgOf (ename fl k m :: s.ifs.map nameOf) _ := nameOf_entry fl k hm.ok ▸ cfgOf_push wf1
    have fr1 : FreshAll inp s1 thn.macros := FreshAll.of_new (ms := [m]) (fun x hx => frTER x (by simp [hx])) rfl g.wf
      (hifs := fun e h => (List.mem_cons.mp h).elim (fun h => Or.inr (h ▸ nameOf_entry_mem hm.ok (by simp))) Or.inl)
      (hnew := new_cond (msT := []) hc1 (by simp) (by simp) fun _ h => Or.inl h)
      (hdisj := fun x hx h => hmn (by simp [List.mem_singleton.mp h ▸ hx]))
    obtain ⟨r2, hT, eT⟩ := walk_run fl inp hud thn s1 ⟨g.skip, wf1, mem_setInsert.mpr (Or.inr g.empty)⟩ ndT fr1
    replace hT : Walk fl thn (ename fl k m :: s.ifs.map nameOf) s1.ret r2 := by rw [← nameOf_entry fl k hm.ok]; exact hT
    have h02 : [] ∈ r2 := hT.mono _ (mem_setInsert.mpr (Or.inr g.empty))
    -- an `#ifndef` has pushed nothing that names `m`, which no configuration defines when `#else` pushes it
    have hm2 : cls fl k = .neg → ∀ c ∈ r2, defines c m = false := fun hc c h => Bool.eq_false_iff.mpr fun hd =>
      (new_push hc1 hT.new c h).elim (not_mem_ret_of_fresh hm hd) fun h => (h.defines_mem hd).elim
        (by rw [ename, if_pos hc, names_cons_nil]; exact fresh_not_in_stack g hm) (fun h => hmn (by simp [h]))
    -- after the `#else` line
    let s3 : St := { s with ifs := elseStk fl k m (s.ifs.drop (loss fl thn)), ifndefs := nentry fl k m :: s.ifndefs,
                            ret := elseRet fl k (cfg (m :: s.ifs.drop (loss fl thn)) []) r2 }
    have hc3 : CfgOf (m :: (s.ifs.map nameOf).drop (loss fl thn)) (cfg (m :: s.ifs.drop (loss fl thn)) []) := by
      have := cfgOf_push (List.forall_mem_cons.mpr ⟨.bare hm.ok, wfD (a := loss fl thn)⟩); rwa [nameOf_ok hm.ok, List.map_drop] at this
    have hifs3 : ∀ e ∈ s3.ifs, e ∈ s.ifs ∨ (e ≠ [] → nameOf e ∈ m :: thn.macros) := by
      show ∀ e ∈ elseStk fl k m (s.ifs.drop (loss fl thn)), _
      have hd : ∀ e ∈ s.ifs.drop (loss fl thn), e ∈ s.ifs ∨ (e ≠ [] → nameOf e ∈ m :: thn.macros) :=
        fun e h => Or.inl (List.mem_of_mem_drop h)
      rcases elseStk_cases fl k m (s.ifs.drop (loss fl thn)) with h | h | h <;> rw [h]
      · exact hd
      · exact fun e h => (List.mem_cons.mp h).elim (fun h => Or.inr fun hne => absurd h hne) (hd e)
      · exact fun e h => (List.mem_cons.mp h).elim (fun h => Or.inr fun _ => by rw [h, nameOf_ok hm.ok]; simp) (hd e)
    have fr3 : FreshAll inp s3 els.macros := FreshAll.of_new (ms := m :: thn.macros) (fun x hx => frTER x (by simp [hx])) rfl g.wf
      (hifs := hifs3)
      (hnew := new_condElse (ms := []) hc1 hc3 (by simp) (fun x hx => by simp [hx]) (by simp) hT.new fun _ h => Or.inl h)
      (hdisj := fun x hx h => (List.mem_cons.mp h).elim (fun h => hmn (by simp [h ▸ hx])) (fun h => disjTE x h x hx rfl))
    obtain ⟨r4, hE, eE⟩ := walk_run fl inp hud els s3 ⟨g.skip, wf_elseStk hm.ok wfD, mem_elseRet.mpr (Or.inl h02)⟩ ndE fr3
    replace hE : Walk fl els (elseStk fl k m ((s.ifs.map nameOf).drop (loss fl thn))) s3.ret r4 := by
      rw [← List.map_drop, ← map_nameOf_elseStk fl k _ hm.ok]; exact hE
    -- after `#endif`
    let s5 : St := { s with ifs := s.ifs.drop (loss fl thn + loss fl els + (if dropsAtElse fl k then 1 else 0)), ret := r4 }
    have fr5 : FreshAll inp s5 rest.macros := FreshAll.of_new (ms := m :: (thn.macros ++ els.macros))
      (fun x hx => frTER x (by simp [hx])) rfl g.wf
      (hifs := fun e h => Or.inl (List.mem_of_mem_drop h))
      (hnew := new_condElse hc1 hc3 (by simp) (fun x hx => by simp [hx]) (fun x hx => by simp [hx]) hT.new hE.new)
      (hdisj := fun x hx h => (List.mem_cons.mp h).elim (fun h => hmn (by simp [h ▸ hx])) (fun h => disjR x h x hx rfl))
    obtain ⟨r', hR, eR⟩ := walk_run fl inp hud rest s5 ⟨g.skip, wfD, hE.mono _ (mem_elseRet.mpr (Or.inl h02))⟩ ndR fr5
    refine ⟨r', .condElse (okName_ne_nil hm.ok) (defines_false_of_fresh hm) nd hc1 hT hm2 hc3 hE (by rw [← List.map_drop]; exact hR), ?_⟩
    rw [flatten_condElse, run_cons, step_opn g.skip, e1, run_append, eT, run_cons, step_els, stepElse_family hud h02 rfl hm.ok hm2]
    · show run fl inp { s3 with ifs := elseStk fl k m (pop (List.drop (loss fl thn) (entry fl k m :: s.ifs))),
                                  ret := elseRet fl k (cfg (m :: pop (List.drop (loss fl thn) (entry fl k m :: s.ifs))) []) r2 } _ = _
      rw [pop_drop_cons, run_append, eE, run_cons, step_endif]
      · show run fl inp { s with ifs := pop (List.drop (loss fl els) (elseStk fl k m (s.ifs.drop (loss fl thn)))), ret := r4 } _ = _
        rw [pop_drop_elseStk, List.drop_drop, ← Nat.add_assoc, eR, List.drop_drop]; rfl
      · exact g.skip
    · exact g.skip

/-- effect of a stretch of directives: `a` surplus pops, only macros of `ms` newly mentioned -/
structure Post (a : Nat) (ms : List Str) (s s' : St) : Prop where
  skip : s'.skip = none
  ifs : s'.ifs = s.ifs.drop a
  ifndefs : s'.ifndefs = s.ifndefs
  defined : s'.defined = s.defined
  mono : ∀ c ∈ s.ret, c ∈ s'.ret
  ment : ∀ x, mentioned s' x → mentioned s x ∨ x ∈ ms

theorem walk_struct (fl : Flags) (inp : Inp) (hud : inp.userDefines = []) :
    ∀ (t : Items) (s : St), Good s → t.macros.Nodup → FreshAll inp s t.macros →
      Post (loss fl t) t.macros s (run fl inp s t.flatten) := fun t s g nd fr => by
  obtain ⟨r', h, e⟩ := walk_run fl inp hud t s g nd fr
  rw [e]
  exact ⟨g.skip, rfl, rfl, rfl, h.mono, fun x => mentioned_of_new g.wf (fun e he => Or.inl (List.mem_of_mem_drop he)) h.new⟩

/-! ### one directive, on any state -/

/-- directives at which the fold can insert a configuration -/
def Dir.weight : Dir → Nat
  | .opn _ _ => 1
  | .els => 1
  | _ => 0

/-- what one directive does to the stacks and the result set, whatever the state -/
structure StepShape (inp : Inp) (d : Dir) (s s' : St) : Prop where
  ifs : ∀ e ∈ s'.ifs, e ∈ s.ifs ∨ e ∈ s.ifndefs ∨ e = [] ∨ ∃ k m, d = .opn k m ∧ e = openConfig k m s.defined inp.undefs
  ifndefs : ∀ e ∈ s'.ifndefs, e ∈ s.ifndefs ∨ e = [] ∨ ∃ k m, d = .opn k m ∧ e = openConfig k m s.defined inp.undefs
  ret : s'.ret = s.ret ∨ d.weight = 1 ∧ ∃ ret0, (ret0 = s.ret ∨ ∃ y, ret0 = s.ret.erase (y ++ '=' :: y)) ∧
    s'.ret = setInsert (cfg s'.ifs inp.userDefines) ret0

theorem StepShape.of_sub {inp : Inp} {d : Dir} {s s' : St} (h1 : ∀ e ∈ s'.ifs, e ∈ s.ifs)
    (h2 : ∀ e ∈ s'.ifndefs, e ∈ s.ifndefs) (h3 : s'.ret = s.ret) : StepShape inp d s s' :=
  ⟨fun e he => Or.inl (h1 e he), fun e he => Or.inl (h2 e he), Or.inl h3⟩

theorem stepOpen_shape (fl : Flags) (inp : Inp) (s : St) (k : Kind) (m : Str) :
    StepShape inp (.opn k m) s (stepOpen fl inp s k m) := by
  have push : ∀ e n ret, (e = [] ∨ e = openConfig k m s.defined inp.undefs) → (n = [] ∨ n = openConfig k m s.defined inp.undefs) →
      (ret = s.ret ∨ ∃ y, ret = s.ret.erase (y ++ '=' :: y)) → StepShape inp (.opn k m) s
        { s with ifs := e :: s.ifs, ifndefs := n :: s.ifndefs, ret := setInsert (cfg (e :: s.ifs) inp.userDefines) ret } := by
    intro e n ret he hn hr
    refine ⟨fun e' h' => ?_, fun n' h' => ?_, Or.inr ⟨rfl, ret, hr, rfl⟩⟩
    · rcases List.mem_cons.mp h' with rfl | h'
      · exact Or.inr (Or.inr (he.imp id fun h => ⟨k, m, rfl, h⟩))
      · exact Or.inl h'
    · rcases List.mem_cons.mp h' with rfl | h'
      · exact Or.inr (hn.imp id fun h => ⟨k, m, rfl, h⟩)
      · exact Or.inl h'
  unfold stepOpen
  generalize openConfig k m s.defined inp.undefs = config at push ⊢
  simp only
  split
  · exact push _ _ _ (Or.inl rfl) (Or.inr rfl) (Or.inl rfl)
  · split
    · split
      · exact .of_sub (fun _ h => h) (fun _ h => h) rfl
      · exact push _ _ _ (Or.inr rfl) (Or.inl rfl) (Or.inl rfl)
    · split
      · exact push _ _ _ (Or.inr rfl) (Or.inl rfl) (Or.inr ⟨config, rfl⟩)
      · exact push _ _ _ (Or.inr rfl) (Or.inl rfl) (Or.inl rfl)

theorem stepElse_shape (fl : Flags) (inp : Inp) (s : St) : StepShape inp .els s (stepElse fl inp s) := by
  have hp : ∀ e ∈ pop s.ifs, e ∈ s.ifs := fun e he => List.mem_of_mem_tail he
  unfold stepElse
  split
  · exact .of_sub (fun _ h => h) (fun _ h => h) rfl
  · split
    · exact .of_sub hp (fun _ h => h) rfl
    · next cand rest hnd =>
      split
      · refine ⟨fun e he => ?_, fun _ h => Or.inl h, Or.inr ⟨rfl, _, Or.inr ⟨cand, rfl⟩, rfl⟩⟩
        rcases List.mem_cons.mp he with rfl | he
        · exact Or.inr (Or.inl (by rw [hnd]; exact List.mem_cons_self))
        · exact Or.inl (hp e he)
      · split
        · refine ⟨fun e he => ?_, fun _ h => Or.inl h, Or.inl rfl⟩
          rcases List.mem_cons.mp he with rfl | he
          · exact Or.inr (Or.inr (Or.inl rfl))
          · exact Or.inl (hp e he)
        · exact .of_sub hp (fun _ h => h) rfl

theorem step_shape (fl : Flags) (inp : Inp) (s : St) (d : Dir) : StepShape inp d s (step fl inp s d) := by
  have same : ∀ s' : St, s'.ifs = s.ifs → s'.ifndefs = s.ifndefs → s'.ret = s.ret → StepShape inp d s s' :=
    fun s' h1 h2 h3 => .of_sub (fun _ h => h1 ▸ h) (fun _ h => h2 ▸ h) h3
  have popped : ∀ s' : St, s'.ifs = s.ifs → s'.ifndefs = s.ifndefs → s'.ret = s.ret → StepShape inp d s (stepEndif s') :=
    fun s' h1 h2 h3 => .of_sub (fun _ h => List.mem_of_mem_tail (h1 ▸ h)) (fun _ h => List.mem_of_mem_tail (h2 ▸ h)) h3
  unfold step
  cases s.skip with
  | some lvl =>
    cases d with
    | endif =>
      simp only; split
      · exact popped _ rfl rfl rfl
      · exact same _ rfl rfl rfl
    | _ => exact same _ rfl rfl rfl
  | none =>
    cases d with
    | opn k m => exact stepOpen_shape fl inp s k m
    | els => exact stepElse_shape fl inp s
    | endif => exact popped _ rfl rfl rfl
    | _ => exact same _ rfl rfl rfl

/-! ### -U: no extracted configuration names an undefined macro (any directive list, any variant) -/

def UOk (undefs : List Str) (e : Str) : Prop := EntryWF e ∧ (e ≠ [] → nameOf e ∉ undefs)

theorem UOk.nil (undefs : List Str) : UOk undefs [] := ⟨EntryWF.nil, fun h => absurd rfl h⟩

theorem openConfig_uok (k : Kind) {m : Str} (defined undefs : List Str) (h : okName m = true) :
    UOk undefs (openConfig k m defined undefs) := by
  -- `config` is empty, `m` or `m=m` before the `isUndefined` reset, which clears the two others iff `m` is `-U`
  obtain ⟨c, hc, e⟩ : ∃ c, (c = [] ∨ c = m ∨ c = eD m) ∧
      openConfig k m defined undefs = if isUndefined c undefs then [] else c := by
    cases k
    all_goals
      refine ⟨_, ?_, rfl⟩
      simp only [eD]
      split <;> simp
  rw [e]
  split
  · exact UOk.nil _
  · next hu =>
    rcases hc with rfl | rfl | rfl
    · exact UOk.nil _
    · rw [isUndefined_ok undefs h] at hu
      exact ⟨EntryWF.bare h, fun _ => by rw [nameOf_ok h]; simpa using hu⟩
    · rw [isUndefined_eD undefs h] at hu
      exact ⟨EntryWF.self h, fun _ => by rw [nameOf_eD h]; simpa using hu⟩

structure UInv (undefs : List Str) (s : St) : Prop where
  ifs : ∀ e ∈ s.ifs, UOk undefs e
  ifndefs : ∀ e ∈ s.ifndefs, UOk undefs e
  ret : ∀ c ∈ s.ret, ∀ x ∈ undefs, defines c x = false

theorem defines_cfg_uok {ifs : List Str} {undefs : List Str} (ud : Str) (h : ∀ e ∈ ifs, UOk undefs e) :
    ∀ x ∈ undefs, defines (cfg ifs ud) x = false := by
  intro x hx
  cases hd : defines (cfg ifs ud) x with
  | false => rfl
  | true =>
    obtain ⟨e, he, hne, -, hn⟩ := (defines_cfg ud (fun e he => (h e he).1) x).mp hd
    exact absurd (hn ▸ hx) ((h e he).2 hne)

theorem uinv_step (fl : Flags) (inp : Inp) (s : St) (d : Dir) (h : UInv inp.undefs s)
    (hd : ∀ k m, d = .opn k m → okName m = true) : UInv inp.undefs (step fl inp s d) := by
  obtain ⟨hi, hn, hr⟩ := step_shape fl inp s d
  have hi' : ∀ e ∈ (step fl inp s d).ifs, UOk inp.undefs e := by
    intro e he
    rcases hi e he with h' | h' | rfl | ⟨k, m, hd', rfl⟩
    · exact h.ifs e h'
    · exact h.ifndefs e h'
    · exact UOk.nil _
    · exact openConfig_uok k _ _ (hd k m hd')
  refine ⟨hi', fun e he => ?_, fun c hc => ?_⟩
  · rcases hn e he with h' | rfl | ⟨k, m, hd', rfl⟩
    · exact h.ifndefs e h'
    · exact UOk.nil _
    · exact openConfig_uok k _ _ (hd k m hd')
  · rcases hr with hr | ⟨_, ret0, h0, hr⟩
    · exact h.ret c (hr ▸ hc)
    · rcases mem_setInsert.mp (hr ▸ hc) with rfl | hc
      · exact defines_cfg_uok _ hi'
      · rcases h0 with rfl | ⟨y, rfl⟩
        · exact h.ret c hc
        · exact h.ret c (List.mem_of_mem_erase hc)

theorem uinv_run (fl : Flags) (inp : Inp) (ds : List Dir) (s : St) (h : UInv inp.undefs s)
    (hd : ∀ k m, Dir.opn k m ∈ ds → okName m = true) : UInv inp.undefs (run fl inp s ds) :=
  List.foldlRecOn (motive := UInv inp.undefs) ds _ h fun s hs d hm => uinv_step fl inp s d hs fun k m e => hd k m (e ▸ hm)

theorem getConfigs_no_undef (fl : Flags) (inp : Inp) (ds : List Dir) (hd : ∀ k m, Dir.opn k m ∈ ds → okName m = true) :
    ∀ c ∈ getConfigsWith fl inp ds, ∀ x ∈ inp.undefs, defines c x = false := by
  have h0 : UInv inp.undefs (St.init inp) :=
    ⟨by intro e he; simp [St.init] at he, by intro e he; simp [St.init] at he,
     by intro c hc x _; simp [St.init] at hc; subst hc; exact defines_nil x⟩
  exact (uinv_run fl inp ds _ h0 hd).ret

/-! ### the empty configuration is never removed (no `#error` in the alphabet) -/

theorem nil_mem_step (fl : Flags) (inp : Inp) (s : St) (d : Dir) (h : [] ∈ s.ret) : [] ∈ (step fl inp s d).ret := by
  rcases (step_shape fl inp s d).ret with hr | ⟨_, ret0, h0, hr⟩
  · rw [hr]; exact h
  · rw [hr]
    refine mem_setInsert.mpr (Or.inr ?_)
    rcases h0 with rfl | ⟨y, rfl⟩
    · exact h
    · exact (List.mem_erase_of_ne (by simp)).mpr h

theorem nil_mem_run (fl : Flags) (inp : Inp) (ds : List Dir) (s : St) (h : [] ∈ s.ret) : [] ∈ (run fl inp s ds).ret :=
  List.foldlRecOn (motive := fun s => [] ∈ s.ret) ds _ h fun s hs d _ => nil_mem_step fl inp s d hs

theorem nil_mem_getConfigs (fl : Flags) (inp : Inp) (ds : List Dir) : [] ∈ getConfigsWith fl inp ds :=
  nil_mem_run fl inp ds _ (by simp [St.init])

/-! ### size of the result set -/

def dirsWeight (ds : List Dir) : Nat := (ds.map Dir.weight).sum

theorem dirsWeight_cons (d : Dir) (ds : List Dir) : dirsWeight (d :: ds) = d.weight + dirsWeight ds := by
  simp [dirsWeight]

theorem dirsWeight_append (a b : List Dir) : dirsWeight (a ++ b) = dirsWeight a + dirsWeight b := by
  simp [dirsWeight]

theorem length_step_le (fl : Flags) (inp : Inp) (s : St) (d : Dir) :
    (step fl inp s d).ret.length ≤ s.ret.length + d.weight := by
  rcases (step_shape fl inp s d).ret with hr | ⟨hw, ret0, h0, hr⟩
  · rw [hr]; exact Nat.le_add_right _ _
  · rw [hr, hw]
    refine Nat.le_trans (length_setInsert_le _ ret0) (Nat.add_le_add_right ?_ 1)
    rcases h0 with rfl | ⟨y, rfl⟩
    · exact Nat.le_refl _
    · exact List.length_erase_le

theorem length_run_le (fl : Flags) (inp : Inp) : ∀ (ds : List Dir) (s : St),
    (run fl inp s ds).ret.length ≤ s.ret.length + dirsWeight ds
  | [], s => by simp [run_nil, dirsWeight]
  | d :: ds, s => by
    rw [run_cons, dirsWeight_cons]
    have h1 := length_run_le fl inp ds (step fl inp s d)
    have h2 := length_step_le fl inp s d
    omega

theorem dirsWeight_flatten : ∀ t : Items, dirsWeight t.flatten ≤ 2 * t.macros.length
  | .done => by simp [Items.flatten, dirsWeight]
  | .region r rest => by
    have := dirsWeight_flatten rest
    simpa [Items.flatten, dirsWeight_cons, Dir.weight, Items.macros] using this
  | .cond k m t rest => by
    have h1 := dirsWeight_flatten t
    have h2 := dirsWeight_flatten rest
    simp only [Items.flatten, dirsWeight_cons, dirsWeight_append, Dir.weight, Items.macros, List.length_cons, List.length_append]
    omega
  | .condElse k m t e rest => by
    have h1 := dirsWeight_flatten t
    have h2 := dirsWeight_flatten e
    have h3 := dirsWeight_flatten rest
    simp only [Items.flatten, dirsWeight_cons, dirsWeight_append, Dir.weight, Items.macros, List.length_cons, List.length_append]
    omega

/-- at most one configuration per `#if..`/`#else` line besides the empty one -/
theorem length_getConfigsWith_le (fl : Flags) (inp : Inp) (t : Items) :
    (getConfigsWith fl inp t.flatten).length ≤ 1 + 2 * t.macros.length := by
  have h1 := length_run_le fl inp t.flatten (St.init inp)
  have h2 := dirsWeight_flatten t
  simp only [getConfigsWith]
  have : (St.init inp).ret.length = 1 := rfl
  omega

/-! ### -D: composition of `currentConfig` -/

theorem mem_pieces_append {p a b : Str} (h : p ∈ pieces a) : p ∈ pieces (a ++ ';' :: b) := by
  unfold pieces at *
  rw [splitSemi_append_semi, dropTrailingEmpty_append (splitSemi_ne_nil b)]
  exact List.mem_append_left _ (mem_of_mem_dropTrailingEmpty h)

theorem defines_append {a b : Str} {x : Str} (h : defines a x = true) : defines (a ++ ';' :: b) x = true := by
  simp only [defines, List.contains_iff_mem, List.mem_map] at *
  obtain ⟨p, hp, hn⟩ := h
  exact ⟨p, mem_pieces_append hp, hn⟩

theorem flatMap_semi_shape (l : List Str) :
    l.flatMap (fun c => ';' :: c) = [] ∨ ∃ r, l.flatMap (fun c => ';' :: c) = ';' :: r := by
  cases l with
  | nil => exact Or.inl rfl
  | cons a as => exact Or.inr ⟨_, rfl⟩

theorem defines_currentConfig {ud c x : Str} (h : defines ud x = true) : defines (currentConfig ud c) x = true := by
  unfold currentConfig
  split
  · next he =>
    have : ud = [] := by simpa using he
    subst this; rw [defines_nil] at h; exact absurd h (by simp)
  · rcases flatMap_semi_shape ((splitQ c).filter (fun c => !(splitQ ud).contains c)) with e | ⟨r, e⟩
    · simp only [e, List.append_nil]; exact h
    · simp only [e]; exact defines_append h

theorem currentConfig_nil (c : Str) : currentConfig [] c = c := by simp [currentConfig]

theorem currentConfig_self (ud : Str) : currentConfig ud ud = ud := by
  unfold currentConfig
  split
  · rfl
  · have : (splitQ ud).filter (fun c => !(splitQ ud).contains c) = [] :=
      List.filter_eq_nil_iff.mpr fun a ha => by simp [ha]
    show ud ++ List.flatMap (fun c => ';' :: c) (List.filter (fun c => !(splitQ ud).contains c) (splitQ ud)) = ud
    rw [this]; simp

/-! ### `reach`: the regions that some configuration consistent with -D / -U contains -/

def reachBranch (b : Bool) (m : Str) (t : Items) (pos neg : List Str) : List Nat :=
  if b then (if neg.contains m then [] else t.reach (m :: pos) neg)
  else (if pos.contains m then [] else t.reach pos (m :: neg))

theorem reach_cond (k : Kind) (m : Str) (t rest : Items) (pos neg : List Str) :
    (Items.cond k m t rest).reach pos neg = reachBranch k.positive m t pos neg ++ rest.reach pos neg := rfl

theorem reach_condElse (k : Kind) (m : Str) (t e rest : Items) (pos neg : List Str) :
    (Items.condElse k m t e rest).reach pos neg =
      reachBranch k.positive m t pos neg ++ reachBranch (!k.positive) m e pos neg ++ rest.reach pos neg := by
  cases h : k.positive <;> simp [Items.reach, reachBranch, h]

/-- the assignment "exactly the macros forced on the way" -/
theorem agrees_contains {pos neg : List Str} (hc : ∀ x ∈ pos, x ∉ neg) : Agrees (fun x => pos.contains x) pos neg :=
  ⟨fun x hx => by simpa using hx, fun x hx => by simpa using fun h => hc x h hx⟩

theorem mem_reachBranch {b : Bool} {m : Str} {t : Items} {pos neg : List Str} {r : Nat}
    (ih : ∀ pos neg, (∀ x ∈ pos, x ∉ neg) → (r ∈ t.reach pos neg ↔ ∃ d : Str → Bool, Agrees d pos neg ∧ r ∈ t.emit d))
    (hc : ∀ x ∈ pos, x ∉ neg) :
    r ∈ reachBranch b m t pos neg ↔ ∃ d : Str → Bool, Agrees d pos neg ∧ d m = b ∧ r ∈ t.emit d := by
  unfold reachBranch
  cases b with
  | true =>
    simp only [if_true]
    split
    · next hn =>
      refine iff_of_false (by simp) fun ⟨d, ha, hm, _⟩ => ?_
      have := ha.2 m (List.contains_iff_mem.mp hn); rw [hm] at this; cases this
    · next hn =>
      rw [ih (m :: pos) neg (List.forall_mem_cons.mpr ⟨by simpa using hn, hc⟩)]
      simp only [agrees_cons_pos, and_assoc]
  | false =>
    simp only [Bool.false_eq_true, if_false]
    split
    · next hn =>
      refine iff_of_false (by simp) fun ⟨d, ha, hm, _⟩ => ?_
      have := ha.1 m (List.contains_iff_mem.mp hn); rw [hm] at this; cases this
    · next hn =>
      rw [ih pos (m :: neg) fun x hx h => (List.mem_cons.mp h).elim (fun e => by simp [← e, hx] at hn) (hc x hx)]
      simp only [agrees_cons_neg, and_assoc]

/-! ### `effDefines`: -D / -U on the specification side

facts about the specification-side definition `effDefines` (what `simplecpp::preprocess` makes of -D / -U); true by
unfolding, they say nothing about the code -/

theorem U_effective (inp : Inp) (c X : Str) (h : X ∈ inp.undefs) : effDefines inp c X = false := by
  simp [effDefines, h]

theorem D_effective (inp : Inp) (c X : Str) (h : defines inp.userDefines X = true) (hu : X ∉ inp.undefs) :
    effDefines inp c X = true := by
  simp [effDefines, h, hu]

/-! ### the duplicate-configuration purge -/

theorem dedupByGo_eq (key : Str → Nat) : ∀ seen cs, dedupByGo key seen cs = FirstOfKey.firsts key seen cs :=
  FirstOfKey.eq_firsts (fun _ => rfl) (fun s x r h => by simp [dedupByGo, h]) (fun s x r h => by simp [dedupByGo, h])

theorem dedupBy_key (key : Str → Nat) (cs : List Str) (c : Str) (h : c ∈ cs) : ∃ c' ∈ dedupBy key cs, key c' = key c := by
  rw [dedupBy, dedupByGo_eq]
  exact List.mem_map.1 ((FirstOfKey.mem_keys_firsts key [] cs _).2 ⟨List.not_mem_nil, List.mem_map_of_mem h⟩)

theorem dedupByGo_sub (key : Str → Nat) (cs : List Str) (seen : List Nat) (c : Str) (h : c ∈ dedupByGo key seen cs) : c ∈ cs :=
  (FirstOfKey.firsts_sublist key seen cs).subset (dedupByGo_eq key seen cs ▸ h)

end Cppcheck.Configs
