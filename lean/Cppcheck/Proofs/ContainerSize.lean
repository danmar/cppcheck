import Cppcheck.Model.ContainerSize
/-!
Helper lemmas for Props/C02.lean: soundness of the decidable refinement test, of the non-emptiness test, one step of the
forward analysis of a Known size, and the size given to a freshly constructed container.
-/
namespace Cppcheck.ContainerSize

theorem refinesB_sound_aux (r a : Eff) (h : refinesB r a = true) (arg n n' : Nat) (hr : r.rel arg n n') : a.rel arg n n' := by
  unfold refinesB at h
  split at h
  -- `h_n` is the `n`-th arm of the `match` in the model definition (here and below; a new arm there renumbers them);
  -- `h_21` is the catch-all
  case h_21 => cases h
  all_goals simp only [Eff.rel, beq_iff_eq] at h hr ⊢
  all_goals omega

theorem leavesNonEmpty_sound (r : Eff) (h : leavesNonEmpty r = true) (arg n n' : Nat) (hr : r.rel arg n n') : 1 ≤ n' := by
  unfold leavesNonEmpty at h
  split at h
  case h_4 => cases h
  all_goals simp only [Eff.rel, decide_eq_true_eq] at h hr
  all_goals omega

/-- one step of the forward analysis: the assumed effect contains what happened, so a Known size stays right -/
theorem absStep_sound (e : Eff) (arg n m : Nat) (k0 : Option Int) (hk0 : ∀ k, k0 = some k → k = n)
    (hrel : e.rel arg n m) : ∀ k, absStep e arg k0 = some k → k = m := by
  intro k hk
  unfold absStep at hk
  split at hk
  · split at hk <;> simp only [Eff.rel, Option.some.injEq, reduceCtorEq] at hk hrel <;> omega
  · rename_i k1
    have h1 := hk0 k1 rfl
    split at hk <;> simp only [Eff.rel, Option.some.injEq, reduceCtorEq, Option.ite_none_left_eq_some] at hk hrel <;> omega

theorem dedup_length_le : ∀ l : List Nat, (dedup l).length ≤ l.length
  | [] => Nat.le_refl _
  | x :: r => by
    have := dedup_length_le r
    unfold dedup
    split <;> simp <;> omega

theorem numValues_of_allNum (args : List Arg) (h : allNum args = true) :
    ∃ vs, numValues args = some vs ∧ vs.length = args.length := by
  induction args with
  | nil => exact ⟨[], rfl, rfl⟩
  | cons a r ih =>
    cases a with
    | num c v kn =>
      obtain ⟨vs, hvs, hlen⟩ := ih h
      exact ⟨v :: vs, by simp [numValues, hvs], by simp [hlen]⟩
    | _ => cases h

theorem ctorArgsSize_range (stringLike : Bool) (size d : Nat) (known : Bool) :
    ctorArgsSize stringLike [.itBegin size d known, .itEnd] = if known then some size else none := by
  cases known <;> rfl

/-- the non-list constructors: what `getContainerSizeFromConstructorArgs` returns is the reference size -/
theorem ctorArgs_sound (k : CKind) (braces : Bool) (args : List Arg) (s r : Nat)
    (hwf : args.all Arg.wf = true) (hex : ctorExcluded k braces args = false) (hnl : (braces && allNum args) = false)
    (hs : ctorArgsSize (k == .string) args = some s) (hr : ctorRefPlain k args = some r) : s = r := by
  unfold ctorRefPlain at hr
  split at hr
  case h_21 => cases hr
  -- one goal per constructor the reference knows; each fixes the shape of the arguments, so the code's answer computes, which
  -- closes the rows where the code states no size (`ctorArgsSize_range` has to fire before `ctorArgsSize` is unfolded)
  all_goals simp [↓ctorArgsSize_range, ctorArgsSize, Arg.isIntegral, Arg.isContainer, Arg.isPointer, Arg.isIterator,
    Arg.contValues, Arg.knownInt, isIteratorPair] at hs
  -- the rows where the code's answer is not the reference size in general: exactly the excluded call forms
  case h_11 =>      -- string (str, pos, count): the code says `count`
    simp [ctorExcluded, hs.1] at hex
    simp at hr
    omega
  case h_18 | h_19 =>      -- set / unordered_set (first, last): the code says the size of the range
    simp [ctorExcluded, hs.1] at hex
    simp [Arg.wf] at hwf
    cases hr
    omega
  case h_20 =>      -- unordered_set (bucket_count): the code says `bucket_count`; not excluded, so braced: against `hnl`
    simp [ctorExcluded, hs.1] at hex
    simp [hex, allNum] at hnl
  -- in the other rows both sides are the same argument value
  all_goals clear hwf hex hnl
  all_goals simp at hr
  all_goals simp_all

/-- on every call form the reference has a non-list constructor for, `getInitListSize` does not take a braced argument list for
    an initializer list unless all arguments are integral -/
theorem ctorSize_plain (k : CKind) (braces : Bool) (args : List Arg) (r : Nat) (hne : args ≠ [])
    (hnl : (braces && allNum args) = false) (hr : ctorRefPlain k args = some r) :
    ctorSize k braces args = ctorArgsSize (k == .string) args := by
  cases braces with
  | false => cases args with
    | nil => exact absurd rfl hne
    | cons _ _ => rfl
  | true =>
    unfold ctorRefPlain at hr
    split at hr
    case h_21 => cases hr
    case h_1 => exact absurd rfl hne
    case h_2 => cases k <;> rfl      -- the copy constructor, for any container kind
    case h_3 | h_12 | h_13 | h_20 => cases hnl      -- all arguments integral
    all_goals rfl

/-- a braced list of integral arguments: the initializer_list constructor -/
theorem initList_sound (k : CKind) (a : Arg) (rest : List Arg) (s r : Nat) (hall : allNum (a :: rest) = true)
    (hex : ctorExcluded k true (a :: rest) = false)
    (hs : ctorSize k true (a :: rest) = some s) (hr : ctorRef k true (a :: rest) = some r) : s = r := by
  obtain ⟨vs, hvs, hlen⟩ := numValues_of_allNum _ hall
  have hdd := dedup_length_le vs
  cases a with
  | num c v kn =>
    simp only [ctorRef, hall, hvs, List.isEmpty_cons, Bool.not_false, Bool.and_self, if_true,
      Option.ite_none_right_eq_some, Option.some.injEq] at hr
    simp [ctorSize, initListSize, Arg.isGenericChar, Arg.isPointer, Arg.isIntegral] at hs
    split at hs
    · -- only for strings whose first list element is not a character: the list is taken for constructor arguments
      rename_i h
      obtain ⟨-, rfl, rfl⟩ := h
      cases rest with
      | nil =>
        simp [ctorArgsSize, Arg.isIntegral, Arg.knownInt] at hs
        simp [ctorExcluded, hs.1] at hex
      | cons b rest' =>
        cases b with
        | num _ _ _ => simp [ctorArgsSize, Arg.isIntegral] at hs
        | _ => cases hall
    · -- the code says the length of the list
      simp at hs hlen
      by_cases hk : (k == .set || k == .uset) = true
      · -- not excluded: no duplicates in the list
        have h2 := (Bool.or_eq_false_iff.mp hex).2
        simp only [hk, hall, hvs, Bool.and_self, Bool.true_and, decide_eq_false_iff_not] at h2
        simp [hk] at hr
        omega
      · simp [hk] at hr
        omega
  | _ => cases hall

end Cppcheck.ContainerSize
