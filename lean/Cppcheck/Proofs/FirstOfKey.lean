/-
The arrival-order duplicate filter that several models have a copy of (`mShownErrors`, the hash set of
`checkInternal`, the path set of the command line): keep an element iff its key was not seen before.
`firsts key seen l` is that filter once, over any key type; a proof module connects its copy by `eq_firsts`. What is kept
is a sublist with pairwise different keys, none of them seen, holding the first element of every such key; then how the filter
goes over `++`, that filtering twice is filtering once, and that it commutes with a renaming injective on the keys.
-/
namespace Cppcheck.FirstOfKey

universe u v
variable {α : Type u} {κ : Type v} [DecidableEq κ]

def firsts (key : α → κ) : List κ → List α → List α
  | _, [] => []
  | seen, x :: r => if key x ∈ seen then firsts key seen r else x :: firsts key (key x :: seen) r

theorem eq_firsts {key : α → κ} {f : List κ → List α → List α} (nil : ∀ seen, f seen [] = [])
    (skip : ∀ seen x r, key x ∈ seen → f seen (x :: r) = f seen r)
    (keep : ∀ seen x r, key x ∉ seen → f seen (x :: r) = x :: f (key x :: seen) r) :
    ∀ seen l, f seen l = firsts key seen l := by
  intro seen l
  fun_induction firsts key seen l with
  | case1 seen => exact nil seen
  | case2 seen x r h ih => rw [skip _ _ _ h, ih]
  | case3 seen x r h ih => rw [keep _ _ _ h, ih]

variable (key : α → κ)

theorem firsts_sublist (seen : List κ) (l : List α) : (firsts key seen l).Sublist l := by
  fun_induction firsts key seen l with
  | case1 => exact .slnil
  | case2 _ x _ _ ih => exact ih.cons x
  | case3 _ x _ _ ih => exact ih.cons_cons x

theorem not_seen_of_mem_firsts (seen : List κ) (l : List α) : ∀ x ∈ firsts key seen l, key x ∉ seen := by
  fun_induction firsts key seen l with
  | case1 => intro _ h; cases h
  | case2 _ _ _ _ ih => exact ih
  | case3 _ _ _ h ih => exact List.forall_mem_cons.2 ⟨h, fun y hy hs => ih y hy (List.mem_cons_of_mem _ hs)⟩

theorem mem_keys_firsts (seen : List κ) (l : List α) (k : κ) :
    k ∈ (firsts key seen l).map key ↔ k ∉ seen ∧ k ∈ l.map key := by
  fun_induction firsts key seen l with
  | case1 => simp
  | case2 seen x r h ih =>
    rw [ih, List.map_cons, List.mem_cons]
    exact and_congr_right fun hk => ⟨.inr, fun h' => h'.resolve_left fun e => hk (e ▸ h)⟩
  | case3 seen x r h ih =>
    rw [List.map_cons, List.mem_cons, ih, List.map_cons, List.mem_cons, List.mem_cons, not_or]
    by_cases e : k = key x
    · simp [e, h]
    · simp [e]

theorem nodup_keys_firsts (seen : List κ) (l : List α) : ((firsts key seen l).map key).Nodup := by
  fun_induction firsts key seen l with
  | case1 => exact .nil
  | case2 _ _ _ _ ih => exact ih
  | case3 seen x r _ ih =>
    exact List.nodup_cons.2 ⟨fun hm => ((mem_keys_firsts key _ r _).1 hm).1 List.mem_cons_self, ih⟩

theorem firsts_eq_self (seen : List κ) (l : List α) (hs : ∀ x ∈ l, key x ∉ seen) (hn : (l.map key).Nodup) :
    firsts key seen l = l := by
  fun_induction firsts key seen l with
  | case1 => rfl
  | case2 _ x _ h _ => exact absurd h (hs x List.mem_cons_self)
  | case3 seen x r _ ih =>
    rw [List.map_cons, List.nodup_cons] at hn
    rw [ih (fun y hy hm => ?_) hn.2]
    rcases List.mem_cons.1 hm with e | hm
    · exact hn.1 (List.mem_map.2 ⟨y, hy, e⟩)
    · exact hs y (List.mem_cons_of_mem _ hy) hm

theorem find?_firsts (seen : List κ) (l : List α) (k : κ) (hk : k ∉ seen) :
    (firsts key seen l).find? (fun x => key x = k) = l.find? (fun x => key x = k) := by
  fun_induction firsts key seen l with
  | case1 => rfl
  | case2 seen x r h ih =>
    rw [ih hk, List.find?_cons_of_neg (by simpa using fun e : key x = k => hk (e ▸ h))]
  | case3 seen x r _ ih =>
    by_cases e : key x = k
    · simp [e]
    · simp only [List.find?_cons, e, decide_false]
      exact ih (by simp [hk, Ne.symm e])

theorem firsts_append (seen : List κ) (l1 l2 : List α) :
    firsts key seen (l1 ++ l2) =
      firsts key seen l1 ++ firsts key ((firsts key seen l1).reverse.map key ++ seen) l2 := by
  fun_induction firsts key seen l1 with
  | case1 => rfl
  | case2 seen x r h ih => rw [List.cons_append, firsts, if_pos h, ih]
  | case3 seen x r h ih => rw [List.cons_append, firsts, if_neg h, ih]; simp

theorem firsts_congr (l : List α) : ∀ {s1 s2 : List κ}, (∀ k, k ∈ s1 ↔ k ∈ s2) → firsts key s1 l = firsts key s2 l := by
  induction l with
  | nil => intros; rfl
  | cons x r ih =>
    intro s1 s2 h
    simp only [firsts, h (key x)]
    rw [ih h, ih (s1 := key x :: s1) (s2 := key x :: s2) fun k => by simp [h k]]

theorem firsts_firsts (l : List α) : ∀ {s0 seen : List κ}, s0 ⊆ seen →
    firsts key seen (firsts key s0 l) = firsts key seen l := by
  induction l with
  | nil => intros; rfl
  | cons x r ih =>
    intro s0 seen hsub
    by_cases h0 : key x ∈ s0
    · rw [firsts, if_pos h0, firsts, if_pos (hsub h0), ih hsub]
    · rw [firsts, if_neg h0]
      by_cases h1 : key x ∈ seen
      · rw [firsts, if_pos h1, firsts, if_pos h1, ih (List.cons_subset.2 ⟨h1, hsub⟩)]
      · rw [firsts, if_neg h1, firsts, if_neg h1, ih (List.cons_subset_cons _ hsub)]

theorem firsts_map [DecidableEq α] (π : α → κ) {A : List α} (hinj : ∀ i ∈ A, ∀ j ∈ A, π i = π j → i = j)
    (l : List α) : ∀ s, l ⊆ A → s ⊆ A → firsts id (s.map π) (l.map π) = (firsts id s l).map π := by
  induction l with
  | nil => intro _ _ _; rfl
  | cons x r ih =>
    intro s hl hs
    obtain ⟨hx, hr⟩ := List.cons_subset.1 hl
    have hm : π x ∈ s.map π ↔ x ∈ s :=
      ⟨fun hm => by obtain ⟨j, hj, e⟩ := List.mem_map.1 hm; exact hinj j (hs hj) x hx e ▸ hj, List.mem_map_of_mem⟩
    simp only [List.map_cons, firsts, id, hm]
    split
    · exact ih s hr hs
    · exact congrArg (π x :: ·) (ih (x :: s) hr (List.cons_subset.2 ⟨hx, hs⟩))

end Cppcheck.FirstOfKey
