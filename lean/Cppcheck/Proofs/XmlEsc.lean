import Cppcheck.Model.XmlEsc
import Cppcheck.Proofs.Decimal
/-
C26, XML: what the reader `XmlRd` makes of the pieces `toXML` prints. The reader is a `foldl` over the bytes, so reading
`a ++ b` is reading `a`, then `b` (`run_append`), and a list of pieces is read piece by piece (`run_pieces`).
-/
namespace Cppcheck.XmlEsc

theorem run_append (s : St) (a b : Str) : run s (a ++ b) = run (run s a) b := by simp [run, List.foldl_append]
theorem run_cons (s : St) (c : Char) (r : Str) : run s (c :: r) = run (step s c) r := rfl
@[simp] theorem run_nil (s : St) : run s [] = s := rfl

theorem run_pieces {α γ : Type} (mk : List γ → St) (g : α → Str) (out : α → List γ) (P : α → Prop)
    (h : ∀ acc x, P x → run (mk acc) (g x) = mk ((out x).reverse ++ acc)) :
    ∀ (xs : List α) (acc : List γ), (∀ x ∈ xs, P x) → run (mk acc) (xs.flatMap g) = mk ((xs.flatMap out).reverse ++ acc) := by
  intro xs
  induction xs with
  | nil => intro acc _; rfl
  | cons x r ih =>
    intro acc hx
    rw [List.flatMap_cons, run_append, h acc x (hx x (by simp)), ih _ (fun y hy => hx y (by simp [hy]))]
    simp

theorem run_flatMap (mk : Str → St) (g : Char → Str) (P : Char → Prop)
    (h : ∀ acc c, P c → run (mk acc) (g c) = mk (c :: acc)) (v acc : Str) (hv : ∀ c ∈ v, P c) :
    run (mk acc) (v.flatMap g) = mk (v.reverse ++ acc) := by
  simpa using run_pieces mk g (fun c => [c]) P h v acc hv

theorem run_collect (mk : Str → St) (P : Char → Prop) (h : ∀ acc c, P c → step (mk acc) c = mk (c :: acc))
    (r acc : Str) (hr : ∀ c ∈ r, P c) : run (mk acc) r = mk (r.reverse ++ acc) := by
  simpa using run_flatMap mk (fun c => [c]) P h r acc hr

theorem ascii_utf8Valid : ∀ s : Str, (∀ c ∈ s, c.toNat < 0x80) → utf8Valid s = true := by
  intro s
  induction s with
  | nil => intro _; rfl
  | cons a r ih =>
    intro h
    have ha : a.toNat < 0x80 := h a (by simp)
    unfold utf8Valid
    rw [if_pos ha]
    exact ih (fun c hc => h c (by simp [hc]))

theorem printChar_attr (c : Char) : printChar false c =
    if c = '"' then "&quot;".toList else if c = '&' then "&amp;".toList else if c = '\'' then "&apos;".toList
    else if c = '<' then "&lt;".toList else if c = '>' then "&gt;".toList else [c] := by
  by_cases h1 : c = '"'
  · subst h1; decide +kernel
  by_cases h2 : c = '&'
  · subst h2; decide +kernel
  by_cases h3 : c = '\''
  · subst h3; decide +kernel
  by_cases h4 : c = '<'
  · subst h4; decide +kernel
  by_cases h5 : c = '>'
  · subst h5; decide +kernel
  -- `entityFlag` compares `e.value = c`, the table's byte on the left
  have e1 : ('"' = c) = False := by simp [eq_comm, h1]
  have e2 : ('&' = c) = False := by simp [eq_comm, h2]
  have e3 : ('\'' = c) = False := by simp [eq_comm, h3]
  have e4 : ('<' = c) = False := by simp [eq_comm, h4]
  have e5 : ('>' = c) = False := by simp [eq_comm, h5]
  simp [printChar, printCharWith, entityFlag, tinyEntities, h1, h2, h3, h4, h5, e1, e2, e3, e4, e5]

theorem printChar_text (c : Char) : printChar true c =
    if c = '&' then "&amp;".toList else if c = '<' then "&lt;".toList else if c = '>' then "&gt;".toList else [c] := by
  by_cases h2 : c = '&'
  · subst h2; decide +kernel
  by_cases h4 : c = '<'
  · subst h4; decide +kernel
  by_cases h5 : c = '>'
  · subst h5; decide +kernel
  simp [printChar, printCharWith, entityFlag, h2, h4, h5]

theorem printString_eq (r : Bool) (v : Str) : printString r v = (cstr v).flatMap (printChar r) := rfl

-- `toXML` only writes double quotes, so the quote is fixed to '"' here and below
theorem step_value_plain (tag : Str) (as : List (Str × Str)) (an av : Str) (stk : List Str) (evs : List Ev) (root : Bool)
    (c : Char) (h20 : 0x20 ≤ c.toNat) (hq : c ≠ '"') (hlt : c ≠ '<') (hamp : c ≠ '&') :
    step ⟨.value tag as an '"' av false, stk, evs, root⟩ c = ⟨.value tag as an '"' (c :: av) false, stk, evs, root⟩ := by
  have h1 : c ≠ '\r' := by intro h; subst h; revert h20; decide
  have h2 : c ≠ '\n' := by intro h; subst h; revert h20; decide
  have h3 : c ≠ '\t' := by intro h; subst h; revert h20; decide
  simp [step, hq, hlt, hamp, h1, h2, h3, h20]

theorem run_value_char (tag : Str) (as : List (Str × Str)) (an av : Str) (stk : List Str) (evs : List Ev) (root : Bool)
    (c : Char) (h20 : 0x20 ≤ c.toNat) :
    run ⟨.value tag as an '"' av false, stk, evs, root⟩ (printChar false c) =
      ⟨.value tag as an '"' (c :: av) false, stk, evs, root⟩ := by
  rw [printChar_attr]
  by_cases h1 : c = '"'
  · subst h1; rfl
  by_cases h2 : c = '&'
  · subst h2; rfl
  by_cases h3 : c = '\''
  · subst h3; rfl
  by_cases h4 : c = '<'
  · subst h4; rfl
  by_cases h5 : c = '>'
  · subst h5; rfl
  simp only [h1, h2, h3, h4, h5, if_false]
  rw [run_cons, run_nil]
  exact step_value_plain tag as an av stk evs root c h20 h1 h4 h2

theorem step_content_plain (acc : Str) (stk : List Str) (evs : List Ev) (root : Bool) (c : Char)
    (h20 : 0x20 ≤ c.toNat ∨ c = '\t') (hlt : c ≠ '<') (hamp : c ≠ '&') (hgt : c ≠ '>') :
    step ⟨.content acc false, stk, evs, root⟩ c = ⟨.content (c :: acc) false, stk, evs, root⟩ := by
  have h1 : c ≠ '\r' := by
    intro h; subst h; rcases h20 with h | h
    · revert h; decide
    · revert h; decide
  have h2 : c ≠ '\n' := by
    intro h; subst h; rcases h20 with h | h
    · revert h; decide
    · revert h; decide
  simp [step, hlt, hamp, hgt, h1, h2, h20]

theorem run_text_char (acc : Str) (top : Str) (rest : List Str) (evs : List Ev) (root : Bool) (c : Char)
    (h20 : 0x20 ≤ c.toNat ∨ c = '\t') :
    run ⟨.content acc false, top :: rest, evs, root⟩ (printChar true c) =
      ⟨.content (c :: acc) false, top :: rest, evs, root⟩ := by
  rw [printChar_text]
  by_cases h2 : c = '&'
  · subst h2; rfl
  by_cases h4 : c = '<'
  · subst h4; rfl
  by_cases h5 : c = '>'
  · subst h5; rfl
  simp only [h2, h4, h5, if_false]
  rw [run_cons, run_nil]
  exact step_content_plain acc _ evs root c h20 h4 h2 h5

def validName : Str → Bool
  | [] => false
  | c :: r => nameStart c && r.all nameChar

theorem nameStart_facts (c : Char) (h : nameStart c = true) :
    isWs c = false ∧ c ≠ '/' ∧ c ≠ '>' := by
  refine ⟨?_, ?_, ?_⟩
  · cases hw : isWs c with
    | false => rfl
    | true =>
      simp only [isWs, Bool.or_eq_true, decide_eq_true_eq] at hw
      rcases hw with ((h1 | h1) | h1) | h1 <;> (subst h1; revert h; decide)
  · intro h1; subst h1; revert h; decide
  · intro h1; subst h1; revert h; decide

theorem run_validName (mk : Str → St) (s0 : St) (h0 : ∀ c, nameStart c = true → step s0 c = mk [c])
    (h : ∀ acc c, acc ≠ [] → nameChar c = true → step (mk acc) c = mk (c :: acc)) :
    ∀ name, validName name = true → run s0 name = mk name.reverse
  | [], hn => by simp [validName] at hn
  | c :: r, hn => by
    simp only [validName, Bool.and_eq_true, List.all_eq_true] at hn
    have := run_collect (fun acc => mk (acc ++ [c])) (nameChar · = true) (fun acc x => h _ x (by simp)) r [] hn.2
    rw [run_cons, h0 c hn.1]
    simpa using this

theorem run_name (name : Str) (stk : List Str) (evs : List Ev) (root : Bool) (hn : validName name = true) :
    run ⟨.tagStart, stk, evs, root⟩ name = ⟨.openName name.reverse, stk, evs, root⟩ :=
  run_validName (fun acc => ⟨.openName acc, stk, evs, root⟩) _ (fun c hc => by simp [step, (nameStart_facts c hc).2.1, hc])
    (fun acc x _ hx => by simp [step, hx]) name hn

theorem run_attr_body (tag : Str) (as : List (Str × Str)) (stk : List Str) (evs : List Ev) (root : Bool)
    (name v : Str) (hn : validName name = true) (hv : attrOK v = true) (hdup : as.any (fun p => p.1 = name) = false) :
    run ⟨.attrs tag as true, stk, evs, root⟩ (name ++ ('=' :: '"' :: (printString false v ++ ['"']))) =
      ⟨.attrs tag ((name, cstr v) :: as) false, stk, evs, root⟩ := by
  unfold attrOK at hv
  simp only [Bool.and_eq_true, List.all_eq_true, decide_eq_true_eq] at hv
  obtain ⟨h20, hutf⟩ := hv
  rw [run_append, run_validName (fun acc => ⟨.attrName tag as acc, stk, evs, root⟩) _
    (fun c hc => by obtain ⟨hws, hsl, hgt⟩ := nameStart_facts c hc; simp [step, hws, hsl, hgt, hc])
    (fun acc x _ hx => by simp [step, hx]) name hn, run_cons]
  have s2 : step ⟨.attrName tag as name.reverse, stk, evs, root⟩ '=' = ⟨.beforeQuote tag as name, stk, evs, root⟩ := by
    have : nameChar '=' = false := by decide
    simp [step, this]
  rw [s2, run_cons]
  have s3 : step ⟨.beforeQuote tag as name, stk, evs, root⟩ '"' = ⟨.value tag as name '"' [] false, stk, evs, root⟩ := by
    have : isWs '"' = false := by decide
    simp [step, this]
  rw [s3, run_append, printString_eq, run_flatMap (fun av => ⟨.value tag as name '"' av false, stk, evs, root⟩) _ _
    (fun av x hx => run_value_char _ _ _ _ _ _ _ x hx) (cstr v) [] h20, run_cons, run_nil]
  simp [step, hdup, hutf]

/-- name and carried value of a printed attribute -/
def san (p : String × Str) : Str × Str := (p.1.toList, cstr p.2)

theorem carried_eq (t : List (String × Bool × Str)) : carried t = (present t).map san := rfl

theorem run_attr {s0 : St} {tag : Str} {as : List (Str × Str)} {stk : List Str} {evs : List Ev} {root : Bool}
    (h0 : step s0 ' ' = ⟨.attrs tag as true, stk, evs, root⟩) (p : String × Str)
    (hp : validName p.1.toList = true ∧ attrOK p.2 = true) (hdup : as.any (fun q => q.1 = p.1.toList) = false) :
    run s0 (attr p.1 p.2) = ⟨.attrs tag (san p :: as) false, stk, evs, root⟩ := by
  unfold attr
  rw [run_cons, h0]
  exact run_attr_body tag as stk evs root p.1.toList p.2 hp.1 hp.2 hdup

theorem step_attrs_blank (tag : Str) (as : List (Str × Str)) (ws : Bool) (stk : List Str) (evs : List Ev) (root : Bool) :
    step ⟨.attrs tag as ws, stk, evs, root⟩ ' ' = ⟨.attrs tag as true, stk, evs, root⟩ := by
  have : isWs ' ' = true := by decide
  simp [step, this]

theorem step_openName_blank (tagr : Str) (stk : List Str) (evs : List Ev) (root : Bool) :
    step ⟨.openName tagr, stk, evs, root⟩ ' ' = ⟨.attrs tagr.reverse [] true, stk, evs, root⟩ := by
  have h1 : nameChar ' ' = false := by decide
  have h2 : isWs ' ' = true := by decide
  simp [step, h1, h2]

/-- `s0`: the state behind the element name (`pre = []`) or behind an attribute -/
theorem run_attrs (tag : Str) (stk : List Str) (evs : List Ev) (root : Bool) :
    ∀ (ps pre : List (String × Str)) (s0 : St), step s0 ' ' = ⟨.attrs tag (pre.map san).reverse true, stk, evs, root⟩ →
    (∀ p ∈ ps, validName p.1.toList = true ∧ attrOK p.2 = true) →
    ((pre ++ ps).map (fun p => p.1.toList)).Nodup → ps ≠ [] →
    run s0 (ps.flatMap (fun p => attr p.1 p.2)) = ⟨.attrs tag ((pre ++ ps).map san).reverse false, stk, evs, root⟩ := by
  intro ps
  induction ps with
  | nil => intro _ _ _ _ _ h; exact absurd rfl h
  | cons p ps ih =>
    intro pre s0 h0 hok hnd _
    have hnd' : ((pre ++ [p] ++ ps).map (fun p => p.1.toList)).Nodup := by simpa using hnd
    -- the reader's check at the closing quote: no attribute read so far has the name of `p`
    have hdup : (pre.map san).reverse.any (fun q => q.1 = p.1.toList) = false := by
      rw [List.map_append, List.map_append, List.append_assoc, List.nodup_append] at hnd'
      refine Bool.eq_false_iff.mpr fun h => ?_
      simp only [List.any_eq_true, List.mem_reverse, List.mem_map, decide_eq_true_eq] at h
      obtain ⟨_, ⟨q, hq, rfl⟩, he⟩ := h
      exact hnd'.2.2 _ (List.mem_map.mpr ⟨q, hq, he⟩) _ (by simp) rfl
    rw [List.flatMap_cons, run_append, run_attr h0 p (hok p (by simp)) hdup]
    by_cases hps : ps = []
    · subst hps; simp
    · have := ih (pre ++ [p]) _ (by simpa using step_attrs_blank tag (san p :: (pre.map san).reverse) false stk evs root)
        (fun q hq => hok q (by simp [hq])) hnd' hps
      simpa using this

theorem present_names_nodup (t : List (String × Bool × Str)) (h : (t.map (fun x => x.1.toList)).Nodup) :
    ((present t).map (fun p => p.1.toList)).Nodup := by
  unfold present
  rw [List.map_map]
  have : (List.filter (fun x => x.2.1) t).map ((fun p : String × Str => p.1.toList) ∘ fun x => (x.1, x.2.2)) =
      (List.filter (fun x => x.2.1) t).map (fun x => x.1.toList) := rfl
  rw [this]
  exact List.Nodup.sublist ((List.filter_sublist).map _) h

theorem present_mem (t : List (String × Bool × Str)) (p : String × Str) (h : p ∈ present t) :
    ∃ x ∈ t, p = (x.1, x.2.2) := by
  unfold present at h
  simp only [List.mem_map, List.mem_filter] at h
  obtain ⟨x, ⟨hx, _⟩, he⟩ := h
  exact ⟨x, hx, he.symm⟩

theorem run_attrTable (tagr : Str) (stk : List Str) (evs : List Ev) (root : Bool) (t : List (String × Bool × Str))
    (x0 : String × Bool × Str) (h0 : x0 ∈ t ∧ x0.2.1 = true)
    (hN : (∀ n ∈ t.map (fun x => x.1.toList), validName n = true) ∧ (t.map (fun x => x.1.toList)).Nodup)
    (hv : ∀ x ∈ t, attrOK x.2.2 = true) :
    run ⟨.openName tagr, stk, evs, root⟩ ((present t).flatMap (fun p => attr p.1 p.2)) =
      ⟨.attrs tagr.reverse (carried t).reverse false, stk, evs, root⟩ := by
  refine run_attrs tagr.reverse stk evs root (present t) [] _ (step_openName_blank tagr stk evs root) (fun p hp => ?_)
    (present_names_nodup t hN.2) (fun he => ?_)
  · obtain ⟨x, hx, rfl⟩ := present_mem t p hp
    exact ⟨hN.1 _ (List.mem_map_of_mem hx), hv x hx⟩
  · have : (x0.1, x0.2.2) ∈ present t := List.mem_map.mpr ⟨x0, List.mem_filter.mpr h0, rfl⟩
    rw [he] at this; cases this

def ws12 : Str := '\n' :: spaces 12
def ws8 : Str := '\n' :: spaces 8

theorem run_open_error : run init (spaces 8 ++ "<error".toList) = ⟨.openName "error".toList.reverse, [], [], false⟩ := by
  decide +kernel

theorem step_lt (acc top : Str) (rest : List Str) (evs : List Ev) (root : Bool) (hutf : utf8Valid acc.reverse = true) :
    step ⟨.content acc false, top :: rest, evs, root⟩ '<' =
      ⟨.tagStart, top :: rest, (if acc = [] then [] else [Ev.txt acc.reverse]) ++ evs, root⟩ := by
  cases acc with
  | nil => rfl
  | cons a r =>
    have hutf' : utf8Valid (r.reverse ++ [a]) = true := by simpa using hutf
    simp [step, flushText, hutf']

theorem run_indent_lt (n : Nat) (top : Str) (rest : List Str) (evs : List Ev) :
    run ⟨.content [] false, top :: rest, evs, true⟩ ('\n' :: spaces n ++ ['<']) =
      ⟨.tagStart, top :: rest, .txt ('\n' :: spaces n) :: evs, true⟩ := by
  have hsp : ∀ x ∈ spaces n, x = ' ' := fun x hx => (List.mem_replicate.mp hx).2
  have hutf : utf8Valid ((spaces n).reverse ++ ['\n']).reverse = true :=
    ascii_utf8Valid _ (fun x hx => by
      simp only [List.reverse_append, List.reverse_reverse, List.mem_append, List.mem_reverse, List.mem_singleton] at hx
      rcases hx with rfl | hx
      · decide
      · rw [hsp x hx]; decide)
  rw [List.cons_append, run_cons, run_append,
    show step ⟨.content [] false, top :: rest, evs, true⟩ '\n' = ⟨.content ['\n'] false, top :: rest, evs, true⟩ from rfl,
    run_collect (fun acc => ⟨.content acc false, top :: rest, evs, true⟩) (· = ' ')
      (fun acc x hx => by subst hx; rfl) _ _ hsp, run_cons, run_nil, step_lt _ _ _ _ _ hutf]
  simp

theorem step_open_gt (tagr top : Str) (rest : List Str) (evs : List Ev) :
    step ⟨.openName tagr, top :: rest, evs, true⟩ '>' =
      ⟨.content [] false, tagr.reverse :: top :: rest, .opn tagr.reverse [] :: evs, true⟩ := by
  have h1 : nameChar '>' = false := by decide
  have h2 : isWs '>' = false := by decide
  simp [step, emitOpen, h1, h2]

theorem run_close_tag (name : Str) (rest : List Str) (evs : List Ev) (root : Bool) (hn : validName name = true) :
    run ⟨.tagStart, name :: rest, evs, root⟩ ('/' :: (name ++ ['>'])) = ⟨.content [] false, rest, .cls name :: evs, root⟩ := by
  have hne : name ≠ [] := fun e => by simp [e, validName] at hn
  have h1 : nameChar '>' = false := by decide
  have h2 : isWs '>' = false := by decide
  rw [run_cons, show step ⟨.tagStart, name :: rest, evs, root⟩ '/' = ⟨.closeName [], name :: rest, evs, root⟩ by simp [step],
    run_append, run_validName (fun acc => ⟨.closeName acc, name :: rest, evs, root⟩) _ (fun c hc => by simp [step, hc])
      (fun acc x ha hx => by simp [step, ha, hx]) name hn]
  simp [run, step, doClose, h1, h2, hne]

theorem run_empty_close (tag : Str) (as : List (Str × Str)) (ws : Bool) (stk : List Str) (evs : List Ev) (root : Bool)
    (h : ¬(stk = [] ∧ root = true)) :
    run ⟨.attrs tag as ws, stk, evs, root⟩ "/>".toList =
      ⟨.content [] false, stk, .cls tag :: .opn tag as.reverse :: evs, true⟩ := by
  have h1 : isWs '/' = false := by decide
  simp [run, step, emitEmpty, h1, h]

theorem run_gt_root (tag : Str) (as : List (Str × Str)) (ws : Bool) :
    run ⟨.attrs tag as ws, [], [], false⟩ ['>'] = ⟨.content [] false, [tag], [.opn tag as.reverse], true⟩ := by
  have h1 : isWs '>' = false := by decide
  simp [run, step, emitOpen, h1]

theorem octDigit_range : ∀ m, m < 8 → 0x20 ≤ (Char.ofNat (48 + m)).toNat ∧ (Char.ofNat (48 + m)).toNat < 0x80 := by decide

theorem fix_printable (s : Str) : ∀ c ∈ fixInvalidChars s, 0x20 ≤ c.toNat ∧ c.toNat < 0x80 := by
  intro c hc
  simp only [fixInvalidChars, List.mem_flatMap] at hc
  obtain ⟨a, _, hca⟩ := hc
  unfold fixChar at hca
  split at hca
  · rename_i hp
    simp only [List.mem_singleton] at hca
    subst hca
    simp only [isPrintC, Bool.and_eq_true, decide_eq_true_eq] at hp
    omega
  · simp only [List.mem_cons, List.not_mem_nil, or_false] at hca
    rcases hca with rfl | rfl | rfl | rfl
    · decide
    · exact octDigit_range _ (Nat.mod_lt _ (by decide))
    · exact octDigit_range _ (Nat.mod_lt _ (by decide))
    · exact octDigit_range _ (Nat.mod_lt _ (by decide))

theorem cstr_mem {v : Str} {c : Char} (h : c ∈ cstr v) : c ∈ v := by
  unfold cstr at h
  exact (List.takeWhile_sublist _).mem h

theorem attrOK_of_printable (v : Str) (h : ∀ c ∈ v, 0x20 ≤ c.toNat ∧ c.toNat < 0x80) : attrOK v = true := by
  unfold attrOK
  simp only [Bool.and_eq_true, List.all_eq_true, decide_eq_true_eq]
  refine ⟨fun c hc => (h c (cstr_mem hc)).1, ?_⟩
  exact ascii_utf8Valid _ (fun c hc => (h c (cstr_mem hc)).2)

theorem digit_range : ∀ m, m < 10 → 0x20 ≤ (Char.ofNat (48 + m)).toNat ∧ (Char.ofNat (48 + m)).toNat < 0x80 := by decide

theorem natDecAux_eq : ∀ f n acc, natDecAux f n acc = Nat.toDigitsCore 10 f n acc
  | 0, _, _ => rfl
  | f + 1, n, acc => by simp only [natDecAux, Nat.toDigitsCore, natDecAux_eq f, digitChar, Decimal.digitChar_mod]

theorem natDec_eq (n : Nat) : natDec n = Nat.toDigits 10 n := natDecAux_eq _ _ _

theorem natDec_all {P : Char → Prop} (hP : ∀ m, m < 10 → P (Char.ofNat (48 + m))) (n : Nat) : ∀ c ∈ natDec n, P c :=
  natDec_eq n ▸ Decimal.toDigits_all hP n

theorem intDec_all {P : Char → Prop} (hP : ∀ m, m < 10 → P (Char.ofNat (48 + m))) (hm : P '-') (i : Int) :
    ∀ c ∈ intDec i, P c := by
  cases i with
  | ofNat n => exact natDec_all hP n
  | negSucc n => exact List.forall_mem_cons.mpr ⟨hm, natDec_all hP _⟩

theorem natDec_printable (n : Nat) : ∀ c ∈ natDec n, 0x20 ≤ c.toNat ∧ c.toNat < 0x80 := natDec_all digit_range n

theorem intDec_printable (i : Int) : ∀ c ∈ intDec i, 0x20 ≤ c.toNat ∧ c.toNat < 0x80 :=
  intDec_all digit_range (by decide) i

theorem sevStr_lower (n : Nat) : ∀ c ∈ sevStr n, 97 ≤ c.toNat ∧ c.toNat ≤ 122 := by
  unfold sevStr
  split <;> decide +kernel

theorem sevStr_attrOK (n : Nat) : attrOK (sevStr n) = true :=
  attrOK_of_printable _ fun c hc => by have := sevStr_lower n c hc; omega

theorem locAttr_names (l : Loc) : (locAttrTable l).map (fun x => x.1.toList) =
    ["origfile".toList, "file".toList, "line".toList, "column".toList, "info".toList] := rfl

theorem loc_names_ok (l : Loc) : (∀ n ∈ (locAttrTable l).map (fun x => x.1.toList), validName n = true) ∧
    ((locAttrTable l).map (fun x => x.1.toList)).Nodup := by
  rw [locAttr_names]; decide +kernel

theorem loc_attr_ok (l : Loc) (hf : attrOK l.file = true) (ho : attrOK l.origFile = true) :
    ∀ x ∈ locAttrTable l, attrOK x.2.2 = true := by
  intro x hx
  simp only [locAttrTable, List.mem_cons, List.not_mem_nil, or_false] at hx
  rcases hx with rfl | rfl | rfl | rfl | rfl
  · exact ho
  · exact hf
  · exact attrOK_of_printable _ (intDec_printable _)
  · exact attrOK_of_printable _ (natDec_printable _)
  · exact attrOK_of_printable _ (fix_printable _)

theorem errAttr_names (f : Finding) : (errAttrTable f).map (fun x => x.1.toList) =
    ["id".toList, "guideline".toList, "severity".toList, "classification".toList, "msg".toList, "verbose".toList,
     "cwe".toList, "hash".toList, "inconclusive".toList, "file0".toList, "remark".toList] := rfl

theorem err_names_ok (f : Finding) : (∀ n ∈ (errAttrTable f).map (fun x => x.1.toList), validName n = true) ∧
    ((errAttrTable f).map (fun x => x.1.toList)).Nodup := by
  rw [errAttr_names]; decide +kernel

theorem err_attr_ok (f : Finding) (h : RawOK f = true) : ∀ x ∈ errAttrTable f, attrOK x.2.2 = true := by
  unfold RawOK at h
  simp only [Bool.and_eq_true] at h
  obtain ⟨⟨⟨⟨⟨hid, hgl⟩, hcl⟩, hf0⟩, _⟩, _⟩ := h
  intro x hx
  simp only [errAttrTable, List.mem_cons, List.not_mem_nil, or_false] at hx
  rcases hx with rfl | rfl | rfl | rfl | rfl | rfl | rfl | rfl | rfl | rfl | rfl
  · exact hid
  · exact hgl
  · exact sevStr_attrOK _
  · exact hcl
  · exact attrOK_of_printable _ (fix_printable _)
  · exact attrOK_of_printable _ (fix_printable _)
  · exact attrOK_of_printable _ (natDec_printable _)
  · exact attrOK_of_printable _ (natDec_printable _)
  · show attrOK "true".toList = true; decide +kernel
  · exact hf0
  · exact attrOK_of_printable _ (fix_printable _)

def locEvs (l : Loc) : List Ev :=
  [.txt ws12, .opn "location".toList (carried (locAttrTable l)), .cls "location".toList]

def symEvs (s : Str) : List Ev :=
  [.txt ws12, .opn "symbol".toList []] ++ (if cstr s = [] then [] else [Ev.txt (cstr s)]) ++ [.cls "symbol".toList]

theorem run_locXml (top : Str) (rest : List Str) (evs : List Ev) (l : Loc)
    (hf : attrOK l.file = true) (ho : attrOK l.origFile = true) :
    run ⟨.content [] false, top :: rest, evs, true⟩ (locXml l) =
      ⟨.content [] false, top :: rest, (locEvs l).reverse ++ evs, true⟩ := by
  have hx : locXml l = ('\n' :: spaces 12 ++ ['<']) ++ ("location".toList ++ (locAttrs l ++ "/>".toList)) := by
    simp [locXml]
  have hrun := run_attrTable "location".toList.reverse (top :: rest) (.txt ws12 :: evs) true (locAttrTable l)
    ("file", true, l.file) ⟨by simp [locAttrTable], rfl⟩ (loc_names_ok l) (loc_attr_ok l hf ho)
  -- indent and `<`, name, attributes, `/>`
  rw [hx, run_append, run_indent_lt, run_append, run_name _ _ _ _ (by decide +kernel), run_append]
  unfold locAttrs
  rw [show ('\n' :: spaces 12) = ws12 from rfl, hrun, run_empty_close _ _ _ _ _ _ (by simp)]
  simp [locEvs]

theorem run_symXml (top : Str) (rest : List Str) (evs : List Ev) (s : Str) (hs : textOK s = true) :
    run ⟨.content [] false, top :: rest, evs, true⟩ (symXml s) =
      ⟨.content [] false, top :: rest, (symEvs s).reverse ++ evs, true⟩ := by
  unfold textOK at hs
  simp only [Bool.and_eq_true, List.all_eq_true, Bool.or_eq_true, decide_eq_true_eq] at hs
  obtain ⟨h20, hutf⟩ := hs
  have hx : symXml s = ('\n' :: spaces 12 ++ ['<']) ++ ("symbol".toList ++ ('>' :: (printString true s ++
      ('<' :: ('/' :: ("symbol".toList ++ ['>'])))))) := by
    simp [symXml]
  have hname : validName "symbol".toList = true := by decide +kernel
  -- indent and `<`, name, `>`, text, `<`, `/symbol>`
  rw [hx, run_append, run_indent_lt, run_append, run_name _ _ _ _ hname, run_cons, step_open_gt, List.reverse_reverse,
    run_append, printString_eq, run_flatMap (fun acc => ⟨.content acc false, _, _, true⟩) _ _
      (fun acc x hx => run_text_char acc _ _ _ _ x hx) (cstr s) [] h20, List.append_nil, run_cons,
    step_lt _ _ _ _ _ (by simpa using hutf), run_close_tag _ _ _ _ hname]
  by_cases he : cstr s = []
  · simp [symEvs, he, ws12]
  · simp [symEvs, he, ws12]

/-- the events a conforming reader reports for `toXML f` -/
def xmlEvents (f : Finding) : List Ev :=
  if f.stack = [] ∧ splitSymbols f.symbols = [] then
    [.opn "error".toList (carried (errAttrTable f)), .cls "error".toList]
  else
    [.opn "error".toList (carried (errAttrTable f))] ++ f.stack.reverse.flatMap locEvs ++
      (splitSymbols f.symbols).flatMap symEvs ++ [.txt ws8, .cls "error".toList]

/-- **reading back**: for a finding whose unsanitised strings are plain, the reader accepts `toXML f` and reports
    exactly `xmlEvents f` -/
theorem readXml_toXML (f : Finding) (h : RawOK f = true) : readXml (toXML f) = some (xmlEvents f) := by
  have hrun := run_attrTable "error".toList.reverse [] [] false (errAttrTable f) ("id", true, f.id)
    ⟨by simp [errAttrTable], rfl⟩ (err_names_ok f) (err_attr_ok f h)
  unfold RawOK at h
  simp only [Bool.and_eq_true, List.all_eq_true] at h
  obtain ⟨⟨_, hlocs⟩, hsyms⟩ := h
  unfold readXml toXML xmlEvents
  rw [run_append, run_append, run_open_error]
  unfold errAttrs
  rw [hrun, List.reverse_reverse]
  split
  · rw [run_empty_close _ _ _ _ _ _ (by simp)]
    simp [finish]
  · have hsp : ('>' :: (children f ++ '\n' :: (spaces 8 ++ "</error>".toList))) =
        ['>'] ++ (children f ++ (('\n' :: spaces 8 ++ ['<']) ++ ('/' :: ("error".toList ++ ['>'])))) := by simp
    rw [hsp, run_append, run_gt_root, run_append]
    unfold children
    rw [run_append _ (f.stack.reverse.flatMap locXml) _,
      run_pieces (fun evs => ⟨.content [] false, ["error".toList], evs, true⟩) locXml locEvs
        (fun l => attrOK l.file = true ∧ attrOK l.origFile = true)
        (fun evs l hl => run_locXml _ _ evs l hl.1 hl.2) f.stack.reverse _ (fun l hl => by
          have := hlocs l (by simpa using hl); simpa using this),
      run_pieces (fun evs => ⟨.content [] false, ["error".toList], evs, true⟩) symXml symEvs (textOK · = true)
        (fun evs s hs => run_symXml _ _ evs s hs) _ _ hsyms,
      run_append, run_indent_lt, run_close_tag _ _ _ _ (by decide +kernel)]
    simp [finish, ws8]

theorem ws12_ws : ws12.all isWs = true := by decide
theorem ws8_ws : ws8.all isWs = true := by decide
theorem sym_ne_loc : ("symbol".toList = "location".toList) = False := by decide

theorem rc_locs : ∀ (ls : List Loc) (rest : List Ev) (la : List (List (Str × Str))) (sa : List Str),
    readChildren (ls.flatMap locEvs ++ rest) la sa =
      readChildren rest ((ls.map (fun l => carried (locAttrTable l))).reverse ++ la) sa := by
  intro ls
  induction ls with
  | nil => intro rest la sa; rfl
  | cons l r ih =>
    intro rest la sa
    rw [List.flatMap_cons, List.append_assoc]
    simp only [locEvs, List.cons_append, List.nil_append]
    rw [readChildren]
    simp only [ws12_ws, if_true]
    rw [readChildren]
    simp only [and_self, if_true]
    rw [ih]; simp

theorem rc_syms : ∀ (ss : List Str) (rest : List Ev) (la : List (List (Str × Str))) (sa : List Str),
    readChildren (ss.flatMap symEvs ++ rest) la sa = readChildren rest la ((ss.map cstr).reverse ++ sa) := by
  intro ss
  induction ss with
  | nil => intro rest la sa; rfl
  | cons s r ih =>
    intro rest la sa
    rw [List.flatMap_cons, List.append_assoc]
    by_cases he : cstr s = []
    · simp only [symEvs, he, if_true, List.cons_append, List.nil_append, List.append_nil]
      rw [readChildren]
      simp only [ws12_ws, if_true]
      rw [readChildren]
      simp only [sym_ne_loc, false_and, if_false, and_self, if_true]
      rw [ih]; simp [he]
    · simp only [symEvs, he, if_false, List.cons_append, List.nil_append]
      rw [readChildren]
      simp only [ws12_ws, if_true]
      rw [readChildren]
      simp only [and_self, if_true]
      rw [ih]; simp

theorem rc_end (la : List (List (Str × Str))) (sa : List Str) :
    readChildren [.txt ws8, .cls "error".toList] la sa = some (la.reverse, sa.reverse) := by
  rw [readChildren]
  simp only [ws8_ws, if_true]
  rw [readChildren]
  simp

theorem readError_events (f : Finding) : readError (xmlEvents f) = some (sanitize f) := by
  unfold xmlEvents
  split
  · rename_i hc
    simp only [readError, if_true]
    rw [readChildren]
    simp [sanitize, hc.1, hc.2]
  · simp only [List.cons_append, List.nil_append, readError, if_true, List.append_assoc]
    rw [rc_locs, rc_syms, rc_end]
    simp [sanitize]

/-- names printed, as a function of the `if`s around the `PushAttribute` calls -/
def namesOf (t : List (Str × Bool)) : List Str := (t.filter (fun x => x.2)).map (fun x => x.1)

theorem carried_names (t : List (String × Bool × Str)) :
    (carried t).map (fun a => a.1) = namesOf (t.map (fun x => (x.1.toList, x.2.1))) := by
  simp [carried, present, namesOf, List.map_map, List.filter_map, Function.comp_def]

def errNameTable (bgl bcl bcwe bhash binc bf0 brem : Bool) : List (Str × Bool) :=
  [("id".toList, true), ("guideline".toList, bgl), ("severity".toList, true), ("classification".toList, bcl),
   ("msg".toList, true), ("verbose".toList, true), ("cwe".toList, bcwe), ("hash".toList, bhash),
   ("inconclusive".toList, binc), ("file0".toList, bf0), ("remark".toList, brem)]

def locNameTable (borig binfo : Bool) : List (Str × Bool) :=
  [("origfile".toList, borig), ("file".toList, true), ("line".toList, true), ("column".toList, true), ("info".toList, binfo)]

theorem lookup_severity (f : Finding) :
    (sanitize f).attrs.lookup "severity".toList = some (cstr (sevStr f.severity)) := by
  have h1 : ("severity".toList == "id".toList) = false := by decide +kernel
  simp only [sanitize, carried, present, errAttrTable, List.filter, List.map_cons, List.lookup, h1]
  -- `guideline` is the one optional attribute in front of `severity`
  cases decide (f.guideline ≠ []) <;> simp [List.lookup]

end Cppcheck.XmlEsc
