import Cppcheck.Model.ScopeProg
/-
The refinement proofs behind Props/C08 and Props/C06.
Part A: the undo-log table (`VarMap`, repaired replay order) refines the stack of scopes (`Spec`) event by event: the states
(`Rel`), then the emitted ids, where the `::x` map needs an invariant of its own (`GInv`); the ids of declarations are consecutive.
Part B: the stack of scopes run on the events `implProg p` of a scope program is lexical scoping on the syntax tree (`specProg p`),
and `progOK p` gives the side condition `globalOK` of Part A.
-/
namespace Cppcheck.VarMap

/-! ## Part A: the undo-log table refines the stack of scopes -/

@[simp] theorem lookup_nil (x : VName) : lookup [] x = none := rfl

@[simp] theorem lookup_cons (y i r x) : lookup ((y, i) :: r) x = if y = x then some i else lookup r x := rfl

@[simp] theorem lookup_setv (m x i y) : lookup (setv m x i) y = if x = y then some i else lookup m y := by
  simp [setv]

theorem lookup_eq_find? (m : AMap) (x : VName) : lookup m x = (m.find? (·.1 = x)).map (·.2) := by
  induction m with
  | nil => rfl
  | cons p r ih => by_cases h : p.1 = x <;> simp [lookup, h, ih]

theorem lookup_erasev (m : AMap) (x y) : lookup (erasev m x) y = if x = y then none else lookup m y := by
  simp only [lookup_eq_find?, erasev, List.find?_filter]
  split
  · next h => subst h; rw [List.find?_eq_none.2 (by simp)]; rfl
  · next h => congr 2; funext p; by_cases hp : p.1 = y <;> simp [hp, Ne.symm h]

theorem lookup_append (a b : AMap) (x) :
    lookup (a ++ b) x = match lookup a x with | some i => some i | none => lookup b x := by
  simp only [lookup_eq_find?, List.find?_append]
  cases a.find? (·.1 = x) <;> rfl

theorem lookup_undo1 (c p y) : lookup (undo1 c p) y = if p.1 = y then p.2 else lookup c y := by
  obtain ⟨x, o⟩ := p
  cases o with
  | none => simp [undo1, lookup_erasev]
  | some i => simp [undo1]

def Ext (a b : AMap) : Prop := ∀ x, lookup a x = lookup b x

theorem undo1_ext {a b} (h : Ext a b) (p) : Ext (undo1 a p) (undo1 b p) := by
  intro y; simp [lookup_undo1, h y]

theorem foldl_undo1_ext (l : Undo) : ∀ {a b}, Ext a b → Ext (l.foldl undo1 a) (l.foldl undo1 b) :=
  fun h => List.foldl_rel h fun p _ _ _ h => undo1_ext h p

theorem restore_ext {a b} (h : Ext a b) (u) : Ext (restore a u) (restore b u) := foldl_undo1_ext _ h

@[simp] theorem restore_nil (c : AMap) : restore c [] = c := rfl

/-- the key fact about the repaired order: declaring `x` and logging its previous binding LAST, then
replaying newest-first, first undoes exactly that declaration -/
theorem restore_snoc_decl (cur : AMap) (u : Undo) (x i) :
    Ext (restore (setv cur x i) (u ++ [(x, lookup cur x)])) (restore cur u) := by
  unfold restore
  simp only [List.reverse_append, List.reverse_cons, List.reverse_nil, List.nil_append, List.singleton_append,
    List.foldl_cons]
  apply foldl_undo1_ext
  intro y
  simp only [lookup_undo1, lookup_setv]
  by_cases h : x = y <;> simp [h]

/-- the observable value of a lookup: the id written to a token (0 = none / not a variable) -/
def vl (o : Option VId) : VId := o.getD 0

@[simp] theorem vl_none : vl none = 0 := rfl
@[simp] theorem vl_some (i : VId) : vl (some i) = i := rfl

/-- the table `cur` with its undo logs shows the stack of scopes: lookups agree as ids (`vl`) at the innermost level, and
replaying the innermost log gives a table that shows the levels beneath -/
def R : AMap → List Undo → List AMap → AMap → Prop
  | cur, [], [], g => ∀ x, vl (lookup cur x) = vl (lookup g x)
  | cur, u :: us, sc :: r, g => (∀ x, vl (lookup cur x) = vl (slookup (sc :: r) g x)) ∧ R (restore cur u) us r g
  | _, _, _, _ => False

theorem R_lookup : ∀ {cur us inner g}, R cur us inner g → ∀ x, vl (lookup cur x) = vl (slookup inner g x)
  | _, [], [], _, h => fun x => by simpa [slookup] using h x
  | _, _ :: _, _ :: _, _, h => h.1
  | _, [], _ :: _, _, h => h.elim
  | _, _ :: _, [], _, h => h.elim

theorem R_cases : ∀ {cur us inner g}, R cur us inner g →
    (us = [] ∧ inner = []) ∨ ∃ u us' sc r, us = u :: us' ∧ inner = sc :: r ∧ R (restore cur u) us' r g
  | _, [], [], _, _ => .inl ⟨rfl, rfl⟩
  | _, u :: us, sc :: r, _, h => .inr ⟨u, us, sc, r, rfl, rfl, h.2⟩
  | _, [], _ :: _, _, h => h.elim
  | _, _ :: _, [], _, h => h.elim

theorem R_ext : ∀ {us inner g a b}, Ext a b → R a us inner g → R b us inner g
  | [], [], _, _, _, e, h => fun x => by rw [← e x]; exact h x
  | u :: us, sc :: r, g, a, b, e, h => ⟨fun x => by rw [← e x]; exact h.1 x, R_ext (restore_ext e u) h.2⟩
  | [], _ :: _, _, _, _, _, h => h.elim
  | _ :: _, [], _, _, _, _, h => h.elim

/-- state relation (without the `::x` map) -/
def Rel (m : VarMap) (s : Spec) : Prop := R m.cur m.undo s.inner s.glob ∧ m.next = s.next

theorem Rel_init : Rel VarMap.init Spec.init := ⟨by simp [R, VarMap.init, Spec.init], rfl⟩

/-- the previous binding of `x` is logged (none = `VarInfo{}`) whichever branch is taken -/
theorem addVariable_eq (m : VarMap) (x g) : m.addVariable x g =
    ⟨setv m.cur x (m.next + 1),
     if g = true ∧ (m.undo = [] ∨ lookup m.cur x = none) then setv m.glob x (m.next + 1) else m.glob,
     match m.undo with | [] => [] | u :: us => (u ++ [(x, lookup m.cur x)]) :: us,
     m.next + 1⟩ := by
  obtain ⟨cur, glob, undo, next⟩ := m
  unfold VarMap.addVariable
  cases undo with
  | nil => cases g <;> simp
  | cons u us => cases h : lookup cur x <;> cases g <;> simp

/-- the side condition of the event `hide x`: no variable named `x` is visible (what `noVarHidden` checks) -/
def hideOK (s : Spec) : Op → Prop
  | .hide x => vl (slookup s.inner s.glob x) = 0
  | _ => True

theorem slookup_setv_top (sc : AMap) (r : List AMap) (g : AMap) (x i y) :
    slookup (setv sc x i :: r) g y = if x = y then some i else slookup (sc :: r) g y := by
  simp only [slookup, lookup_setv]
  by_cases h : x = y <;> simp [h]

theorem step_refines (m s) (h : Rel m s) (o : Op) (ho : hideOK s o) : Rel (step m o) (sstep s o) := by
  obtain ⟨cur, mg, undo, mn⟩ := m
  obtain ⟨inner, sg, sn⟩ := s
  obtain ⟨hR, (rfl : mn = sn)⟩ := h
  have hl := R_lookup hR
  cases o with
  | enter => exact ⟨⟨hl, hR⟩, rfl⟩
  | leave =>
    rcases R_cases hR with ⟨rfl, rfl⟩ | ⟨u, us, sc, r, rfl, rfl, h2⟩
    · exact ⟨hR, rfl⟩
    · exact ⟨h2, rfl⟩
  | hide x =>
    have key : ∀ y, vl (lookup cur y) = vl (if x = y then some 0 else slookup inner sg y) := fun y => by
      split
      · next e => exact e ▸ (hl x).trans ho
      · exact hl y
    rcases R_cases hR with ⟨rfl, rfl⟩ | ⟨u, us, sc, r, rfl, rfl, h2⟩
    · exact ⟨fun y => (key y).trans (congrArg vl (lookup_setv sg x 0 y).symm), rfl⟩
    · exact ⟨⟨fun y => (key y).trans (congrArg vl (slookup_setv_top sc r sg x 0 y).symm), h2⟩, rfl⟩
  | decl x g =>
    have key : ∀ y, vl (lookup (setv cur x (mn + 1)) y) = vl (if x = y then some (mn + 1) else slookup inner sg y) :=
      fun y => by
        rw [lookup_setv]
        split
        · rfl
        · exact hl y
    refine ⟨?_, by simp only [step, stepWith, addVariable_eq, sstep]; cases inner <;> rfl⟩
    simp only [step, stepWith, addVariable_eq]
    rcases R_cases hR with ⟨rfl, rfl⟩ | ⟨u, us, sc, r, rfl, rfl, h2⟩
    · exact fun y => (key y).trans (congrArg vl (lookup_setv sg x (mn + 1) y).symm)
    · exact ⟨fun y => (key y).trans (congrArg vl (slookup_setv_top sc r sg x (mn + 1) y).symm),
        R_ext (fun y => (restore_snoc_decl cur u x (mn + 1) y).symm) h2⟩
  | _ => exact ⟨hR, rfl⟩

theorem noVarHidden_cons (s : Spec) (o : Op) (r : List Op) (h : noVarHidden s (o :: r) = true) :
    hideOK s o ∧ noVarHidden (sstep s o) r = true := by
  simp only [noVarHidden, Bool.and_eq_true] at h
  refine ⟨?_, h.2⟩
  cases o with
  | hide x => simpa [hideOK, vl] using h.1
  | _ => trivial

theorem noVarHidden_of_noHide (ops : List Op) : ∀ s, noHide ops = true → noVarHidden s ops = true := by
  induction ops with
  | nil => intro s _; rfl
  | cons o r ih =>
    intro s h
    cases o <;> simp_all [noHide, noVarHidden]

theorem exec_refines (ops : List Op) : ∀ m s, Rel m s → noVarHidden s ops = true → Rel (exec m ops) (sexec s ops) := by
  induction ops with
  | nil => intro m s h _; simpa [exec, execWith, sexec] using h
  | cons o r ih =>
    intro m s h hv
    obtain ⟨h1, h2⟩ := noVarHidden_cons s o r hv
    have := ih _ _ (step_refines m s h o h1) h2
    simpa [exec, execWith, sexec, step] using this

theorem emit_eq {m s} (h : Rel m s) (o : Op) (hg : ∀ x, o = .guse x → lookup m.glob x = lookup s.glob x) :
    emit m o = semit s o := by
  cases o with
  | use x => exact congrArg (fun i => [i]) (R_lookup h.1 x)
  | decl x g => exact congrArg (fun i => [i + 1]) h.2
  | guse x => exact congrArg (fun o => [o.getD 0]) (hg x rfl)
  | _ => rfl

theorem run_eq_srun_of (J : VarMap → Spec → List Op → Prop)
    (hstep : ∀ m s o r, Rel m s → hideOK s o → J m s (o :: r) → J (step m o) (sstep s o) r)
    (hguse : ∀ m s x r, Rel m s → J m s (.guse x :: r) → lookup m.glob x = lookup s.glob x) :
    ∀ ops m s, Rel m s → J m s ops → noVarHidden s ops = true → run m ops = srun s ops
  | [], _, _, _, _, _ => rfl
  | o :: r, m, s, hrel, hj, hnv => by
    obtain ⟨hho, hnv'⟩ := noVarHidden_cons s o r hnv
    show emit m o ++ run (step m o) r = semit s o ++ srun (sstep s o) r
    rw [emit_eq hrel o fun x e => hguse m s x r hrel (e ▸ hj),
      run_eq_srun_of J hstep hguse r _ _ (step_refines m s hrel o hho) (hstep m s o r hrel hho hj) hnv']

theorem noGuse_run (ops : List Op) :
    ∀ (m : VarMap) (s : Spec), Rel m s → noGuse ops = true → noVarHidden s ops = true → run m ops = srun s ops :=
  run_eq_srun_of (fun _ _ ops => noGuse ops = true)
    (fun _ _ o _ _ _ hj => by
      cases o with
      | guse x => cases hj
      | _ => exact hj)
    (fun _ _ _ _ _ hj => by cases hj) ops

/-- `y` names a variable at every level of the stack of scopes (at every level, since `leave` uncovers the one beneath) -/
def Vis : List AMap → AMap → VName → Prop
  | [], g, y => vl (lookup g y) ≠ 0
  | sc :: r, g, y => vl (slookup (sc :: r) g y) ≠ 0 ∧ Vis r g y

theorem Vis_top : ∀ {inner g y}, Vis inner g y → vl (slookup inner g y) ≠ 0
  | [], _, _, h => h
  | _ :: _, _, _, h => h.1

theorem Vis_step (s : Spec) (o : Op) (y : VName) (hv : Vis s.inner s.glob y) (ho : hideOK s o) :
    Vis (sstep s o).inner (sstep s o).glob y := by
  obtain ⟨inner, g, n⟩ := s
  cases o with
  | enter => exact ⟨(Vis_top hv :), hv⟩
  | leave =>
    cases inner with
    | nil => exact hv
    | cons sc r => exact hv.2
  | decl x g' =>
    cases inner with
    | nil =>
      show vl (lookup (setv g x (n + 1)) y) ≠ 0
      rw [lookup_setv]
      split
      · exact Nat.succ_ne_zero n
      · exact hv
    | cons sc r =>
      refine ⟨?_, hv.2⟩
      rw [slookup_setv_top]
      split
      · exact Nat.succ_ne_zero n
      · exact hv.1
  | hide x =>
    -- `hide x` needs `x` to name no variable here, so it is not `y`
    have ne : x ≠ y := fun e => Vis_top hv (e ▸ ho)
    cases inner with
    | nil =>
      show vl (lookup (setv g x 0) y) ≠ 0
      rw [lookup_setv, if_neg ne]
      exact hv
    | cons sc r =>
      refine ⟨?_, hv.2⟩
      rw [slookup_setv_top, if_neg ne]
      exact hv.1
  | _ => exact hv

/-- what the events still to come need for their `::x` uses: on the file-scope names `fs` they may mention, the `::x` map agrees
with file scope, and each of them names a variable at every level -/
def GInv (m : VarMap) (s : Spec) (ops : List Op) : Prop :=
  ∃ fs, (∀ y ∈ fs, lookup m.glob y = lookup s.glob y ∧ Vis s.inner s.glob y) ∧ globalOK s.inner.length fs ops = true

theorem GInv_step (m s o r) (hrel : Rel m s) (ho : hideOK s o) (hj : GInv m s (o :: r)) :
    GInv (step m o) (sstep s o) r := by
  obtain ⟨fs, hfs, hok⟩ := hj
  have hfs' : ∀ y ∈ fs, lookup m.glob y = lookup s.glob y ∧ Vis (sstep s o).inner (sstep s o).glob y :=
    fun y hy => ⟨(hfs y hy).1, Vis_step s o y (hfs y hy).2 ho⟩
  obtain ⟨cur, mg, undo, mn⟩ := m
  obtain ⟨inner, sg, sn⟩ := s
  obtain ⟨hR, (rfl : mn = sn)⟩ := hrel
  cases o with
  | guse x => exact ⟨fs, hfs', ((Bool.and_eq_true _ _).mp hok).2⟩
  | leave =>
    rcases R_cases hR with ⟨rfl, rfl⟩ | ⟨u, us, sc, rr, rfl, rfl, _⟩
    · exact ⟨fs, hfs', hok⟩
    · exact ⟨fs, hfs', hok⟩
  | hide x =>
    cases inner with
    | cons sc rr => exact ⟨fs, hfs', hok⟩
    | nil =>
      -- file scope binds `x` to an enumerator: `x` named no variable before (`ho`), so it is not in `fs`
      refine ⟨fs, fun y hy => ⟨?_, (hfs' y hy).2⟩, hok⟩
      show lookup mg y = lookup (setv sg x 0) y
      rw [lookup_setv, if_neg fun e : x = y => (hfs y hy).2 (e ▸ ho)]
      exact (hfs y hy).1
  | decl x g =>
    rcases R_cases hR with ⟨rfl, rfl⟩ | ⟨u, us, sc, rr, rfl, rfl, _⟩
    · -- at file scope: `globalOK` demands g = true, both maps bind `x` to the new id
      obtain ⟨rfl, hok'⟩ := (Bool.and_eq_true _ _).mp hok
      refine ⟨x :: fs, fun y hy => ?_, hok'⟩
      show lookup (setv mg x (mn + 1)) y = lookup (setv sg x (mn + 1)) y ∧ vl (lookup (setv sg x (mn + 1)) y) ≠ 0
      rw [lookup_setv, lookup_setv]
      split
      · exact ⟨rfl, Nat.succ_ne_zero mn⟩
      · next e => exact hfs y ((List.mem_cons.mp hy).resolve_left (Ne.symm e))
    · refine ⟨fs, fun y hy => ⟨?_, (hfs' y hy).2⟩, hok⟩
      show lookup (VarMap.addVariable _ x g).glob y = lookup sg y
      rw [addVariable_eq]
      split
      · -- `x` is unbound in the table, so (`R`) it names no variable here and is not in `fs`
        next hc =>
        have hnone : lookup cur x = none := hc.2.resolve_left (List.cons_ne_nil u us)
        have h1 := R_lookup hR x
        rw [hnone] at h1
        rw [lookup_setv, if_neg fun e : x = y => Vis_top (hfs y hy).2 (e ▸ h1.symm)]
        exact (hfs y hy).1
      · exact (hfs y hy).1
  | _ => exact ⟨fs, hfs', hok⟩

theorem globalOK_run (ops : List Op) :
    ∀ (m : VarMap) (s : Spec), Rel m s → GInv m s ops → noVarHidden s ops = true → run m ops = srun s ops :=
  run_eq_srun_of GInv GInv_step
    (fun _ _ x _ _ ⟨_, hfs, hok⟩ => (hfs x (List.contains_iff_mem.mp ((Bool.and_eq_true _ _).mp hok).1)).1) ops

/-! ### distinct ids -/

theorem step_next (m : VarMap) (o : Op) :
    (step m o).next = m.next + (match o with | .decl _ _ => 1 | _ => 0) := by
  cases o with
  | leave => simp only [step, stepWith]; cases m.undo <;> rfl
  | decl x g => simp [step, stepWith, addVariable_eq]
  | _ => rfl

theorem declIds_eq (ops : List Op) : ∀ m : VarMap, declIds m ops = List.range' (m.next + 1) (countDecls ops) := by
  induction ops with
  | nil => intro m; simp [declIds, countDecls]
  | cons o r ih =>
    intro m
    simp only [declIds, ih, step_next]
    cases o with
    | decl x g => simp [countDecls, List.range'_succ]
    | _ => simp [countDecls]

/-! ## Part B: events of a scope program vs lexical scoping on the syntax tree -/

theorem srun_append (a b : List Op) : ∀ s, srun s (a ++ b) = srun s a ++ srun (sexec s a) b := by
  induction a with
  | nil => intro s; simp [srun, sexec]
  | cons o r ih => intro s; simp [srun, sexec, ih, List.append_assoc]

theorem sexec_append (a b : List Op) (s) : sexec s (a ++ b) = sexec (sexec s a) b := by
  simp [sexec, List.foldl_append]

theorem sexec_cons (o : Op) (r : List Op) (s) : sexec s (o :: r) = sexec (sstep s o) r := rfl
theorem srun_cons (o : Op) (r : List Op) (s) : srun s (o :: r) = semit s o ++ srun (sstep s o) r := rfl
@[simp] theorem sexec_nil (s) : sexec s [] = s := rfl
@[simp] theorem srun_nil (s) : srun s [] = [] := rfl

/-- the visible block-scope declarations of a stack of scopes, innermost first -/
def flat (inner : List AMap) : AMap := inner.flatten

theorem slookup_flat : ∀ (inner : List AMap) (g : AMap) (x), slookup inner g x = lookup (flat inner ++ g) x
  | [], g, x => by simp [slookup, flat]
  | sc :: r, g, x => by
    simp only [slookup, flat, List.flatten_cons, List.append_assoc]
    rw [lookup_append]
    cases lookup sc x with
    | some i => rfl
    | none => simpa [flat] using slookup_flat r g x

theorem sexec_useOps (us : List U) (s : Spec) : sexec s (useOps us) = s := by
  induction us with
  | nil => rfl
  | cons u r ih => cases u <;> simpa [useOps, useOp, sexec_cons, sstep] using ih

theorem srun_useOps (us : List U) (s : Spec) : srun s (useOps us) = useIds (flat s.inner) s.glob us := by
  induction us with
  | nil => rfl
  | cons u r ih =>
    cases u with
    | loc x =>
      simp only [useOps, List.map_cons, useOp, srun_cons, semit, sstep, useIds, useId, slookup_flat]
      simpa [useOps, useIds] using ih
    | glob x =>
      simp only [useOps, List.map_cons, useOp, srun_cons, semit, sstep, useIds, useId]
      simpa [useOps, useIds] using ih

/-- `enum { x = e };` : for the stack of scopes only the final `hide x` has an effect -/
theorem sexec_enumOps (x : VName) (init : List U) (st : List AMap) (gl : AMap) (n : VId) :
    sexec ⟨st, gl, n⟩ (enumOps x init) = sstep ⟨st, gl, n⟩ (.hide x) := by
  simp [enumOps, sexec_cons, sexec_append, sexec_useOps, sstep]

theorem srun_enumOps (x : VName) (init : List U) (st : List AMap) (gl : AMap) (n : VId) :
    srun ⟨st, gl, n⟩ (enumOps x init) = 0 :: useIds (flat st) gl init := by
  simp [enumOps, srun_cons, srun_append, sexec_useOps, srun_useOps, sstep, semit, flat]

/-- what a statement list does to the machine: it adds `decls` on top of the current scope -/
def Sim (ops : List Op) (res : SRes) (sc : AMap) (r : List AMap) (gl : AMap) (n : VId) : Prop :=
  sexec ⟨sc :: r, gl, n⟩ ops = ⟨(res.decls ++ sc) :: r, gl, res.next⟩ ∧ srun ⟨sc :: r, gl, n⟩ ops = res.out

theorem flat_cons_append (d sc : AMap) (r : List AMap) : flat ((d ++ sc) :: r) = d ++ flat (sc :: r) := by
  simp [flat]

theorem Sim.nil (sc r gl n) : Sim [] ⟨[], [], n⟩ sc r gl n := ⟨by simp, by simp⟩

theorem Sim.seq {a b : List Op} {ra rb : SRes} {sc r gl n}
    (h1 : Sim a ra sc r gl n) (h2 : Sim b rb (ra.decls ++ sc) r gl ra.next) :
    Sim (a ++ b) ⟨ra.out ++ rb.out, rb.decls ++ ra.decls, rb.next⟩ sc r gl n := by
  constructor
  · rw [sexec_append, h1.1, h2.1]; simp [List.append_assoc]
  · rw [srun_append, h1.2, h1.1, h2.2]

theorem Sim.uses (us : List U) (sc r gl n) : Sim (useOps us) ⟨useIds (flat (sc :: r)) gl us, [], n⟩ sc r gl n :=
  ⟨by simp [sexec_useOps], by simp [srun_useOps]⟩

theorem Sim.decl (x g init) (sc r gl n) : Sim (declOps x g init) (specDecl (flat (sc :: r)) gl n x init) sc r gl n :=
  ⟨by simp [declOps, sexec_cons, sstep, sexec_useOps, setv, specDecl],
   by simp [declOps, srun_cons, semit, sstep, srun_useOps, specDecl, setv, flat]⟩

theorem Sim.enum (x init) (sc r gl n) :
    Sim (enumOps x init) ⟨0 :: useIds (flat (sc :: r)) gl init, [(x, 0)], n⟩ sc r gl n :=
  ⟨by simp [sexec_enumOps, sstep, setv], srun_enumOps x init _ gl n⟩

theorem scope_run {a : List Op} {ra : SRes} {inner gl n} (h : Sim a ra [] inner gl n) :
    sexec ⟨inner, gl, n⟩ (.enter :: a ++ [.leave]) = ⟨inner, gl, ra.next⟩ ∧
    srun ⟨inner, gl, n⟩ (.enter :: a ++ [.leave]) = ra.out := by
  constructor
  · rw [List.cons_append, sexec_cons, sexec_append]
    exact congrArg (sexec · [.leave]) h.1
  · rw [List.cons_append, srun_cons, srun_append]
    show srun ⟨[] :: inner, gl, n⟩ a ++ [] = ra.out
    rw [List.append_nil, h.2]

theorem Sim.scope {a : List Op} {ra : SRes} {sc r gl n}
    (h : Sim a ra [] (sc :: r) gl n) : Sim (.enter :: a ++ [.leave]) ⟨ra.out, [], ra.next⟩ sc r gl n :=
  ⟨(scope_run h).1, (scope_run h).2⟩

theorem Sim.congr {a a' : List Op} {ra ra' : SRes} {sc r gl n} (h : Sim a ra sc r gl n) (ha : a = a') (hr : ra = ra') :
    Sim a' ra' sc r gl n := by subst ha; subst hr; exact h

theorem sim_cond (c : Cond) (sc r gl n env) (he : env = flat (sc :: r)) : Sim (condOps c) (specCond env gl n c) sc r gl n :=
  match c with
  | .expr us => he ▸ Sim.uses us sc r gl n
  | .decl x init => he ▸ Sim.decl x false init sc r gl n

theorem sim_forInit (i : ForInit) (sc r gl n env) (he : env = flat (sc :: r)) :
    Sim (forInitOps i) (specForInit env gl n i) sc r gl n :=
  match i with
  | .none => Sim.nil sc r gl n
  | .expr us => he ▸ Sim.uses us sc r gl n
  | .decl x init => he ▸ Sim.decl x false init sc r gl n

-- `env` stands for `flat (sc :: r)`: the recursive calls are made at the specification's own `decls ++ env`;
-- `.congr` only re-brackets the appended events and the result record to what `implStmt` / `specStmt` unfold to
mutual
theorem sim_stmt : ∀ (s : Stmt) (sc : AMap) (r : List AMap) (gl : AMap) (n : VId) (env : AMap), env = flat (sc :: r) →
    Sim (implStmt s) (specStmt env gl n s) sc r gl n
  | .decl x init, sc, r, gl, n, env, he => he ▸ Sim.decl x false init sc r gl n
  | .expr us, sc, r, gl, n, env, he => he ▸ Sim.uses us sc r gl n
  | .block b, sc, r, gl, n, env, he =>
    (Sim.scope (sim_stmts b [] _ gl n env he)).congr (by simp [implStmt]) (by simp [specStmt])
  | .ifs c t, sc, r, gl, n, env, he =>
    (Sim.scope (Sim.seq (sim_cond c [] _ gl n env he)
      (Sim.scope (sim_stmts t [] _ gl _ ((specCond env gl n c).decls ++ env) (by simp [he, flat]))))).congr
      (by simp [implStmt]) (by simp [specStmt])
  | .ifelse c t e, sc, r, gl, n, env, he =>
    (Sim.scope (Sim.seq (Sim.seq (sim_cond c [] _ gl n env he)
      (Sim.scope (sim_stmts t [] _ gl _ ((specCond env gl n c).decls ++ env) (by simp [he, flat]))))
      (Sim.scope (sim_stmts e [] _ gl _ ((specCond env gl n c).decls ++ env) (by simp [he, flat]))))).congr
      (by simp [implStmt]) (by simp [specStmt])
  | .whiles c b, sc, r, gl, n, env, he =>
    (Sim.scope (Sim.seq (sim_cond c [] _ gl n env he)
      (sim_stmts b _ _ gl _ ((specCond env gl n c).decls ++ env) (by simp [he, flat])))).congr
      (by simp [implStmt]) (by simp [specStmt])
  | .dowhile b c, sc, r, gl, n, env, he =>
    (Sim.seq (Sim.scope (sim_stmts b [] _ gl n env he)) (Sim.uses c _ r gl _)).congr
      (by simp [implStmt]) (by simp [specStmt, he])
  | .fors i c s b, sc, r, gl, n, env, he =>
    (Sim.scope (Sim.seq (Sim.seq (Sim.seq (sim_forInit i [] _ gl n env he) (Sim.uses c _ _ gl _)) (Sim.uses s _ _ gl _))
      (sim_stmts b _ _ gl _ ((specForInit env gl n i).decls ++ env) (by simp [he, flat])))).congr
      (by simp [implStmt, List.append_assoc]) (by simp [specStmt, List.append_assoc, he, flat])
  | .enumd x init, sc, r, gl, n, env, he => he ▸ Sim.enum x init sc r gl n
theorem sim_stmts : ∀ (b : Stmts) (sc : AMap) (r : List AMap) (gl : AMap) (n : VId) (env : AMap), env = flat (sc :: r) →
    Sim (implStmts b) (specStmts env gl n b) sc r gl n
  | .nil, sc, r, gl, n, env, _ => Sim.nil sc r gl n
  | .cons s rest, sc, r, gl, n, env, he =>
    (Sim.seq (sim_stmt s sc r gl n env he)
      (sim_stmts rest _ r gl _ ((specStmt env gl n s).decls ++ env) (by simp [he, flat]))).congr
      (by simp [implStmts]) (by simp [specStmts])
end

theorem sim_params : ∀ (ps : List VName) (sc : AMap) (r : List AMap) (gl : AMap) (n : VId),
    Sim (paramOps ps) (specParams n ps) sc r gl n
  | [], sc, r, gl, n => Sim.nil sc r gl n
  | p :: rest, sc, r, gl, n => (Sim.seq (Sim.decl p true [] sc r gl n) (sim_params rest _ r gl _)).congr rfl rfl

theorem sim_top (t : Top) (gl : AMap) (n : VId) :
    sexec ⟨[], gl, n⟩ (implTop t) = ⟨[], (specTop gl n t).decls ++ gl, (specTop gl n t).next⟩ ∧
    srun ⟨[], gl, n⟩ (implTop t) = (specTop gl n t).out := by
  cases t with
  | gdecl x init =>
    constructor
    · simp [implTop, declOps, sexec_cons, sstep, sexec_useOps, specTop, setv]
    · simp [implTop, declOps, srun_cons, sstep, semit, srun_useOps, specTop, setv, flat]
  | func ps body =>
    have hp := sim_params ps [] [] gl n
    have hb := sim_stmts body ((specParams n ps).decls ++ []) [] gl (specParams n ps).next (specParams n ps).decls
      (by simp [flat])
    have h := scope_run (Sim.seq hp hb)
    constructor
    · simpa [implTop, specTop, List.append_assoc] using h.1
    · simpa [implTop, specTop, List.append_assoc] using h.2
  | proto ps =>
    have hp := sim_params ps [] [] gl n
    have h := scope_run hp
    constructor
    · simpa [implTop, specTop] using h.1
    · simpa [implTop, specTop] using h.2
  | genum x init =>
    exact ⟨by simp [implTop, specTop, sexec_enumOps, sstep, setv], by simp [implTop, specTop, srun_enumOps, flat]⟩

theorem srun_implProg (p : Prog) : ∀ (gl : AMap) (n : VId), srun ⟨[], gl, n⟩ (implProg p) = specTops gl n p := by
  induction p with
  | nil => intro gl n; rfl
  | cons t r ih =>
    intro gl n
    have h := sim_top t gl n
    simp only [implProg, srun_append, h.1, h.2, specTops, ih]

/-! ### `progOK p` implies `globalOK` of its events -/

theorem globalOK_useOps (us : List U) (d fs rest) :
    globalOK d fs (useOps us ++ rest) = (usOK fs us && globalOK d fs rest) := by
  induction us with
  | nil => simp [useOps, usOK]
  | cons u r ih =>
    cases u with
    | loc x => simpa [useOps, useOp, globalOK, usOK, uOK] using ih
    | glob x =>
      simp only [useOps, List.map_cons, useOp, List.cons_append, globalOK, usOK, List.all_cons, uOK]
      have : globalOK d fs (List.map useOp r ++ rest) = (r.all (uOK fs) && globalOK d fs rest) := by
        simpa [useOps, usOK] using ih
      rw [this, Bool.and_assoc]

theorem globalOK_declOps (x g init) (d fs rest) (hd : d ≠ 0) :
    globalOK d fs (declOps x g init ++ rest) = (usOK fs init && globalOK d fs rest) := by
  simp [declOps, globalOK, hd, globalOK_useOps]

theorem globalOK_condOps (c : Cond) (d fs rest) (hd : d ≠ 0) :
    globalOK d fs (condOps c ++ rest) = (condOK fs c && globalOK d fs rest) := by
  cases c with
  | expr us => simp [condOps, condOK, globalOK_useOps]
  | decl x init => simp [condOps, condOK, globalOK_declOps, hd]

theorem globalOK_forInitOps (i : ForInit) (d fs rest) (hd : d ≠ 0) :
    globalOK d fs (forInitOps i ++ rest) = (forInitOK fs i && globalOK d fs rest) := by
  cases i with
  | none => simp [forInitOps, forInitOK]
  | expr us => simp [forInitOps, forInitOK, globalOK_useOps]
  | decl x init => simp [forInitOps, forInitOK, globalOK_declOps, hd]

theorem globalOK_leave (d fs rest) : globalOK (d + 1) fs (.leave :: rest) = globalOK d fs rest := by
  simp [globalOK]

theorem globalOK_enter (d fs rest) : globalOK d fs (.enter :: rest) = globalOK (d + 1) fs rest := rfl

theorem globalOK_enumOps (x : VName) (init : List U) (d fs rest) :
    globalOK d fs (enumOps x init ++ rest) = (usOK fs init && globalOK d fs rest) := by
  simp only [enumOps, List.cons_append, List.append_assoc, List.nil_append]
  rw [globalOK_enter]
  simp only [globalOK]
  rw [globalOK_useOps, globalOK_leave]
  simp [globalOK]

mutual
theorem globalOK_stmt : ∀ (s : Stmt) (d : Nat) (fs : List VName) (rest : List Op), d ≠ 0 →
    globalOK d fs (implStmt s ++ rest) = (stmtOK fs s && globalOK d fs rest)
  | .decl x init, d, fs, rest, hd => by simp [implStmt, stmtOK, globalOK_declOps, hd]
  | .expr us, d, fs, rest, hd => by simp [implStmt, stmtOK, globalOK_useOps]
  | .block b, d, fs, rest, hd => by
    simp only [implStmt, stmtOK, List.cons_append, List.append_assoc, List.nil_append]
    rw [globalOK_enter, globalOK_stmts b (d + 1) fs _ (by omega), globalOK_leave]
  | .ifs c t, d, fs, rest, hd => by
    simp only [implStmt, stmtOK, List.cons_append, List.append_assoc, List.nil_append]
    rw [globalOK_enter, globalOK_condOps c (d + 1) fs _ (by omega), globalOK_enter,
      globalOK_stmts t (d + 1 + 1) fs _ (by omega), globalOK_leave, globalOK_leave, Bool.and_assoc]
  | .ifelse c t e, d, fs, rest, hd => by
    simp only [implStmt, stmtOK, List.cons_append, List.append_assoc, List.nil_append]
    rw [globalOK_enter, globalOK_condOps c (d + 1) fs _ (by omega), globalOK_enter,
      globalOK_stmts t (d + 1 + 1) fs _ (by omega), globalOK_leave, globalOK_enter,
      globalOK_stmts e (d + 1 + 1) fs _ (by omega), globalOK_leave, globalOK_leave]
    simp only [Bool.and_assoc]
  | .whiles c b, d, fs, rest, hd => by
    simp only [implStmt, stmtOK, List.cons_append, List.append_assoc, List.nil_append]
    rw [globalOK_enter, globalOK_condOps c (d + 1) fs _ (by omega),
      globalOK_stmts b (d + 1) fs _ (by omega), globalOK_leave, Bool.and_assoc]
  | .dowhile b c, d, fs, rest, hd => by
    simp only [implStmt, stmtOK, List.cons_append, List.append_assoc]
    rw [globalOK_enter, globalOK_stmts b (d + 1) fs _ (by omega), globalOK_leave, globalOK_useOps, Bool.and_assoc]
  | .fors i c s b, d, fs, rest, hd => by
    simp only [implStmt, stmtOK, List.cons_append, List.append_assoc, List.nil_append]
    rw [globalOK_enter, globalOK_forInitOps i (d + 1) fs _ (by omega), globalOK_useOps, globalOK_useOps,
      globalOK_stmts b (d + 1) fs _ (by omega), globalOK_leave]
    simp only [Bool.and_assoc]
  | .enumd x init, d, fs, rest, hd => by simp [implStmt, stmtOK, globalOK_enumOps]
theorem globalOK_stmts : ∀ (b : Stmts) (d : Nat) (fs : List VName) (rest : List Op), d ≠ 0 →
    globalOK d fs (implStmts b ++ rest) = (stmtsOK fs b && globalOK d fs rest)
  | .nil, d, fs, rest, _ => by simp [implStmts, stmtsOK]
  | .cons s r, d, fs, rest, hd => by
    simp only [implStmts, stmtsOK, List.append_assoc]
    rw [globalOK_stmt s d fs _ hd, globalOK_stmts r d fs rest hd, Bool.and_assoc]
end

theorem globalOK_paramOps (ps : List VName) (d fs rest) (hd : d ≠ 0) :
    globalOK d fs (paramOps ps ++ rest) = globalOK d fs rest := by
  induction ps with
  | nil => rfl
  | cons p r ih => simpa [paramOps, globalOK, hd] using ih

theorem globalOK_implProg (p : Prog) : ∀ fs, progOK fs p = true → globalOK 0 fs (implProg p) = true := by
  induction p with
  | nil => intro fs _; rfl
  | cons t r ih =>
    intro fs h
    cases t with
    | gdecl x init =>
      simp only [progOK, Bool.and_eq_true] at h
      simp [implProg, implTop, declOps, globalOK, globalOK_useOps, h.1, ih _ h.2]
    | func ps body =>
      simp only [progOK, Bool.and_eq_true] at h
      simp only [implProg, implTop, List.cons_append, List.append_assoc, globalOK]
      rw [globalOK_paramOps ps 1 fs _ (by omega), globalOK_stmts body 1 fs _ (by omega)]
      simp [globalOK, h.1, ih _ h.2]
    | proto ps =>
      simp only [progOK] at h
      simp only [implProg, implTop, List.cons_append, List.append_assoc, globalOK]
      rw [globalOK_paramOps ps 1 fs _ (by omega)]
      simp [globalOK, ih _ h]
    | genum x init =>
      simp only [progOK, Bool.and_eq_true] at h
      simp only [implProg, implTop]
      rw [globalOK_enumOps]
      simp [h.1, ih _ h.2]

end Cppcheck.VarMap
