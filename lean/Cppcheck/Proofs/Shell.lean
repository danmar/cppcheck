import Cppcheck.Model.Shell
/-
Helper lemmas for C32 `split_quote_partial`: how the `collectArgs` automaton runs over one quoted piece, over an argument
written as a sequence of pieces, and over the rest of a command string.  Whole-argument quoting (`quote`) is the case of
one piece per argument (`quote_eq_quoteCmd`).
-/
namespace Cppcheck.Shell
open Cppcheck.Wire

theorem bareChar_ne {c : Char} (h : bareChar c = true) : c ≠ ' ' ∧ c ≠ '"' ∧ c ≠ '\'' ∧ c ≠ '\\' := by
  simp [bareChar] at h
  exact ⟨h.1.1.1, h.1.1.2, h.1.2, h.2⟩

/-- an argument written bare is copied into the accumulator -/
theorem go_bare (a : Str) (h : bareOk a = true) (rest acc : Str) (args : List Str) :
    go (a ++ rest) false false false acc args = go rest false false false (acc ++ a) args := by
  induction a generalizing acc with
  | nil => simp
  | cons c a ih =>
    simp only [bareOk, List.all_cons, Bool.and_eq_true] at h
    obtain ⟨h1, h2, h3, h4⟩ := bareChar_ne h.1
    have := ih (by simpa [bareOk] using h.2) (acc ++ [c])
    simp [go, h1, h2, h3, h4, this]

/-- inside double quotes the escaped text is copied unescaped -/
theorem go_escDq (a : Str) (rest acc : Str) (args : List Str) :
    go (escDq a ++ rest) true false false acc args = go rest true false false (acc ++ a) args := by
  induction a generalizing acc with
  | nil => simp [escDq]
  | cons c a ih =>
    by_cases hb : c = '\\'
    · subst hb
      simp [escDq, go, isEscapable, ih]
    · by_cases hq : c = '"'
      · subst hq
        simp [escDq, go, isEscapable, ih]
      · by_cases hs : c = ' '
        · subst hs
          simp [escDq, go, ih]
        · simp [escDq, go, hb, hq, hs, ih]

/-- inside single quotes the text is copied, `'\''` yields one quote character -/
theorem go_escSq (a : Str) (rest acc : Str) (args : List Str) :
    go (escSq a ++ rest) false true false acc args = go rest false true false (acc ++ a) args := by
  induction a generalizing acc with
  | nil => simp [escSq]
  | cons c a ih =>
    by_cases hq : c = '\''
    · subst hq
      simp [escSq, go, isEscapable, ih]
    · by_cases hs : c = ' '
      · subst hs
        simp [escSq, go, ih]
      · simp [escSq, go, hq, hs, ih]

/-- shlex style: `'"'"'` yields one quote character -/
theorem go_escShlex (a : Str) (rest acc : Str) (args : List Str) :
    go (escShlex a ++ rest) false true false acc args = go rest false true false (acc ++ a) args := by
  induction a generalizing acc with
  | nil => simp [escShlex]
  | cons c a ih =>
    by_cases hq : c = '\''
    · subst hq
      simp [escShlex, go, ih]
    · by_cases hs : c = ' '
      · subst hs
        simp [escShlex, go, ih]
      · simp [escShlex, go, hq, hs, ih]

/-- backslash-escaped characters outside quotes lose their backslash -/
theorem go_escBs (a : Str) (h : a.all isEscapable = true) (rest acc : Str) (args : List Str) :
    go (escBs a ++ rest) false false false acc args = go rest false false false (acc ++ a) args := by
  induction a generalizing acc with
  | nil => simp [escBs]
  | cons c a ih =>
    simp only [List.all_cons, Bool.and_eq_true] at h
    have := ih h.2 (acc ++ [c])
    simp [escBs, go, h.1, this]

theorem go_quoteArg (sty : Style) (a : Str) (h : segOk (sty, a) = true) (rest acc : Str) (args : List Str) :
    go (quoteArg sty a ++ rest) false false false acc args = go rest false false false (acc ++ a) args := by
  cases sty with
  | esc => exact go_escBs a (by simpa [segOk] using h) rest acc args
  | bare => exact go_bare a (by simpa [segOk] using h) rest acc args
  | dq =>
    have := go_escDq a ('"' :: rest) acc args
    simp [quoteArg, go, this]
  | sq =>
    have := go_escSq a ('\'' :: rest) acc args
    simp [quoteArg, go, this]
  | shlex =>
    have := go_escShlex a ('\'' :: rest) acc args
    simp [quoteArg, go, this]

theorem go_blanks (n : Nat) (rest : Str) (args : List Str) :
    go (blanks n ++ rest) false false false [] args = go rest false false false [] args := by
  induction n with
  | zero => simp [blanks]
  | succ n ih =>
    simp only [blanks, List.replicate_succ, List.cons_append] at ih ⊢
    simp [go, flush, ih]

theorem go_quoteSegs (segs : List (Style × Str)) (h : ∀ x ∈ segs, segOk x = true) (rest acc : Str) (args : List Str) :
    go (quoteSegs segs ++ rest) false false false acc args = go rest false false false (acc ++ segText segs) args := by
  induction segs generalizing acc with
  | nil => simp [quoteSegs, segText]
  | cons x r ih =>
    obtain ⟨sty, a⟩ := x
    have hr : ∀ x ∈ r, segOk x = true := fun x hx' => h x (by simp [hx'])
    simp only [quoteSegs, segText, List.append_assoc]
    rw [go_quoteArg sty a (h _ (by simp)), ih hr]
    simp

theorem go_cmdTail (l : List (Nat × List (Style × Str))) (h : ∀ x ∈ l, segsOk x = true)
    (acc : Str) (hacc : acc ≠ []) (args : List Str) :
    go (quoteCmd.cmdTail l) false false false acc args = .ok (args ++ acc :: l.map (fun x => segText x.2)) := by
  induction l generalizing acc args with
  | nil => simp [quoteCmd.cmdTail, go, flush, hacc]
  | cons x r ih =>
    obtain ⟨pad, segs⟩ := x
    have hx := h (pad, segs) (by simp)
    simp only [segsOk, Bool.and_eq_true, Bool.not_eq_true', List.isEmpty_eq_false_iff, List.all_eq_true] at hx
    have hr : ∀ x ∈ r, segsOk x = true := fun x hx' => h x (by simp [hx'])
    simp only [quoteCmd.cmdTail]
    rw [go]
    simp only [if_true, Bool.or_self, Bool.false_eq_true, if_false]
    rw [go_blanks, go_quoteSegs segs hx.2, ih hr ([] ++ segText segs) (by simpa using hx.1)]
    simp [flush, hacc]


def onePiece (x : Style × Nat × Str) : Nat × List (Style × Str) := (x.2.1, [(x.1, x.2.2)])

theorem quote_eq_quoteCmd (l : List (Style × Nat × Str)) : quote l = quoteCmd (l.map onePiece) := by
  have tail (r : List (Style × Nat × Str)) : quote.quoteTail r = quoteCmd.cmdTail (r.map onePiece) := by
    induction r with
    | nil => rfl
    | cons x r ih => simp [quote.quoteTail, quoteCmd.cmdTail, onePiece, quoteSegs, ih]
  cases l with
  | nil => rfl
  | cons x r => simp [quote, quoteCmd, onePiece, quoteSegs, tail]

theorem segsOk_onePiece (x : Style × Nat × Str) : segsOk (onePiece x) = argOk x := by
  simp [segsOk, argOk, onePiece, segOk, segText, Bool.and_assoc]

end Cppcheck.Shell
