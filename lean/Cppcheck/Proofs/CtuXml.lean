import Cppcheck.Proofs.CtuText
/-
C22 — the XML layer: what the modelled tinyxml2 lexer makes of text that has the shape the writers produce (white space,
`<name attr="value"…/>`, `<name …>`, `</name>`); every lexer step consumes input, so `lexAll` with the fuel `parseDoc` gives it
(`lexAll'`) obeys the equation of the node loop without fuel; on top of these the relation `Renders` ("this text is that forest
of elements") with the combinators every writer's proof is built from, and `parseDoc` on a whole file.
-/
namespace Cppcheck.Ctu
open Cppcheck.Wire

def IsName : Str → Bool
  | [] => false
  | c :: r => isNameStart c && r.all isNameChar

theorem isName_cons {n : Str} (h : IsName n = true) :
    ∃ c t, n = c :: t ∧ isNameStart c = true ∧ ∀ a ∈ t, isNameChar a = true := by
  cases n with
  | nil => cases h
  | cons c t => exact ⟨c, t, rfl, by simpa [IsName] using h⟩

theorem isSpace_cases (c : Char) (h : isSpace c = true) :
    c = ' ' ∨ c = '\t' ∨ c = '\n' ∨ c = Char.ofNat 11 ∨ c = Char.ofNat 12 ∨ c = '\r' := by
  simp only [isSpace, Bool.or_eq_true, decide_eq_true_eq] at h
  rcases h with ((((e | e) | e) | e) | e) | e <;> simp [e]

theorem not_space_of_nameStart (c : Char) (h : isNameStart c = true) : isSpace c = false := by
  cases hs : isSpace c with
  | false => rfl
  | true =>
    exfalso
    rcases isSpace_cases c hs with e | e | e | e | e | e <;> (subst e; revert h; decide)

theorem skipWs_append (ws rest : Str) (h : ws.all isSpace = true) : skipWs (ws ++ rest) = skipWs rest :=
  List.dropWhile_append_of_pos (List.all_eq_true.1 h)

theorem skipWs_cons_of_not_space (c : Char) (r : Str) (h : isSpace c = false) : skipWs (c :: r) = c :: r := by
  simp [skipWs, h]

theorem skipWs_space_cons (r : Str) : skipWs (' ' :: r) = skipWs r := by
  simp [skipWs, isSpace]

theorem parseName_append (n rest : Str) (hn : IsName n = true) (hr : Text.Stops isNameChar rest) :
    parseName (n ++ rest) = some (n, rest) := by
  obtain ⟨c, t, rfl, hc, ht⟩ := isName_cons hn
  simp [parseName, hc, Text.takeWhile_append_stop ht hr, Text.dropWhile_append_stop ht hr]

theorem splitAt1_append_left (q : Char) (s : Str) : ∀ v : Str, q ∉ v →
    splitAt1 q (v ++ s) = (splitAt1 q s).map fun p => (v ++ p.1, p.2)
  | [], _ => by simp
  | a :: t, hv => by
    rw [List.cons_append, splitAt1, if_neg (fun e : a = q => hv (e ▸ List.mem_cons_self)),
      splitAt1_append_left q s t (fun h => hv (List.mem_cons_of_mem _ h)), Option.map_map]
    rfl

theorem splitAt1_append (q : Char) (v rest : Str) (hv : q ∉ v) : splitAt1 q (v ++ q :: rest) = some (v, rest) := by
  simp [splitAt1_append_left q _ v hv, splitAt1]

/-- the text of an attribute list as every writer produces it: ` name="value"` each -/
def renderAttrs : List (Str × Str) → Str
  | [] => []
  | a :: r => ' ' :: (a.1 ++ ('=' :: '"' :: (a.2 ++ ('"' :: renderAttrs r))))

theorem attr_render (n : String) (v : Str) : attr n v = renderAttrs [(n.toList, v)] := by
  simp [attr, renderAttrs]

theorem attr_eq (n : String) (v : Str) (rest : Str) : attr n v ++ rest = renderAttrs [(n.toList, v)] ++ rest := by
  rw [attr_render]

theorem renderAttrs_append (a b : List (Str × Str)) : renderAttrs (a ++ b) = renderAttrs a ++ renderAttrs b := by
  induction a with
  | nil => rfl
  | cons x r ih => simp [renderAttrs, ih]

/-- attribute names are names, pairwise different, and no value contains the quote -/
def AttrsWF (as : List (Str × Str)) : Bool :=
  as.all (fun a => IsName a.1 && !(a.2.contains '"')) && decide (as.map (·.1)).Nodup

theorem renderAttrs_length (as : List (Str × Str)) : as.length ≤ (renderAttrs as).length := by
  induction as with
  | nil => simp [renderAttrs]
  | cons a r ih => simp only [renderAttrs, List.length_cons, List.length_append]; omega

theorem parseAttrs_step (f : Nat) (n v rest : Str) (acc : List (Str × Str)) (cl : Closing)
    (hn : IsName n = true) (hv : '"' ∉ v) (hfresh : (acc.any fun a => a.1 == n) = false) :
    parseAttrs (f + 1) (' ' :: (n ++ ('=' :: '"' :: (v ++ ('"' :: rest))))) acc cl = parseAttrs f rest (acc ++ [(n, v)]) cl := by
  obtain ⟨c, t, rfl, hc, _⟩ := isName_cons hn
  have hsp := not_space_of_nameStart c hc
  have hpn := parseName_append (c :: t) ('=' :: '"' :: (v ++ ('"' :: rest))) hn (.cons (by decide) _)
  rw [parseAttrs]
  have h1 : skipWs (' ' :: ((c :: t) ++ ('=' :: '"' :: (v ++ ('"' :: rest))))) = c :: (t ++ ('=' :: '"' :: (v ++ ('"' :: rest)))) := by
    rw [skipWs_space_cons]
    exact skipWs_cons_of_not_space c _ hsp
  simp only [h1, hc, if_true]
  have h2 : parseName (c :: (t ++ '=' :: '"' :: (v ++ '"' :: rest))) = some (c :: t, '=' :: '"' :: (v ++ '"' :: rest)) := by
    simpa using hpn
  simp only [h2]
  have h3 : skipWs ('=' :: '"' :: (v ++ '"' :: rest)) = '=' :: '"' :: (v ++ '"' :: rest) := skipWs_cons_of_not_space _ _ (by decide)
  have h4 : skipWs ('"' :: (v ++ '"' :: rest)) = '"' :: (v ++ '"' :: rest) := skipWs_cons_of_not_space _ _ (by decide)
  simp only [reduceCtorEq, if_false, h3, h4, true_or, if_true, splitAt1_append '"' v rest hv, hfresh, Bool.false_eq_true]

/-- the attribute loop on a rendered list: what has been read (`acc`) and what is still to come have pairwise different names -/
theorem parseAttrs_render : ∀ (as : List (Str × Str)) (f : Nat) (tail : Str) (acc : List (Str × Str)) (cl : Closing),
    AttrsWF as = true → ((acc ++ as).map (·.1)).Nodup →
    parseAttrs (f + as.length) (renderAttrs as ++ tail) acc cl = parseAttrs f tail (acc ++ as) cl := by
  intro as
  induction as with
  | nil => intro f tail acc cl _ _; simp [renderAttrs]
  | cons a r ih =>
    intro f tail acc cl hwf hnd
    simp only [AttrsWF, List.all_cons, List.map_cons, List.nodup_cons, Bool.and_eq_true, decide_eq_true_eq, Bool.not_eq_true'] at hwf
    have hfresh : (acc.any fun b => b.1 == a.1) = false := by
      rw [List.map_append, List.nodup_append] at hnd
      exact List.any_eq_false.mpr fun b hb => by simpa using hnd.2.2 b.1 (List.mem_map_of_mem hb) a.1 (by simp)
    have e1 : f + (a :: r).length = (f + r.length) + 1 := by simp; omega
    have e2 : renderAttrs (a :: r) ++ tail = ' ' :: (a.1 ++ ('=' :: '"' :: (a.2 ++ ('"' :: (renderAttrs r ++ tail))))) := by
      simp [renderAttrs]
    have hwf' : AttrsWF r = true := by
      simp only [AttrsWF, Bool.and_eq_true, decide_eq_true_eq]
      exact ⟨hwf.1.2, hwf.2.2⟩
    rw [e1, e2, parseAttrs_step _ _ _ _ _ _ hwf.1.1.1 (by simpa using hwf.1.1.2) hfresh,
      ih f tail (acc ++ [(a.1, a.2)]) cl hwf' (by simpa using hnd)]
    simp

theorem parseAttrs_closed (f : Nat) (rest : Str) (acc : List (Str × Str)) (cl : Closing) :
    parseAttrs (f + 1) ('/' :: '>' :: rest) acc cl = some (acc, .closed, rest) := by
  rw [parseAttrs]
  simp [skipWs_cons_of_not_space '/' ('>' :: rest) (by decide), show isNameStart '/' = false by decide]

theorem parseAttrs_open (f : Nat) (rest : Str) (acc : List (Str × Str)) (cl : Closing) :
    parseAttrs (f + 1) ('>' :: rest) acc cl = some (acc, cl, rest) := by
  rw [parseAttrs]
  simp [skipWs_cons_of_not_space '>' rest (by decide), show isNameStart '>' = false by decide]

theorem lexOne_tag (s r : Str) (h : skipWs s = '<' :: r) (h1 : ∀ t, r ≠ '?' :: t) (h2 : ∀ t, r ≠ '!' :: t) :
    lexOne s = some (lexTag r) := by
  unfold lexOne
  rw [h]
  split
  · rename_i heq; simp at heq
  · rename_i r1 heq; simp only [List.cons.injEq, true_and] at heq; exact absurd heq (h1 r1)
  · rename_i r1 heq; simp only [List.cons.injEq, true_and] at heq; exact absurd heq (h2 r1)
  · rename_i r' _ _ heq; simp only [List.cons.injEq, true_and] at heq; rw [heq]
  · rename_i hne heq
    simp only [List.cons.injEq] at heq
    exact absurd heq.1.symm (by simpa using hne)

theorem lexOne_text (s : Str) (c : Char) (r : Str) (h : skipWs s = c :: r) (hc : c ≠ '<') : lexOne s = some (lexText s) := by
  unfold lexOne
  rw [h]
  split
  · rename_i heq; simp at heq
  · rename_i heq; simp only [List.cons.injEq] at heq; exact absurd heq.1 hc
  · rename_i heq; simp only [List.cons.injEq] at heq; exact absurd heq.1 hc
  · rename_i heq; simp only [List.cons.injEq] at heq; exact absurd heq.1 hc
  · rfl

theorem lexOne_of_skipWs_eq (s s' : Str) (h : skipWs s = skipWs s') (ht : lexText s = lexText s') : lexOne s = lexOne s' := by
  unfold lexOne
  rw [h]
  split <;> simp_all

theorem lexText_ws (ws s : Str) (h : ws.all isSpace = true) : lexText (ws ++ s) = lexText s := by
  rw [lexText, splitAt1_append_left '<' s ws fun hm => absurd (List.all_eq_true.1 h _ hm) (by decide), lexText]
  cases splitAt1 '<' s <;> rfl

theorem lexOne_ws (ws s : Str) (h : ws.all isSpace = true) : lexOne (ws ++ s) = lexOne s :=
  lexOne_of_skipWs_eq _ _ (skipWs_append ws s h) (lexText_ws ws s h)

/-- text of a tag head: `<name attrs` -/
def headText (name : Str) (as : List (Str × Str)) : Str := '<' :: (name ++ renderAttrs as)

theorem lexTag_head (name : Str) (as : List (Str × Str)) (tail : Str) (cl : Closing) (rest : Str)
    (hname : IsName name = true) (hwf : AttrsWF as = true)
    (htail : tail = '/' :: '>' :: rest ∧ cl = .closed ∨ tail = '>' :: rest ∧ cl = .opn) :
    lexTag (name ++ (renderAttrs as ++ tail)) = (.tag cl name as, rest) := by
  obtain ⟨c, t, rfl, hc, _⟩ := isName_cons hname
  have hs : c ≠ '/' := Text.ne_of_pred hc
  have hsp := not_space_of_nameStart c hc
  -- the character after the name is ' ', '/' or '>'
  have hstop : Text.Stops isNameChar (renderAttrs as ++ tail) := by
    cases as with
    | nil => rcases htail with ⟨rfl, _⟩ | ⟨rfl, _⟩ <;> exact .cons (by decide) _
    | cons a r => exact .cons (by decide) _
  have hpn : parseName (c :: (t ++ (renderAttrs as ++ tail))) = some (c :: t, renderAttrs as ++ tail) :=
    parseName_append (c :: t) _ hname hstop
  have h1 : skipWs ((c :: t) ++ (renderAttrs as ++ tail)) = c :: (t ++ (renderAttrs as ++ tail)) := skipWs_cons_of_not_space _ _ hsp
  have hcp : closingPrefix (c :: (t ++ (renderAttrs as ++ tail))) = (.opn, c :: (t ++ (renderAttrs as ++ tail))) := by
    unfold closingPrefix
    split
    · rename_i heq; simp only [List.cons.injEq] at heq; exact absurd heq.1 hs
    · rfl
  -- enough fuel for the attribute loop
  have hlen : ∃ g, (renderAttrs as ++ tail).length + 1 = (g + 1) + as.length := by
    have := renderAttrs_length as
    refine ⟨(renderAttrs as ++ tail).length - as.length, ?_⟩
    simp only [List.length_append]; omega
  obtain ⟨g, hg⟩ := hlen
  have h3 : parseAttrs ((renderAttrs as ++ tail).length + 1) (renderAttrs as ++ tail) [] .opn = some (as, cl, rest) := by
    rw [hg, parseAttrs_render as (g + 1) tail [] .opn hwf (by simp only [AttrsWF, Bool.and_eq_true, decide_eq_true_eq] at hwf; simpa using hwf.2)]
    rcases htail with ⟨e, ecl⟩ | ⟨e, ecl⟩
    · rw [e, ecl, parseAttrs_closed]; simp
    · rw [e, ecl, parseAttrs_open]; simp
  unfold lexTag
  simp only [h1, hcp, hpn, h3]

theorem lexOne_head (ws name : Str) (as : List (Str × Str)) (tail : Str) (cl : Closing) (rest : Str)
    (hws : ws.all isSpace = true) (hname : IsName name = true) (hwf : AttrsWF as = true)
    (htail : tail = '/' :: '>' :: rest ∧ cl = .closed ∨ tail = '>' :: rest ∧ cl = .opn) :
    lexOne (ws ++ '<' :: (name ++ (renderAttrs as ++ tail))) = some (.tag cl name as, rest) := by
  rw [lexOne_ws ws _ hws]
  obtain ⟨c, t, rfl, hc, _⟩ := isName_cons hname
  have hq : c ≠ '?' := Text.ne_of_pred hc
  have hb : c ≠ '!' := Text.ne_of_pred hc
  rw [lexOne_tag _ ((c :: t) ++ (renderAttrs as ++ tail)) (skipWs_cons_of_not_space _ _ (by decide))
    (by intro t' e; simp only [List.cons_append, List.cons.injEq] at e; exact hq e.1)
    (by intro t' e; simp only [List.cons_append, List.cons.injEq] at e; exact hb e.1)]
  rw [lexTag_head (c :: t) as tail cl rest hname hwf htail]

theorem lexOne_closingTag (ws name : Str) (rest : Str) (hws : ws.all isSpace = true) (hname : IsName name = true) :
    lexOne (ws ++ '<' :: '/' :: (name ++ '>' :: rest)) = some (.tag .closing name [], rest) := by
  rw [lexOne_ws ws _ hws]
  rw [lexOne_tag _ ('/' :: (name ++ '>' :: rest)) (skipWs_cons_of_not_space _ _ (by decide)) (by intro t e; simp at e) (by intro t e; simp at e)]
  have hpn := parseName_append name ('>' :: rest) hname (.cons (by decide) _)
  have h1 : skipWs ('/' :: (name ++ '>' :: rest)) = '/' :: (name ++ '>' :: rest) := skipWs_cons_of_not_space _ _ (by decide)
  have h3 : parseAttrs (('>' :: rest).length + 1) ('>' :: rest) [] .closing = some ([], .closing, rest) := by
    have : ('>' :: rest).length + 1 = (rest.length + 1) + 1 := by simp
    rw [this, parseAttrs_open]
  unfold lexTag
  simp only [h1, closingPrefix, hpn, h3]

theorem lexOne_decl (ws body rest : Str) (hws : ws.all isSpace = true) (h : splitDeclEnd body = some rest) :
    lexOne (ws ++ '<' :: '?' :: body) = some (.decl, rest) := by
  rw [lexOne_ws ws _ hws]
  unfold lexOne
  have h0 : skipWs ('<' :: '?' :: body) = '<' :: '?' :: body := skipWs_cons_of_not_space _ _ (by decide)
  rw [h0]
  simp only [h]

theorem lexOne_allspace (ws : Str) (h : ws.all isSpace = true) : lexOne ws = none := by
  have := skipWs_append ws [] h
  simp only [List.append_nil] at this
  unfold lexOne
  rw [this]
  rfl

theorem splitAt1_length (q : Char) : ∀ (s p r : Str), splitAt1 q s = some (p, r) → s.length = p.length + 1 + r.length := by
  intro s
  induction s with
  | nil => intro p r h; simp [splitAt1] at h
  | cons c t ih =>
    intro p r h
    simp only [splitAt1] at h
    by_cases hc : c = q
    · simp only [hc, if_true, Option.some.injEq, Prod.mk.injEq] at h
      obtain ⟨rfl, rfl⟩ := h
      simp only [List.length_cons, List.length_nil]; omega
    · simp only [hc, if_false, Option.map_eq_some_iff] at h
      obtain ⟨⟨p', r'⟩, h1, h2⟩ := h
      simp only [Prod.mk.injEq] at h2
      obtain ⟨rfl, rfl⟩ := h2
      have := ih p' r' h1
      simp only [List.length_cons]; omega

theorem splitDeclEnd_length : ∀ (s r : Str), splitDeclEnd s = some r → r.length < s.length := by
  intro s
  induction s with
  | nil => intro r h; simp [splitDeclEnd] at h
  | cons c t ih =>
    intro r h
    simp only [splitDeclEnd] at h
    split at h
    · simp only [Option.some.injEq] at h
      subst h
      simp only [List.length_cons, List.length_tail]; omega
    · have := ih r h
      simp only [List.length_cons]; omega

theorem skipWs_length (s : Str) : (skipWs s).length ≤ s.length := (List.dropWhile_suffix isSpace).length_le

theorem parseName_length (s n r : Str) (h : parseName s = some (n, r)) : r.length < s.length := by
  cases s with
  | nil => simp [parseName] at h
  | cons c t =>
    simp only [parseName] at h
    split at h
    · simp only [Option.some.injEq, Prod.mk.injEq] at h
      obtain ⟨_, rfl⟩ := h
      exact Nat.lt_succ_of_le (List.dropWhile_suffix isNameChar).length_le
    · simp at h

theorem parseAttrs_length (f : Nat) (s : Str) (acc : List (Str × Str)) (cl : Closing) (as : List (Str × Str)) (cl' : Closing) (r : Str)
    (h : parseAttrs f s acc cl = some (as, cl', r)) : r.length < s.length := by
  -- a failing branch contradicts `h`, a returning branch identifies `r`; the case numbers follow the branches of `parseAttrs` in
  -- the order of its definition: 7 reads one attribute and goes on, 11 ends at `>`, 12 at `/>`
  fun_induction parseAttrs f s acc cl <;> try cases h
  case case7 f s acc cl c r0 hs hc n r1 hpn hne r2 h2 q r3 h3 hq v r4 hsp hfresh ih =>
    have l1 := skipWs_length s
    have l2 := parseName_length _ _ _ hpn
    have l3 := skipWs_length r1
    have l4 := skipWs_length r2
    have l5 := splitAt1_length q r3 v r4 hsp
    have l6 := ih h
    rw [hs] at l1; rw [h2] at l3; rw [h3] at l4
    simp only [List.length_cons] at l1 l2 l3 l4; omega
  case case11 f s hc hs =>
    have l1 := skipWs_length s
    rw [hs] at l1
    exact l1
  case case12 f s cl c r0 hs hc hgt hsl =>
    have l1 := skipWs_length s
    rw [hs] at l1
    simp only [List.length_cons, List.length_tail] at l1 ⊢; omega

theorem lexTag_length (r : Str) : (lexTag r).2.length < r.length + 1 := by
  have l1 := skipWs_length r
  have l2 : (closingPrefix (skipWs r)).2.length ≤ (skipWs r).length := by
    unfold closingPrefix
    split
    · rename_i heq; rw [heq]; simp
    · exact Nat.le_refl _
  unfold lexTag
  cases hpn : parseName (closingPrefix (skipWs r)).2 with
  | none => simp only [hpn, List.length_nil]; omega
  | some nr =>
    obtain ⟨n, r3⟩ := nr
    have l3 := parseName_length _ _ _ hpn
    cases hpa : parseAttrs (r3.length + 1) r3 [] (closingPrefix (skipWs r)).1 with
    | none => simp only [hpn, hpa, List.length_nil]; omega
    | some res =>
      obtain ⟨as, cl, r4⟩ := res
      have l4 := parseAttrs_length _ _ _ _ _ _ _ hpa
      simp only [hpn, hpa]; omega

theorem lexText_length (s : Str) (c : Char) (r : Str) (h : skipWs s = c :: r) (hc : c ≠ '<') :
    (lexText s).2.length < s.length := by
  cases s with
  | nil => simp [skipWs] at h
  | cons a t =>
    -- `s` does not begin with '<', so the text node is not empty
    have ha : a ≠ '<' := by
      rintro rfl
      rw [skipWs_cons_of_not_space _ _ (by decide)] at h
      exact hc (List.cons.inj h).1.symm
    unfold lexText
    simp only [splitAt1, ha, if_false]
    cases hsp : splitAt1 '<' t with
    | none => simp
    | some pr =>
      have := splitAt1_length _ _ _ _ hsp
      simp only [Option.map_some, List.length_cons]
      omega

theorem lexOne_length (s : Str) (t : Tok) (r : Str) (h : lexOne s = some (t, r)) : r.length < s.length := by
  have hws := skipWs_length s
  revert h
  -- in the order of the branches of `lexOne`: end of input, `<?` without and with its end, `<!`, a tag, text
  fun_cases lexOne s
  case case1 => intro h; cases h
  case case2 r1 hs _ =>
    rintro ⟨⟩
    rw [hs] at hws
    exact Nat.lt_of_lt_of_le (Nat.zero_lt_succ _) hws
  case case3 r1 hs r2 hd =>
    rintro ⟨⟩
    have := splitDeclEnd_length _ _ hd
    rw [hs] at hws
    simp only [List.length_cons] at hws; omega
  case case4 _ hs =>
    rintro ⟨⟩
    rw [hs] at hws
    exact Nat.lt_of_lt_of_le (Nat.zero_lt_succ _) hws
  case case5 r0 _ _ hs =>
    intro h
    have := lexTag_length r0
    rw [Option.some.inj h] at this
    rw [hs] at hws
    simp only [List.length_cons] at hws this; omega
  case case6 c r0 _ _ hc hs =>
    intro h
    have := lexText_length s c r0 hs hc
    rw [Option.some.inj h] at this
    exact this

/-- `lexAll` with the fuel `parseDoc` gives it -/
def lexAll' (s : Str) : List Tok := lexAll (s.length + 1) s

theorem lexAll_fuel : ∀ (f g : Nat) (s : Str), s.length < f → s.length < g → lexAll f s = lexAll g s := by
  intro f
  induction f with
  | zero => intro g s h; omega
  | succ f ih =>
    intro g s hf hg
    cases g with
    | zero => omega
    | succ g =>
      simp only [lexAll]
      cases h : lexOne s with
      | none => rfl
      | some tr =>
        obtain ⟨t, r⟩ := tr
        have hl := lexOne_length s t r h
        have e := ih g r (by omega) (by omega)
        cases t <;> simp only [e]

theorem lexAll'_eq (s : Str) : lexAll' s = match lexOne s with
    | none => []
    | some (.bad, _) => [.bad]
    | some (.unmodelled, _) => [.unmodelled]
    | some (t, r) => t :: lexAll' r := by
  unfold lexAll'
  rw [lexAll]
  cases h : lexOne s with
  | none => rfl
  | some tr =>
    obtain ⟨t, r⟩ := tr
    have e : lexAll s.length r = lexAll (r.length + 1) r := lexAll_fuel _ _ _ (lexOne_length s t r h) (Nat.lt_succ_self _)
    cases t <;> simp only [e]

theorem lexAll'_cons (s : Str) (t : Tok) (r : Str) (h : lexOne s = some (t, r))
    (hnb : t ≠ .bad) (hnu : t ≠ .unmodelled) : lexAll' s = t :: lexAll' r := by
  rw [lexAll'_eq, h]
  cases t with
  | bad => exact absurd rfl hnb
  | unmodelled => exact absurd rfl hnu
  | _ => rfl

theorem lexAll'_none (s : Str) (h : lexOne s = none) : lexAll' s = [] := by
  rw [lexAll'_eq, h]

theorem lexAll'_ws (ws s : Str) (h : ws.all isSpace = true) : lexAll' (ws ++ s) = lexAll' s := by
  rw [lexAll'_eq, lexOne_ws ws s h, ← lexAll'_eq]

/-- `pushChild` for a forest: `es` goes to the innermost open element, to the top level if none is open -/
def pushAll (es : List Elem) : List Frame → List Elem → List Frame × List Elem
  | [], top => ([], top ++ es)
  | fr :: st, top => ({ fr with kids := fr.kids ++ es } :: st, top)

theorem pushAll_nil (st : List Frame) (top : List Elem) : pushAll [] st top = (st, top) := by
  cases st <;> simp [pushAll]

theorem pushAll_append (a b : List Elem) (st : List Frame) (top : List Elem) :
    pushAll (a ++ b) st top = pushAll b (pushAll a st top).1 (pushAll a st top).2 := by
  cases st <;> simp [pushAll]

theorem pushAll_single (e : Elem) (st : List Frame) (top : List Elem) : pushAll [e] st top = pushChild e st top := by
  cases st <;> simp [pushAll, pushChild]

theorem pushAll_length (es : List Elem) (st : List Frame) (top : List Elem) : (pushAll es st top).1.length = st.length := by
  cases st <;> simp [pushAll]

theorem cstr_id_of_all (s : Str) (h : s.all (· ≠ NUL) = true) : cstr s = s := by
  apply cstr_of_no_nul
  intro hm
  have := List.all_eq_true.mp h NUL hm
  simp at this

/-- `AttrsWF` and no NUL anywhere (`parseDoc` cuts the text at the first NUL) -/
def AttrsOK (as : List (Str × Str)) : Bool :=
  AttrsWF as && as.all fun a => !(a.1.contains NUL) && !(a.2.contains NUL)

/-- `text` is NUL-free and is the complete forest `es` of height at most `h`: in front of any continuation the tree builder,
    from any state not deeper than `500 - h`, consumes its tokens and appends `es` to the innermost open element (`build`
    refuses an open tag when `st.length + 2 ≥ 500`, tinyxml2's depth limit) -/
structure Renders (h : Nat) (text : Str) (es : List Elem) : Prop where
  nonul : NUL ∉ text
  builds : ∀ (rest : Str) (st : List Frame) (top : List Elem) (d : Bool), st.length + h + 2 < 500 →
    build (lexAll' (text ++ rest)) st top d
      = build (lexAll' rest) (pushAll es st top).1 (pushAll es st top).2 (d && es.isEmpty)

theorem renders_nil (h : Nat) : Renders h [] [] :=
  ⟨by simp, fun rest st top d _ => by simp [pushAll_nil]⟩

theorem renders_empty {h : Nat} {es : List Elem} (r : Renders h [] es) (hh : h + 2 < 500) : es = [] := by
  have := r.builds [] [] [] true (by simpa using hh)
  simpa [lexAll'_none [] rfl, build, pushAll] using this.symm

theorem renders_mono {h k : Nat} {t : Str} {es : List Elem} (hk : h ≤ k) (r : Renders h t es) : Renders k t es :=
  ⟨r.nonul, fun rest st top d hd => r.builds rest st top d (by omega)⟩

theorem renders_append {h : Nat} {t1 t2 : Str} {e1 e2 : List Elem} (r1 : Renders h t1 e1) (r2 : Renders h t2 e2) :
    Renders h (t1 ++ t2) (e1 ++ e2) := by
  refine ⟨by simp [r1.nonul, r2.nonul], fun rest st top d hd => ?_⟩
  rw [List.append_assoc, r1.builds _ st top d hd, r2.builds rest _ _ _ (by rw [pushAll_length]; exact hd), pushAll_append]
  congr 1
  cases e1 <;> cases e2 <;> simp

theorem nul_not_space : isSpace NUL = false := by decide

theorem nul_not_mem_ws (ws : Str) (h : ws.all isSpace = true) : NUL ∉ ws := by
  intro hm
  have := List.all_eq_true.mp h NUL hm
  rw [nul_not_space] at this
  exact absurd this (by decide)

theorem nul_not_mem_renderAttrs : ∀ as : List (Str × Str), (as.all fun a => !(a.1.contains NUL) && !(a.2.contains NUL)) = true →
    NUL ∉ renderAttrs as := by
  intro as
  induction as with
  | nil => intro _; simp [renderAttrs]
  | cons a r ih =>
    intro h
    simp only [List.all_cons, Bool.and_eq_true, Bool.not_eq_true', List.contains_eq_mem, decide_eq_false_iff_not] at h
    have := ih (by simpa using h.2)
    simp only [renderAttrs, List.mem_cons, List.mem_append, not_or]
    refine ⟨by decide, h.1.1, by decide, by decide, h.1.2, by decide, this⟩

/-- what the literal `ws ++ "<name"` in front of every written element has to satisfy -/
def TagOK (ws name : Str) : Bool := ws.all isSpace && IsName name && !(name.contains NUL)

theorem nul_not_mem_head {ws name : Str} {as : List (Str × Str)} (htag : TagOK ws name = true) (hok : AttrsOK as = true) :
    NUL ∉ ws ++ headText name as := by
  simp only [TagOK, AttrsOK, Bool.and_eq_true] at htag hok
  have h1 := nul_not_mem_renderAttrs as hok.2
  have h2 := nul_not_mem_ws ws htag.1.1
  have h3 : NUL ∉ name := by simpa using htag.2
  simp only [headText, List.mem_append, List.mem_cons, not_or]
  exact ⟨h2, by decide, h3, h1⟩

theorem renders_closed (h : Nat) {ws name : Str} (as : List (Str × Str)) {ws2 : Str} (htag : TagOK ws name = true)
    (hws2 : ws2.all isSpace = true) (hok : AttrsOK as = true) :
    Renders h (ws ++ headText name as ++ '/' :: '>' :: ws2) [.mk name as []] := by
  have hnn := nul_not_mem_head htag hok
  have h2 := nul_not_mem_ws ws2 hws2
  simp only [TagOK, AttrsOK, Bool.and_eq_true] at htag hok
  refine ⟨?_, fun rest st top d _ => ?_⟩
  · simp only [List.mem_append, List.mem_cons, not_or] at hnn ⊢
    exact ⟨hnn, by decide, by decide, h2⟩
  have e : (ws ++ headText name as ++ '/' :: '>' :: ws2) ++ rest = ws ++ '<' :: (name ++ (renderAttrs as ++ '/' :: '>' :: (ws2 ++ rest))) := by
    simp [headText]
  rw [e, lexAll'_cons _ _ _ (lexOne_head ws name as _ .closed _ htag.1.1 htag.1.2 hok.1 (Or.inl ⟨rfl, rfl⟩)) (by simp) (by simp),
    lexAll'_ws ws2 rest hws2]
  simp [build, pushAll_single]

theorem renders_wrap {h : Nat} {inner : Str} {es : List Elem} {ws name : Str} (as : List (Str × Str)) {ws1 ws2 ws3 : Str}
    (htag : TagOK ws name = true) (hws1 : ws1.all isSpace = true) (hws2 : ws2.all isSpace = true) (hws3 : ws3.all isSpace = true)
    (hok : AttrsOK as = true) (r : Renders h inner es) :
    Renders (h + 1) (ws ++ headText name as ++ '>' :: (ws1 ++ inner ++ ws2 ++ '<' :: '/' :: (name ++ '>' :: ws3))) [.mk name as es] := by
  have hnn := nul_not_mem_head htag hok
  simp only [TagOK, AttrsOK, Bool.and_eq_true] at htag hok
  refine ⟨?_, fun rest st top d hd => ?_⟩
  · have h1 := nul_not_mem_ws ws1 hws1
    have h2 := nul_not_mem_ws ws2 hws2
    have h3 := nul_not_mem_ws ws3 hws3
    have hn : NUL ∉ name := by simpa using htag.2
    simp only [List.mem_append, List.mem_cons, not_or] at hnn ⊢
    exact ⟨hnn, by decide, ⟨⟨h1, r.nonul⟩, h2⟩, by decide, by decide, hn, by decide, h3⟩
  · have e : (ws ++ headText name as ++ '>' :: (ws1 ++ inner ++ ws2 ++ '<' :: '/' :: (name ++ '>' :: ws3))) ++ rest
        = ws ++ '<' :: (name ++ (renderAttrs as ++ '>' :: (ws1 ++ (inner ++ (ws2 ++ '<' :: '/' :: (name ++ '>' :: (ws3 ++ rest))))))) := by
      simp [headText]
    -- the open tag pushes a frame, `inner` fills it, the closing tag hands it to the element underneath
    rw [e, lexAll'_cons _ _ _ (lexOne_head ws name as _ .opn _ htag.1.1 htag.1.2 hok.1 (Or.inr ⟨rfl, rfl⟩)) (by simp) (by simp),
      lexAll'_ws ws1 _ hws1]
    simp only [build, show ¬ (st.length + 2 ≥ 500) by omega, if_false]
    rw [r.builds _ (⟨name, as, []⟩ :: st) top false (by simp only [List.length_cons]; omega),
      lexAll'_cons _ _ _ (lexOne_closingTag ws2 name _ hws2 htag.1.2) (by simp) (by simp), lexAll'_ws ws3 rest hws3, pushAll_single]
    simp [pushAll, build]

theorem renders_flatMap {α : Type} {h : Nat} {str : List α → Str} {text : α → Str} {elems : α → List Elem}
    (hnil : str [] = []) (hcons : ∀ a r, str (a :: r) = text a ++ str r) :
    ∀ l : List α, (∀ a ∈ l, Renders h (text a) (elems a)) → Renders h (str l) (l.flatMap elems)
  | [], _ => hnil ▸ renders_nil h
  | a :: r, hl => by
    rw [hcons, List.flatMap_cons]
    exact renders_append (hl a List.mem_cons_self) (renders_flatMap hnil hcons r fun b hb => hl b (List.mem_cons_of_mem _ hb))

theorem renders_list {α : Type} {h : Nat} {str : List α → Str} {text : α → Str} {elem : α → Elem}
    (hnil : str [] = []) (hcons : ∀ a r, str (a :: r) = text a ++ str r) (l : List α)
    (hl : ∀ a ∈ l, Renders h (text a) [elem a]) : Renders h (str l) (l.map elem) :=
  List.map_eq_flatMap ▸ renders_flatMap hnil hcons l hl

theorem hasBOM_lt (r : Str) : hasBOM ('<' :: r) = false := by
  unfold hasBOM
  split
  · rename_i heq
    simp only [List.cons.injEq] at heq
    rw [← heq.1]
    simp
  · rfl

theorem parseDoc_root {h : Nat} (declBody ws0 root ws : Str) (e : Elem)
    (hdecl : splitDeclEnd declBody = some (ws0 ++ root ++ ws)) (hnd : NUL ∉ declBody)
    (hws0 : ws0.all isSpace = true) (hws : ws.all isSpace = true) (r : Renders h root [e]) (hh : h + 2 < 500) :
    parseDoc ('<' :: '?' :: declBody) = .ok [e] := by
  have hn : NUL ∉ ('<' :: '?' :: declBody) := by
    simp only [List.mem_cons, not_or]
    exact ⟨by decide, by decide, hnd⟩
  unfold parseDoc
  rw [cstr_of_no_nul _ hn]
  have h1 : skipWs ('<' :: '?' :: declBody) = '<' :: '?' :: declBody := skipWs_cons_of_not_space _ _ (by decide)
  simp only [reduceCtorEq, or_self, if_false, h1, hasBOM_lt, Bool.false_eq_true]
  have htoks : lexAll (('<' :: '?' :: declBody).length + 1) ('<' :: '?' :: declBody) = Tok.decl :: lexAll' (root ++ ws) := by
    rw [← lexAll'_ws ws0 _ hws0, ← List.append_assoc]
    exact lexAll'_cons ('<' :: '?' :: declBody) .decl _ (by simpa using lexOne_decl [] declBody _ (by simp) hdecl) (by simp) (by simp)
  rw [htoks]
  simp only [build, if_true]
  rw [r.builds ws [] [] true (by simp; omega), lexAll'_none ws (lexOne_allspace ws hws)]
  simp [pushAll, build]

end Cppcheck.Ctu
