import Cppcheck.Model.SevDecide
/-!
Helper lemmas for Props/C04.lean: every selection function of `Cppcheck.SevDecide` returns a member of the list it was given
that satisfies the selection predicate; then the index vectors of `arrayIndexNV` as a `map` over the index positions with an
`any` as flag, and what the grade `error` says of an index vector.
-/
namespace Cppcheck.SevDecide

theorem sevOf_eq_error {b : Bool} : sevOf b = .error ↔ b = true := by cases b <;> decide

theorem errorSeverity_eq_true {v : Value} : v.errorSeverity = true ↔ v.cond = false ∧ v.defaultArg = false := by
  simp [Value.errorSeverity]

theorem isKnown_eq_true {v : Value} : v.isKnown = true ↔ v.kind = .known := by simp [Value.isKnown]

theorem kind_ne_impossible {v : Value} (h : v.isImpossible = false) : v.kind ≠ .impossible := by
  simpa [Value.isImpossible] using h

/-- `mem_onSome hr` applies to a checker of the model without unfolding it: the `match` below elaborates to the matcher constant
    the checkers were compiled with (the first of its shape on `Option Value`), so the two unify; stated for another type than
    `Value` it would get a matcher of its own and would not -/
theorem mem_onSome {β : Type} {p : Option Value} {f : Value → List β} {r : β}
    (h : r ∈ (match p with | none => [] | some v => f v)) : ∃ v, p = some v ∧ r ∈ f v := by
  cases p with
  | none => cases h
  | some v => exact ⟨v, rfl, h⟩

theorem getValue_spec {vals : List Value} {n : Int} {v : Value} (h : getValue vals n = some v) :
    v ∈ vals ∧ v.isInt = true ∧ v.isImpossible = false ∧ v.intvalue = n := by
  unfold getValue at h
  have hm := List.mem_of_find?_eq_some h
  have hp := List.find?_some h
  simp at hp
  exact ⟨hm, hp.1.1, hp.1.2, hp.2⟩

theorem findStep_spec {pred : Value → Bool} {ret : Option Value} {v : Value} {rest : List Value} (hp : pred v = true) :
    ret = some (findStep ret v) ∨ (findStep ret v ∈ v :: rest ∧ pred (findStep ret v) = true) := by
  cases ret with
  | none => exact Or.inr ⟨List.mem_cons_self, hp⟩
  | some r =>
    simp only [findStep]
    split
    · exact Or.inr ⟨List.mem_cons_self, hp⟩
    · exact Or.inl rfl

theorem findLoop_spec (pred : Value → Bool) :
    ∀ (vals : List Value) (ret : Option Value) (r : Value),
      findLoop pred ret vals = some r → ret = some r ∨ (r ∈ vals ∧ pred r = true) := by
  intro vals ret r
  fun_induction findLoop pred ret vals with
  | case1 ret => exact Or.inl
  | case2 ret v rest hp _ =>
    intro h
    obtain rfl := Option.some.inj h
    exact findStep_spec hp
  | case3 ret v rest hp _ ih =>
    intro h
    rcases ih h with hk | ⟨hm, hq⟩
    · obtain rfl := Option.some.inj hk
      exact findStep_spec hp
    · exact Or.inr ⟨List.mem_cons_of_mem _ hm, hq⟩
  | case4 ret v rest _ ih => exact fun h => (ih h).imp_right fun ⟨hm, hq⟩ => ⟨List.mem_cons_of_mem _ hm, hq⟩

theorem findValue_spec {o : Opts} {vals : List Value} {pred : Value → Bool} {r : Value}
    (h : findValue o vals pred = some r) :
    r ∈ vals ∧ pred r = true ∧ (r.isInconclusive = true → o.inconclusive = true) ∧ (r.cond = true → o.warning = true) := by
  unfold findValue at h
  cases hl : findLoop pred none vals with
  | none => rw [hl] at h; cases h
  | some r0 =>
    rw [hl] at h
    obtain ⟨h1, h⟩ := Option.ite_none_left_eq_some.mp h
    obtain ⟨h2, h⟩ := Option.ite_none_left_eq_some.mp h
    cases h
    rcases findLoop_spec pred vals none r hl with h' | ⟨hm, hq⟩
    · cases h'
    · exact ⟨hm, hq, fun hi => by simpa [hi] using h1, fun hc => by simpa [hc] using h2⟩

theorem getValueLE_spec {o : Opts} {vals : List Value} {n : Int} {r : Value} (h : getValueLE o vals n = some r) :
    r ∈ vals ∧ r.isImpossible = false ∧ r.isInt = true ∧ r.intvalue ≤ n ∧ (r.cond = true → o.warning = true) := by
  have := findValue_spec h
  obtain ⟨hm, hp, _, hc⟩ := this
  simp at hp
  exact ⟨hm, hp.1.1, hp.1.2, hp.2, hc⟩

theorem getValueGE_spec {o : Opts} {vals : List Value} {n : Int} {r : Value} (h : getValueGE o vals n = some r) :
    r ∈ vals ∧ r.isImpossible = false ∧ r.isInt = true ∧ n ≤ r.intvalue ∧ (r.cond = true → o.warning = true) := by
  have := findValue_spec h
  obtain ⟨hm, hp, _, hc⟩ := this
  simp at hp
  exact ⟨hm, hp.1.1, hp.1.2, hp.2, hc⟩

theorem getMaxLoop_spec (condition : Bool) (path : Nat) :
    ∀ (vals : List Value) (ret : Option Value) (r : Value),
      getMaxLoop condition path ret vals = some r →
      ret = some r ∨ (r ∈ vals ∧ r.isInt = true ∧ r.isImpossible = false ∧ r.cond = condition) := by
  intro vals ret r
  fun_induction getMaxLoop condition path ret vals with
  | case1 ret => exact Or.inl
  | case5 ret v rest h1 h2 _ h4 ih =>
    intro h
    rcases ih h with h5 | ⟨hm, hr⟩
    · obtain rfl := Option.some.inj h5
      simp at h1 h2 h4
      exact Or.inr ⟨List.mem_cons_self, h1, h2, h4.2⟩
    · exact Or.inr ⟨List.mem_cons_of_mem _ hm, hr⟩
  | case2 ret v rest _ ih | case3 ret v rest _ _ ih | case4 ret v rest _ _ _ ih | case6 ret v rest _ _ _ _ ih =>
    exact fun h => (ih h).imp_right fun ⟨hm, hr⟩ => ⟨List.mem_cons_of_mem _ hm, hr⟩

theorem isOutOfBounds_spec {size : Int} {vals : List Value} {r : Value} (h : isOutOfBounds size vals = some r) :
    r ∈ vals ∧ r.isInt = true ∧ r.isImpossible = false ∧ size ≤ r.intvalue := by
  have impl : ∀ c, isOutOfBoundsImpl size vals c = some r →
      r ∈ vals ∧ r.isInt = true ∧ r.isImpossible = false ∧ size ≤ r.intvalue := by
    intro c hc
    unfold isOutOfBoundsImpl getMaxValue at hc
    split at hc
    · exact absurd hc (by simp)
    · rename_i v hv
      split at hc
      · rename_i hge
        injection hc with hc; subst hc
        rcases getMaxLoop_spec c 0 vals none v hv with h' | ⟨hm, h1, h2, _⟩
        · exact absurd h' (by simp)
        · exact ⟨hm, h1, h2, hge⟩
      · exact absurd hc (by simp)
  unfold isOutOfBounds at h
  split at h
  · rename_i v hv; injection h with h; subst h; exact impl false hv
  · exact impl true h

theorem overrunIndexValues_eq (dims : List (Int × List Value)) :
    overrunIndexValues dims =
      (dims.map fun d => (isOutOfBounds d.1 d.2).getD ((getKnownInt d.2).getD unknownValue),
       dims.any fun d => (isOutOfBounds d.1 d.2).isSome) := by
  induction dims with
  | nil => rfl
  | cons d rest ih =>
    obtain ⟨size, vals⟩ := d
    unfold overrunIndexValues
    cases hb : isOutOfBounds size vals <;> simp [hb, ih]

/-- both index vectors of `arrayIndexNV` have this shape: per position the picked value or a placeholder, flagged when some
    position has a pick -/
theorem flag_pick {α β : Type} {f : α → Option β} (g : α → β) {l : List α} (h : l.any (fun d => (f d).isSome) = true) :
    ∃ d ∈ l, ∃ v, f d = some v ∧ v ∈ l.map fun d => (f d).getD (g d) := by
  obtain ⟨d, hd, hs⟩ := List.any_eq_true.mp h
  obtain ⟨v, hv⟩ := Option.isSome_iff_exists.mp hs
  exact ⟨d, hd, v, hv, List.mem_map.mpr ⟨d, hd, by simp [hv]⟩⟩

theorem pickIndex_mem : ∀ (l : List Value) (i : Option Value) (r : Value), pickIndex i l = some r → i = some r ∨ r ∈ l := by
  intro l i r
  fun_induction pickIndex i l with
  | case1 i => exact Or.inl
  | case2 v rest ih =>
    intro h
    rcases ih h with h1 | h1
    · exact Or.inr (Option.some.inj h1 ▸ List.mem_cons_self)
    · exact Or.inr (List.mem_cons_of_mem _ h1)
  | case3 i0 v rest ih =>
    intro h
    rcases ih h with h1 | h1
    · injection h1 with h1
      split at h1
      · exact Or.inr (h1 ▸ List.mem_cons_self)
      · exact Or.inl (h1 ▸ rfl)
    · exact Or.inr (List.mem_cons_of_mem _ h1)

/-- `indexVectorErrorV true` is the graded body (the code of record) -/
theorem indexVectorError_error {o : Opts} {a b : String} {indexes : List Value} {r : Report}
    (hr : r ∈ indexVectorErrorV true o a b indexes) (he : r.sev = .error) : ∀ v ∈ indexes, v.errorSeverity = true := by
  unfold indexVectorErrorV at hr
  obtain ⟨index, -, hr⟩ := mem_onSome (List.mem_ite_nil_left.mp hr).2
  obtain rfl := List.mem_singleton.mp hr
  exact List.all_eq_true.mp (sevOf_eq_error.mp he)

end Cppcheck.SevDecide
