import Cppcheck.Model.AstStore
/-
C14: the invariant of the AST pointer store and its preservation by every setter; then termination of the two
pointer-chasing loops (`cycleWalk`, `topWalk`): in an acyclic store a list that holds a node and its ancestors (`Covers`)
can drop the node at every step up, so a walk ends within `n` steps.
-/
namespace Cppcheck.AstStore

/-- `a` is a proper ancestor of `b` along parent pointers -/
inductive Anc (s : Store) : Nat → Nat → Prop
  | base {a b : Nat} : s.parent b = some a → Anc s a b
  | step {a p b : Nat} : s.parent b = some p → Anc s a p → Anc s a b

/-- the parent pointers form a forest -/
def Acyclic (s : Store) : Prop := ∀ i, ¬ Anc s i i
/-- an operand's parent pointer points back -/
def OpBack (s : Store) : Prop := ∀ p c, (s.op1 p = some c ∨ s.op2 p = some c) → s.parent c = some p
/-- a node's parent lists it as one of its operands -/
def Listed (s : Store) : Prop := ∀ c p, s.parent c = some p → (s.op1 p = some c ∨ s.op2 p = some c)
/-- no node is both operands of its parent -/
def Distinct (s : Store) : Prop := ∀ p c, s.op1 p = some c → s.op2 p = some c → False

/-- what ALL four setters preserve (also direct `astParent` calls) -/
structure WeakInv (s : Store) : Prop where
  acyclic : Acyclic s
  opBack : OpBack s
  distinct : Distinct s

/-- what `astOperand1` / `astOperand2` / the cache setter preserve: the design invariant -/
structure Inv (s : Store) : Prop extends WeakInv s where
  listed : Listed s

/-- `Listed` for every node but `x` (the state between `astParent` and the operand store) -/
def ListedExcept (s : Store) (x : Nat) : Prop :=
  ∀ c p, c ≠ x → s.parent c = some p → (s.op1 p = some c ∨ s.op2 p = some c)

@[simp] theorem upd_same (f : Nat → Option Nat) (i : Nat) (v : Option Nat) : upd f i v i = v := by simp [upd]
theorem upd_apply (f : Nat → Option Nat) (i : Nat) (v : Option Nat) (j : Nat) :
    upd f i v j = if j = i then v else f j := rfl

theorem Anc.inv {s : Store} {a b : Nat} (h : Anc s a b) : ∃ p, s.parent b = some p ∧ (p = a ∨ Anc s a p) := by
  cases h with
  | base h => exact ⟨a, h, .inl rfl⟩
  | step h1 h2 => exact ⟨_, h1, .inr h2⟩

theorem Anc.trans {s : Store} {a b c : Nat} (h1 : Anc s a b) (h2 : Anc s b c) : Anc s a c := by
  induction h2 with
  | base h => exact .step h h1
  | step h _ ih => exact .step h ih

/-- removing edges only removes ancestors -/
theorem Anc.mono {s s' : Store} (h : ∀ c p, s'.parent c = some p → s.parent c = some p) {a b : Nat}
    (ha : Anc s' a b) : Anc s a b := by
  induction ha with
  | base h1 => exact .base (h _ _ h1)
  | step h1 _ ih => exact .step (h _ _ h1) ih

/-- ancestors after `u.parent := x` -/
theorem Anc.of_link {s s' : Store} {u x : Nat}
    (hp : ∀ c, s'.parent c = if c = u then some x else s.parent c) {a b : Nat} (h : Anc s' a b) :
    Anc s a b ∨ ((a = x ∨ Anc s a x) ∧ (b = u ∨ Anc s u b)) := by
  induction h with
  | @base b h1 =>
    rw [hp] at h1
    by_cases hb : b = u
    · simp [hb] at h1; subst hb; exact .inr ⟨.inl h1.symm, .inl rfl⟩
    · simp [hb] at h1; exact .inl (.base h1)
  | @step p b h1 _ ih =>
    rw [hp] at h1
    by_cases hb : b = u
    · simp [hb] at h1
      subst hb; subst h1
      rcases ih with ih | ⟨ih1, _⟩
      · exact .inr ⟨.inr ih, .inl rfl⟩
      · exact .inr ⟨ih1, .inl rfl⟩
    · simp [hb] at h1
      rcases ih with ih | ⟨ih1, ih2⟩
      · exact .inl (.step h1 ih)
      · refine .inr ⟨ih1, .inr ?_⟩
        rcases ih2 with ih2 | ih2
        · subst ih2; exact .base h1
        · exact .step h1 ih2

theorem acyclic_of_link {s s' : Store} {u x : Nat} (hac : Acyclic s)
    (hp : ∀ c, s'.parent c = if c = u then some x else s.parent c)
    (hne : x ≠ u) (hna : ¬ Anc s u x) : Acyclic s' := by
  intro i hi
  rcases Anc.of_link hp hi with h | ⟨h1, h2⟩
  · exact hac i h
  · rcases h1 with h1 | h1 <;> rcases h2 with h2 | h2
    · exact hne (h1.symm.trans h2)
    · subst h1; exact hna h2
    · subst h2; exact hna h1
    · exact hna (h2.trans h1)

theorem acyclic_of_sub {s s' : Store} (hac : Acyclic s)
    (h : ∀ c p, s'.parent c = some p → s.parent c = some p) : Acyclic s' :=
  fun i hi => hac i (Anc.mono h hi)

theorem cycleWalk_none (s : Store) (x f : Nat) : cycleWalk s x f none = .clear := by
  cases f <;> rfl

theorem cycleWalk_clear {s : Store} {x : Nat} : ∀ {f : Nat} {t : Option Nat}, cycleWalk s x f t = .clear →
    ∀ c, t = some c → c ≠ x ∧ ¬ Anc s x c := by
  intro f
  induction f with
  | zero => intro t h c hc; subst hc; simp [cycleWalk] at h
  | succ f ih =>
    intro t h c hc
    subst hc
    simp only [cycleWalk] at h
    split at h
    · cases h
    · rename_i hne
      refine ⟨hne, fun ha => ?_⟩
      obtain ⟨p, hp, hpa⟩ := ha.inv
      have := ih h p hp
      rcases hpa with hpa | hpa
      · exact this.1 hpa
      · exact this.2 hpa

theorem clearAtParent_eq (s : Store) (x : Nat) : clearAtParent s x =
    { s with op1 := fun q => if s.parent x = some q ∧ s.op1 q = some x then none else s.op1 q,
             op2 := fun q => if s.parent x = some q ∧ s.op2 q = some x then none else s.op2 q } := by
  obtain ⟨n, par, o1, o2, tp⟩ := s
  -- each of the two conditional stores, read slot by slot
  have key : ∀ (f : Nat → Option Nat) (p : Nat), (if f p = some x then upd f p none else f) =
      fun q => if some p = some q ∧ f q = some x then none else f q := by
    intro f p
    funext q
    by_cases hq : q = p
    · subst hq; by_cases hf : f q = some x <;> simp [hf]
    · by_cases hf : f p = some x <;> simp [hf, upd_apply, hq, Ne.symm hq]
  unfold clearAtParent
  simp only
  cases h : par x with
  | none => simp
  | some p =>
    simp only [← key]
    by_cases h1 : o1 p = some x <;> by_cases h2 : o2 p = some x <;> simp [h1, h2]

/-- the effect of a returning `x->astParent(t)` -/
structure ParentSet (s s' : Store) (x : Nat) (t : Option Nat) : Prop where
  n : s'.n = s.n
  top : s'.top = s.top
  parent : ∀ c, s'.parent c = if c = x then t else s.parent c
  op1 : ∀ q, s'.op1 q = if s.parent x = some q ∧ s.op1 q = some x then none else s.op1 q
  op2 : ∀ q, s'.op2 q = if s.parent x = some q ∧ s.op2 q = some x then none else s.op2 q
  nocycle : ∀ y, t = some y → y ≠ x ∧ ¬ Anc s x y

theorem astParent_cases (s : Store) (x : Nat) (t : Option Nat) :
    (∃ s', astParent s x t = (s', .ok) ∧ ParentSet s s' x t) ∨ astParent s x t = (s, .throw) ∨ astParent s x t = (s, .hang) := by
  unfold astParent
  cases h : cycleWalk s x s.n t with
  | hang => simp
  | cycle => simp
  | clear =>
    refine .inl ⟨_, rfl, ?_⟩
    rw [clearAtParent_eq]
    exact ⟨rfl, rfl, fun _ => rfl, fun _ => rfl, fun _ => rfl, fun y hy => cycleWalk_clear h y hy⟩

theorem astParent_none_ok (s : Store) (x : Nat) : ∃ s', astParent s x none = (s', .ok) ∧ ParentSet s s' x none := by
  rcases astParent_cases s x none with h | h | h
  · exact h
  · simp [astParent, cycleWalk_none] at h
  · simp [astParent, cycleWalk_none] at h

theorem or_iff_getOp (s : Store) (p c : Nat) :
    (s.op1 p = some c ∨ s.op2 p = some c) ↔ ∃ sd, getOp s sd p = some c := by
  constructor
  · rintro (h | h)
    · exact ⟨.one, h⟩
    · exact ⟨.two, h⟩
  · rintro ⟨sd, h⟩
    cases sd
    · exact .inl h
    · exact .inr h

theorem ParentSet.getOp_eq {s s' : Store} {x : Nat} {t : Option Nat} (h : ParentSet s s' x t) (sd : Side) (q : Nat) :
    getOp s' sd q = if s.parent x = some q ∧ getOp s sd q = some x then none else getOp s sd q := by
  cases sd
  · exact h.op1 q
  · exact h.op2 q

theorem WeakInv.back {s : Store} (w : WeakInv s) {sd : Side} {p c : Nat} (h : getOp s sd p = some c) : s.parent c = some p :=
  w.opBack p c ((or_iff_getOp s p c).2 ⟨sd, h⟩)

theorem WeakInv.of_slots {s : Store} (hac : Acyclic s) (hb : ∀ sd p c, getOp s sd p = some c → s.parent c = some p)
    (hd : ∀ sd sd' p c, getOp s sd p = some c → getOp s sd' p = some c → sd = sd') : WeakInv s :=
  ⟨hac, fun p c h => by obtain ⟨sd, h⟩ := (or_iff_getOp s p c).1 h; exact hb sd p c h,
   fun p c h1 h2 => by cases hd .one .two p c h1 h2⟩

theorem listed_iff {s : Store} : Listed s ↔ ∀ c p, s.parent c = some p → ∃ sd, getOp s sd p = some c := by
  simp only [Listed, or_iff_getOp]

theorem ParentSet.getOp_some {s s' : Store} {x : Nat} {t : Option Nat} (h : ParentSet s s' x t) {sd : Side} {q c : Nat}
    (hq : getOp s' sd q = some c) : getOp s sd q = some c ∧ ¬ (s.parent x = some q ∧ c = x) := by
  rw [h.getOp_eq] at hq
  split at hq
  · cases hq
  · rename_i hn
    exact ⟨hq, fun ⟨h1, h2⟩ => hn ⟨h1, h2 ▸ hq⟩⟩

theorem ParentSet.weak {s s' : Store} {x : Nat} {t : Option Nat} (h : ParentSet s s' x t) (w : WeakInv s) : WeakInv s' := by
  refine ⟨?_, ?_, ?_⟩
  · cases t with
    | none =>
      refine acyclic_of_sub w.acyclic fun c p hc => ?_
      rw [h.parent] at hc; split at hc <;> simp_all
    | some y =>
      have := h.nocycle y rfl
      exact acyclic_of_link (u := x) (x := y) w.acyclic h.parent this.1 this.2
  · intro p c hc
    obtain ⟨sd, hc⟩ := (or_iff_getOp s' p c).1 hc
    obtain ⟨hold, hnx⟩ := h.getOp_some hc
    have hb : s.parent c = some p := w.back hold
    rw [h.parent]
    by_cases hcx : c = x
    · exact absurd ⟨hcx ▸ hb, hcx⟩ hnx
    · rw [if_neg hcx]; exact hb
  · intro p c h1 h2
    exact w.distinct p c (h.getOp_some (sd := .one) h1).1 (h.getOp_some (sd := .two) h2).1

theorem ParentSet.listedExcept {s s' : Store} {x : Nat} {t : Option Nat} (h : ParentSet s s' x t)
    (l : ListedExcept s x) : ListedExcept s' x := by
  intro c p hcx hp
  rw [h.parent, if_neg hcx] at hp
  obtain ⟨sd, h1⟩ := (or_iff_getOp s p c).1 (l c p hcx hp)
  refine (or_iff_getOp s' p c).2 ⟨sd, ?_⟩
  rw [h.getOp_eq, if_neg]
  · exact h1
  · intro ⟨_, h2⟩; rw [h1] at h2; exact hcx (Option.some.inj h2)

theorem Listed.except {s : Store} (l : Listed s) (x : Nat) : ListedExcept s x := fun c p _ hp => l c p hp

def Side.other : Side → Side
  | .one => .two
  | .two => .one

theorem getOp_setOp (s : Store) (sd sd' : Side) (x q : Nat) (v : Option Nat) :
    getOp (setOp s sd x v) sd' q = if sd' = sd ∧ q = x then v else getOp s sd' q := by
  cases sd <;> cases sd' <;> simp [getOp, setOp, upd_apply]

@[simp] theorem setOp_parent (s : Store) (sd : Side) (x : Nat) (v : Option Nat) : (setOp s sd x v).parent = s.parent := by
  cases sd <;> rfl
@[simp] theorem setOp_top (s : Store) (sd : Side) (x : Nat) (v : Option Nat) : (setOp s sd x v).top = s.top := by
  cases sd <;> rfl
@[simp] theorem setOp_n (s : Store) (sd : Side) (x : Nat) (v : Option Nat) : (setOp s sd x v).n = s.n := by
  cases sd <;> rfl

theorem setOp_self {s : Store} {sd : Side} {x : Nat} {v : Option Nat} (h : getOp s sd x = v) : setOp s sd x v = s := by
  have : ∀ f : Nat → Option Nat, upd f x (f x) = f := fun f => by
    funext j; rw [upd_apply]; split
    · rename_i hj; rw [hj]
    · rfl
  subst h
  cases sd <;> simp [setOp, getOp, this]

theorem WeakInv.slot_ne {s : Store} (w : WeakInv s) {sd sd' : Side} {p c : Nat}
    (h1 : getOp s sd p = some c) (h2 : getOp s sd' p = some c) : sd = sd' := by
  cases sd <;> cases sd'
  · rfl
  · exact (w.distinct p c h1 h2).elim
  · exact (w.distinct p c h2 h1).elim
  · rfl

theorem detach_spec (sd : Side) (s : Store) (x : Nat) (w : WeakInv s) :
    ∃ s1, detach sd s x = (s1, .ok) ∧ WeakInv s1 ∧ (Listed s → Listed s1) ∧ getOp s1 sd x = none ∧ s1.n = s.n
      ∧ (∀ c p, s1.parent c = some p → s.parent c = some p) := by
  unfold detach
  cases hc : getOp s sd x with
  | none => exact ⟨s, rfl, w, id, hc, rfl, fun _ _ h => h⟩
  | some c =>
    obtain ⟨s1, h1, ps⟩ := astParent_none_ok s c
    have hpc : s.parent c = some x := w.back hc
    refine ⟨s1, h1, ps.weak w, ?_, ?_, ps.n, ?_⟩
    · intro l c' p hp
      by_cases hcc : c' = c
      · subst hcc; rw [ps.parent] at hp; simp at hp
      · exact ps.listedExcept (l.except c) c' p hcc hp
    · rw [ps.getOp_eq]; simp [hpc, hc]
    · intro c' p hp; rw [ps.parent] at hp; split at hp <;> simp_all

theorem attach_spec (sd : Side) (s1 : Store) (x : Nat) (t : Option Nat) (w : WeakInv s1) (hfree : getOp s1 sd x = none) :
    WeakInv (attach sd s1 x t).1 ∧ (Listed s1 → Listed (attach sd s1 x t).1) := by
  unfold attach
  cases t with
  | none => rw [setOp_self hfree]; exact ⟨w, id⟩
  | some t0 =>
    simp only
    cases htop : astTop s1 t0 with
    | none => exact ⟨w, id⟩
    | some u =>
      simp only
      rcases astParent_cases s1 u (some x) with ⟨s2, h2, ps⟩ | h2 | h2
      · rw [h2]; simp only
        have w2 : WeakInv s2 := ps.weak w
        have hpu : s2.parent u = some x := by rw [ps.parent]; simp
        -- the slot that is overwritten is still null; `u` (from the `mAstTop` cache) may have had a parent, but `astParent`
        -- has just cleared it from that parent's slot, so `u` is in no slot of `s2`
        have hfree2 : getOp s2 sd x = none := by rw [ps.getOp_eq, hfree]; simp
        have hnou : ∀ sd' q, getOp s2 sd' q ≠ some u := fun sd' q hq =>
          (ps.getOp_some hq).2 ⟨w.back (ps.getOp_some hq).1, rfl⟩
        have hg := fun sd' q => getOp_setOp s2 sd sd' x q (some u)
        refine ⟨.of_slots (acyclic_of_sub w2.acyclic (by simp)) ?_ ?_, fun l => listed_iff.2 ?_⟩
        · intro sd' p c hc
          rw [setOp_parent]
          rw [hg] at hc
          split at hc
          · rename_i hh; rw [hh.2, ← Option.some.inj hc]; exact hpu
          · exact w2.back hc
        · intro sd1 sd2 p c g1 g2
          rw [hg] at g1 g2
          split at g1 <;> split at g2
          · rename_i a b; exact a.1.trans b.1.symm
          · exact absurd (Option.some.inj g1 ▸ g2) (hnou _ _)
          · exact absurd (Option.some.inj g2 ▸ g1) (hnou _ _)
          · exact w2.slot_ne g1 g2
        · intro c p hp
          rw [setOp_parent] at hp
          by_cases hcu : c = u
          · subst hcu; rw [hpu] at hp; cases hp; exact ⟨sd, by rw [hg]; simp⟩
          · obtain ⟨sd', h'⟩ := (or_iff_getOp _ _ _).1 (ps.listedExcept (l.except u) c p hcu hp)
            refine ⟨sd', ?_⟩
            rw [hg, if_neg]
            · exact h'
            · rintro ⟨rfl, rfl⟩; rw [hfree2] at h'; cases h'
      · rw [h2]; exact ⟨w, id⟩
      · rw [h2]; exact ⟨w, id⟩

theorem astParent_weak (s : Store) (x : Nat) (t : Option Nat) (w : WeakInv s) : WeakInv (astParent s x t).1 := by
  rcases astParent_cases s x t with ⟨s', h, ps⟩ | h | h <;> rw [h]
  · exact ps.weak w
  · exact w
  · exact w

theorem astOperand_spec (sd : Side) (s : Store) (x : Nat) (t : Option Nat) (w : WeakInv s) :
    WeakInv (astOperand sd s x t).1 ∧ (Listed s → Listed (astOperand sd s x t).1) := by
  obtain ⟨s1, h1, w1, l1, hfree, _, _⟩ := detach_spec sd s x w
  unfold astOperand
  rw [h1]
  have := attach_spec sd s1 x t w1 hfree
  exact ⟨this.1, fun l => this.2 (l1 l)⟩

theorem step_weak (s : Store) (o : Op) (w : WeakInv s) : WeakInv (step s o).1 := by
  cases o with
  | o1 x t => exact (astOperand_spec .one s x t w).1
  | o2 x t => exact (astOperand_spec .two s x t w).1
  | pa x t => exact astParent_weak s x t w
  | tp x t => exact ⟨acyclic_of_sub w.acyclic (fun _ _ h => h), w.opBack, w.distinct⟩

theorem step_inv (s : Store) (o : Op) (h : Inv s) (ho : o.viaOperands = true) : Inv (step s o).1 := by
  cases o with
  | o1 x t => exact ⟨(astOperand_spec .one s x t h.toWeakInv).1, (astOperand_spec .one s x t h.toWeakInv).2 h.listed⟩
  | o2 x t => exact ⟨(astOperand_spec .two s x t h.toWeakInv).1, (astOperand_spec .two s x t h.toWeakInv).2 h.listed⟩
  | pa x t => simp [Op.viaOperands] at ho
  | tp x t => exact ⟨step_weak s (.tp x t) h.toWeakInv, h.listed⟩

theorem init_inv (n : Nat) : Inv (init n) := by
  refine ⟨⟨?_, ?_, ?_⟩, ?_⟩
  · intro i hi; obtain ⟨p, hp, _⟩ := hi.inv; simp [init] at hp
  · intro p c h; simp [init] at h
  · intro p c h; simp [init] at h
  · intro c p h; simp [init] at h

/-! ### termination of the two pointer-chasing loops -/

/-- every parent pointer designates an existing token -/
def ParentsClosed (s : Store) : Prop := ∀ i v, s.parent i = some v → v < s.n

theorem Anc.isParent {s : Store} {a b : Nat} (h : Anc s a b) : ∃ c, s.parent c = some a := by
  induction h with
  | base h1 => exact ⟨_, h1⟩
  | step _ _ ih => exact ih

/-- `S` holds `c` and its ancestors -/
def Covers (s : Store) (S : List Nat) (c : Nat) : Prop := ∀ y, y = c ∨ Anc s y c → y ∈ S

theorem Covers.parent {s : Store} {S : List Nat} {c p : Nat} (h : Covers s S c) (hac : Acyclic s) (hp : s.parent c = some p) :
    Covers s (S.erase c) p ∧ (S.erase c).length < S.length := by
  refine ⟨fun y hy => ?_, ?_⟩
  · have hyc : Anc s y c := by
      rcases hy with rfl | hy
      · exact .base hp
      · exact .step hp hy
    exact (List.mem_erase_of_ne fun e : y = c => hac c (e ▸ hyc)).2 (h y (.inr hyc))
  · have hc := h c (.inl rfl)
    rw [List.length_erase_of_mem hc]
    exact Nat.sub_lt (List.length_pos_of_mem hc) Nat.one_pos

theorem covers_range {s : Store} (hcl : ParentsClosed s) {c : Nat} (hc : c < s.n) : Covers s (List.range s.n) c := by
  intro y hy
  rw [List.mem_range]
  rcases hy with rfl | hy
  · exact hc
  · obtain ⟨z, hz⟩ := hy.isParent
    exact hcl z y hz

theorem cycleWalk_bound {s : Store} (hac : Acyclic s) (x : Nat) : ∀ (f c : Nat) (S : List Nat),
    Covers s S c → S.length ≤ f → cycleWalk s x f (some c) ≠ .hang
  | 0, c, S, hS, hl => absurd (List.length_pos_of_mem (hS c (.inl rfl))) (Nat.not_lt.2 hl)
  | f + 1, c, S, hS, hl => by
    rw [cycleWalk]
    split
    · nofun
    · cases hp : s.parent c with
      | none => rw [cycleWalk_none]; nofun
      | some p =>
        obtain ⟨hS', hlen⟩ := hS.parent hac hp
        exact cycleWalk_bound hac x f p _ hS' (Nat.le_of_lt_succ (Nat.lt_of_lt_of_le hlen hl))

theorem topWalk_bound {s : Store} (hac : Acyclic s) : ∀ (f c : Nat) (S : List Nat),
    Covers s S c → S.length ≤ f + 1 → topWalk s f c ≠ none
  | f, c, S, hS, hl => by
    rw [topWalk]
    cases hp : s.parent c with
    | none => nofun
    | some p =>
      obtain ⟨hS', hlen⟩ := hS.parent hac hp
      have hl' := Nat.le_of_lt_succ (Nat.lt_of_lt_of_le hlen hl)
      match f, hl' with
      | 0, hl' => exact absurd (List.length_pos_of_mem (hS' p (.inl rfl))) (Nat.not_lt.2 hl')
      | f + 1, hl' => exact topWalk_bound hac f p _ hS' hl'

theorem cycleWalk_no_hang (s : Store) (hac : Acyclic s) (hcl : ParentsClosed s) (x : Nat) (t : Option Nat)
    (ht : ∀ c, t = some c → c < s.n) : cycleWalk s x s.n t ≠ .hang := by
  cases t with
  | none => rw [cycleWalk_none]; nofun
  | some c => exact cycleWalk_bound hac x s.n c _ (covers_range hcl (ht c rfl)) (by simp)

theorem astTop_some (s : Store) (hac : Acyclic s) (hcl : ParentsClosed s) (c : Nat) (hc : c < s.n) : ∃ u, astTop s c = some u := by
  unfold astTop
  cases s.top c with
  | some u => exact ⟨u, rfl⟩
  | none => exact Option.ne_none_iff_exists'.1 (topWalk_bound hac s.n c _ (covers_range hcl hc) (by simp))

theorem astParent_no_hang (s : Store) (hac : Acyclic s) (hcl : ParentsClosed s) (x : Nat) (t : Option Nat)
    (ht : ∀ c, t = some c → c < s.n) : (astParent s x t).2 ≠ .hang := by
  rcases astParent_cases s x t with ⟨s', h, _⟩ | h | h
  · rw [h]; simp
  · rw [h]; simp
  · exfalso
    have := cycleWalk_no_hang s hac hcl x t ht
    unfold astParent at h
    split at h <;> simp_all

theorem ParentSet.closed {s s' : Store} {x : Nat} {t : Option Nat} (h : ParentSet s s' x t) (hcl : ParentsClosed s)
    (ht : ∀ c, t = some c → c < s.n) : ParentsClosed s' := by
  intro i v hv
  rw [h.parent] at hv
  rw [h.n]
  split at hv
  · exact ht v hv
  · exact hcl i v hv

theorem astParent_closed (s : Store) (hcl : ParentsClosed s) (x : Nat) (t : Option Nat) (ht : ∀ c, t = some c → c < s.n) :
    ParentsClosed (astParent s x t).1 ∧ (astParent s x t).1.n = s.n := by
  rcases astParent_cases s x t with ⟨s', h, ps⟩ | h | h <;> rw [h]
  · exact ⟨ps.closed hcl ht, ps.n⟩
  · exact ⟨hcl, rfl⟩
  · exact ⟨hcl, rfl⟩

theorem astOperand_total (sd : Side) (s : Store) (x : Nat) (t : Option Nat) (w : WeakInv s) (hcl : ParentsClosed s)
    (hx : x < s.n) (ht : ∀ c, t = some c → c < s.n) :
    (astOperand sd s x t).2 ≠ .hang ∧ ParentsClosed (astOperand sd s x t).1 ∧ (astOperand sd s x t).1.n = s.n := by
  obtain ⟨s1, h1, w1, _, _, hn, hsub⟩ := detach_spec sd s x w
  have hcl1 : ParentsClosed s1 := fun i v hv => hn ▸ hcl i v (hsub i v hv)
  unfold astOperand
  rw [h1]
  simp only
  unfold attach
  cases t with
  | none => exact ⟨by simp, by simpa [ParentsClosed] using hcl1, by simp [hn]⟩
  | some t0 =>
    simp only
    obtain ⟨u, hu⟩ := astTop_some s1 w1.acyclic hcl1 t0 (hn ▸ ht t0 rfl)
    rw [hu]
    simp only
    have hx1 : ∀ c, some x = some c → c < s1.n := fun c hc => by cases hc; exact hn ▸ hx
    have hnh := astParent_no_hang s1 w1.acyclic hcl1 u (some x) hx1
    have hc2 := astParent_closed s1 hcl1 u (some x) hx1
    rcases astParent_cases s1 u (some x) with ⟨s2, h2, ps⟩ | h2 | h2
    · rw [h2] at hc2 ⊢
      exact ⟨by simp, by simpa [ParentsClosed] using hc2.1, by simp only [setOp_n]; exact ps.n.trans hn⟩
    · rw [h2]; exact ⟨by simp, hcl1, hn⟩
    · rw [h2] at hnh; simp at hnh

theorem step_total (s : Store) (o : Op) (w : WeakInv s) (hcl : ParentsClosed s) (ho : o.inRange s.n = true) :
    (step s o).2 ≠ .hang ∧ ParentsClosed (step s o).1 ∧ (step s o).1.n = s.n := by
  cases o with
  | o1 x t =>
    simp only [Op.inRange, Bool.and_eq_true, decide_eq_true_eq] at ho
    exact astOperand_total .one s x t w hcl ho.1 (fun c hc => by subst hc; simpa using ho.2)
  | o2 x t =>
    simp only [Op.inRange, Bool.and_eq_true, decide_eq_true_eq] at ho
    exact astOperand_total .two s x t w hcl ho.1 (fun c hc => by subst hc; simpa using ho.2)
  | pa x t =>
    simp only [Op.inRange, Bool.and_eq_true, decide_eq_true_eq] at ho
    have ht : ∀ c, t = some c → c < s.n := fun c hc => by subst hc; simpa using ho.2
    exact ⟨astParent_no_hang s w.acyclic hcl x t ht, astParent_closed s hcl x t ht⟩
  | tp x t => exact ⟨by simp [step], hcl, rfl⟩

theorem run_all (P : Store → Prop) (Q : Op → Bool) (hstep : ∀ s o, P s → Q o = true → P (step s o).1) :
    ∀ (ops : List Op) (s : Store), P s → ops.all Q = true → P (run s ops).1 ∧ ∀ p ∈ trace s ops, P p.2 := by
  intro ops
  induction ops with
  | nil => intro s h _; exact ⟨h, by simp [trace]⟩
  | cons o r ih =>
    intro s h ho
    simp only [List.all_cons, Bool.and_eq_true] at ho
    have h1 := hstep s o h ho.1
    simp only [run, trace]
    cases hs : step s o with
    | mk s1 oc =>
      rw [hs] at h1
      have := ih s1 h1 ho.2
      cases oc with
      | hang => exact ⟨h1, by simpa using h1⟩
      | ok | throw =>
        refine ⟨this.1, ?_⟩
        intro p hp
        rcases List.mem_cons.1 hp with hp | hp
        · rw [hp]; exact h1
        · exact this.2 p hp

theorem run_total : ∀ (ops : List Op) (s : Store), WeakInv s → ParentsClosed s → ops.all (Op.inRange s.n) = true →
    (run s ops).2 ≠ .hang := by
  intro ops
  induction ops with
  | nil => intro s _ _ _; simp [run]
  | cons o r ih =>
    intro s w hcl ho
    simp only [List.all_cons, Bool.and_eq_true] at ho
    have ht := step_total s o w hcl ho.1
    have hw := step_weak s o w
    simp only [run]
    cases hs : step s o with
    | mk s1 oc =>
      rw [hs] at ht hw
      cases oc with
      | hang => exact absurd rfl ht.1
      | ok | throw => exact ih s1 hw ht.2.1 (by rw [ht.2.2]; exact ho.2)

end Cppcheck.AstStore
