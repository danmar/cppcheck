import Cppcheck.Model.RunState
import Cppcheck.Proofs.FirstOfKey
/-
C17 — the simulation (`Inv`) between a file analysed on the state earlier files left behind (`c`) and the same file analysed on the
start state (`a`); the two suppression lists are related by `Between`.  Then the duplicate filter `dedupBy` over concatenated output
streams, and what files leave in the state that the next file is analysed on (`Grows`).
-/
namespace Cppcheck.RunState
open Cppcheck.Wire

variable {S : Type}

theorem mem_addSuppr (same : S → S → Bool) (l : List S) (s t : S) :
    t ∈ addSuppr same l s ↔ t ∈ l ∨ (t = s ∧ ∀ u, u ∈ l → same s u = false) := by
  unfold addSuppr
  by_cases h : l.any (fun u => same s u) = true
  · obtain ⟨u, hu, hs⟩ := List.any_eq_true.1 h
    rw [if_pos h]
    exact ⟨.inl, fun h' => h'.elim id fun ⟨_, hn⟩ => by rw [hn u hu] at hs; cases hs⟩
  · rw [if_neg h, List.mem_append, List.mem_singleton]
    simp only [List.any_eq_true, not_exists, not_and, Bool.not_eq_true] at h
    rw [and_iff_left h]

theorem subset_addSuppr (same : S → S → Bool) (l : List S) (s : S) : ∀ t, t ∈ l → t ∈ addSuppr same l s :=
  fun t h => (mem_addSuppr same l s t).2 (Or.inl h)

theorem updState_eq (cfg : Cfg S) (x : Finding) (m : List Str) (b d : Bool) (st : State S) :
    updState cfg x m b d st =
      { st with
        errorList := (if x.text.isEmpty || d || cfg.emitDuplicates || b then [] else [x.text]) ++ st.errorList
        suppressedList := (if x.text.isEmpty || d || cfg.emitDuplicates || !b then [] else [x.text]) ++ st.suppressedList
        exitCode := if x.text.isEmpty || d || b || cfg.nofail x m then st.exitCode else 1 } := by
  unfold updState
  cases (x.text.isEmpty || d) <;> cases cfg.emitDuplicates <;> cases b <;> cases cfg.nofail x m <;> rfl

@[simp] theorem updState_supprs (cfg : Cfg S) (x m b d) (st : State S) : (updState cfg x m b d st).supprs = st.supprs := by
  rw [updState_eq]
@[simp] theorem updState_locMacros (cfg : Cfg S) (x m b d) (st : State S) : (updState cfg x m b d st).locMacros = st.locMacros := by
  rw [updState_eq]
@[simp] theorem updState_remarks (cfg : Cfg S) (x m b d) (st : State S) : (updState cfg x m b d st).remarks = st.remarks := by
  rw [updState_eq]

theorem reportErr_supprs (cfg : Cfg S) (st : State S) (o x) : (reportErr cfg st o x).1.supprs = st.supprs := by
  unfold reportErr; split <;> simp
theorem reportErr_locMacros (cfg : Cfg S) (st : State S) (o x) : (reportErr cfg st o x).1.locMacros = st.locMacros := by
  unfold reportErr; split <;> simp
theorem reportErr_remarks (cfg : Cfg S) (st : State S) (o x) : (reportErr cfg st o x).1.remarks = st.remarks := by
  unfold reportErr; split <;> simp

@[simp] theorem flag_supprs (cfg : Cfg S) (st : State S) (x) (st' : State S) : (flag cfg st x st').supprs = st'.supprs := by
  unfold flag; split <;> rfl
@[simp] theorem flag_errorList (cfg : Cfg S) (st : State S) (x) (st' : State S) : (flag cfg st x st').errorList = st'.errorList := by
  unfold flag; split <;> rfl
@[simp] theorem flag_suppressedList (cfg : Cfg S) (st : State S) (x) (st' : State S) :
    (flag cfg st x st').suppressedList = st'.suppressedList := by
  unfold flag; split <;> rfl
@[simp] theorem flag_locMacros (cfg : Cfg S) (st : State S) (x) (st' : State S) : (flag cfg st x st').locMacros = st'.locMacros := by
  unfold flag; split <;> rfl
@[simp] theorem flag_remarks (cfg : Cfg S) (st : State S) (x) (st' : State S) : (flag cfg st x st').remarks = st'.remarks := by
  unfold flag; split <;> rfl
@[simp] theorem flag_exitCode (cfg : Cfg S) (st : State S) (x) (st' : State S) : (flag cfg st x st').exitCode = st'.exitCode := by
  unfold flag; split <;> rfl
theorem flag_internal (cfg : Cfg S) (st : State S) (x : Finding) (st' : State S) (h : x.internal = true) :
    flag cfg st x st' = st' := by
  unfold flag; rw [if_pos h]
@[simp] theorem markStep_supprs (cfg : Cfg S) (toks) (st : State S) : (markStep cfg toks st).supprs = st.supprs := rfl
@[simp] theorem markStep_errorList (cfg : Cfg S) (toks) (st : State S) : (markStep cfg toks st).errorList = st.errorList := rfl
@[simp] theorem markStep_suppressedList (cfg : Cfg S) (toks) (st : State S) :
    (markStep cfg toks st).suppressedList = st.suppressedList := rfl
@[simp] theorem markStep_locMacros (cfg : Cfg S) (toks) (st : State S) : (markStep cfg toks st).locMacros = st.locMacros := rfl
@[simp] theorem markStep_remarks (cfg : Cfg S) (toks) (st : State S) : (markStep cfg toks st).remarks = st.remarks := rfl
@[simp] theorem markStep_exitCode (cfg : Cfg S) (toks) (st : State S) : (markStep cfg toks st).exitCode = st.exitCode := rfl

@[simp] theorem clearLists_supprs (st : State S) : (clearLists st).supprs = st.supprs := rfl
@[simp] theorem clearLists_locMacros (st : State S) : (clearLists st).locMacros = st.locMacros := rfl
@[simp] theorem clearLists_remarks (st : State S) : (clearLists st).remarks = st.remarks := rfl
@[simp] theorem clearLists_exitCode (st : State S) : (clearLists st).exitCode = st.exitCode := rfl
@[simp] theorem clearLists_errorList (st : State S) : (clearLists st).errorList = [] := rfl
@[simp] theorem clearLists_suppressedList (st : State S) : (clearLists st).suppressedList = [] := rfl

@[simp] theorem enter_supprs (cfg : Cfg S) (st : State S) : (enter cfg st).supprs = st.supprs := by
  unfold enter; split <;> rfl
@[simp] theorem enter_locMacros (cfg : Cfg S) (st : State S) : (enter cfg st).locMacros = st.locMacros := by
  unfold enter; split <;> rfl
@[simp] theorem enter_remarks (cfg : Cfg S) (st : State S) : (enter cfg st).remarks = st.remarks := by
  unfold enter; split <;> rfl
@[simp] theorem enter_exitCode (cfg : Cfg S) (st : State S) : (enter cfg st).exitCode = 0 := by
  unfold enter; split <;> rfl

/-- `C` holds `A` and, beyond it, only entries of `F` -/
structure Between (F A C : List S) : Prop where
  low : ∀ s, s ∈ A → s ∈ C
  high : ∀ s, s ∈ C → s ∈ A ∨ s ∈ F

theorem Between.any {F A C : List S} (h : Between F A C) (p : S → Bool) (hF : ∀ s, s ∈ F → p s = true → A.any p = true) :
    C.any p = A.any p := by
  apply Bool.eq_iff_iff.2
  simp only [List.any_eq_true]
  exact ⟨fun ⟨s, hs, hp⟩ => (h.high s hs).elim (fun h1 => ⟨s, h1, hp⟩) fun h1 => List.any_eq_true.1 (hF s h1 hp),
    fun ⟨s, hs, hp⟩ => ⟨s, h.low s hs, hp⟩⟩

/-- `hs` is H2.  An entry of `C` with the parameters of `s` is in `A`, and then `s` is new on neither side, or it is in `F`, and then
    it is `s`, which `C` holds already -/
theorem Between.addSuppr {F A C : List S} (h : Between F A C) (same : S → S → Bool) (s : S)
    (hs : ∀ s', s' ∈ F → same s s' = true → s' = s) : Between F (addSuppr same A s) (addSuppr same C s) where
  low u hu := by
    rcases (mem_addSuppr _ _ _ _).1 hu with hu | ⟨rfl, hnew⟩
    · exact subset_addSuppr _ _ _ _ (h.low u hu)
    · by_cases hc : ∃ v, v ∈ C ∧ same u v = true
      · obtain ⟨v, hv, hsame⟩ := hc
        rcases h.high v hv with hva | hvF
        · rw [hnew v hva] at hsame; cases hsame
        · cases hs v hvF hsame
          exact subset_addSuppr _ _ _ _ hv
      · exact (mem_addSuppr _ _ _ _).2 (Or.inr ⟨rfl, fun v hv => by simpa using fun h => hc ⟨v, hv, h⟩⟩)
  high u hu := by
    rcases (mem_addSuppr _ _ _ _).1 hu with hu | ⟨rfl, hnew⟩
    · exact (h.high u hu).imp_left (subset_addSuppr _ _ _ _)
    · exact Or.inl ((mem_addSuppr _ _ _ _).2 (Or.inr ⟨rfl, fun v hv => hnew v (h.low v hv)⟩))

/-- `c`: the state the file is analysed on in company, `a`: alone; `F`: what earlier files left in `c.supprs`.
    `fOK`, `sOK`, `mac`, `rem`, `dup`: H1–H5 of `Indep`, for the events still to come -/
structure Inv (cfg : Cfg S) (F : List S) (evs : List (Ev S)) (c a : State S) : Prop where
  sup : Between F a.supprs c.supprs
  fOK : foreignOK cfg F a.supprs a.locMacros evs = true
  sOK : ∀ s, s ∈ supprsOf evs → ∀ s', s' ∈ F → cfg.same s s' = true → s' = s
  mac : ∀ x, x ∈ preMacroReports evs → x.internal = false → lookupMacros c.locMacros x = lookupMacros a.locMacros x
  rem : ∀ x, x ∈ preRemarkReports evs → x.internal = false → remarkFor c.remarks x = remarkFor a.remarks x
  dup : cfg.emitDuplicates = false → ∀ x, x ∈ reportsOf evs → x.internal = false →
    c.errorList.contains x.text = a.errorList.contains x.text ∧
    c.suppressedList.contains x.text = a.suppressedList.contains x.text
  ex : c.exitCode = a.exitCode

theorem Inv.flags {cfg : Cfg S} {F : List S} {evs : List (Ev S)} {c a : State S} (h : Inv cfg F evs c a) (k m k' m' : List S) :
    Inv cfg F evs { c with checked := k, matched := m } { a with checked := k', matched := m' } :=
  ⟨h.sup, h.fOK, h.sOK, h.mac, h.rem, h.dup, h.ex⟩

theorem Inv.flagged {cfg : Cfg S} {F : List S} {evs : List (Ev S)} {c a : State S} (h : Inv cfg F evs c a) (s s' : State S)
    (x : Finding) : Inv cfg F evs (flag cfg s x c) (flag cfg s' x a) := by
  unfold flag
  split
  · exact h
  · exact h.flags ..

theorem Inv.upd {cfg : Cfg S} {F : List S} {evs : List (Ev S)} {c a : State S} (h : Inv cfg F evs c a) (x : Finding)
    (m : List Str) (b d : Bool) : Inv cfg F evs (updState cfg x m b d c) (updState cfg x m b d a) := by
  rw [updState_eq, updState_eq]
  refine ⟨h.sup, h.fOK, h.sOK, h.mac, h.rem, fun he y hy hi => ?_, ?_⟩
  · simp only [List.contains_append, h.dup he y hy hi, and_self]
  · simp only [h.ex]

/-- The events other than `suppr` and `report` drop out of every list `Inv` looks at (`supprsOf`, `reportsOf`, …) by
    computation, so its fields carry over as they are. -/
theorem step_sim (cfg : Cfg S) (F : List S) (e : Ev S) (t : List (Ev S)) (c a : State S) (o : Out)
    (h : Inv cfg F (e :: t) c a) :
    (stepEv cfg c o e).2 = (stepEv cfg a o e).2 ∧ Inv cfg F t (stepEv cfg c o e).1 (stepEv cfg a o e).1 := by
  cases e with
  | remarks r => exact ⟨rfl, ⟨h.sup, h.fOK, h.sOK, h.mac, fun _ _ _ => rfl, h.dup, h.ex⟩⟩
  | macros m => exact ⟨rfl, ⟨h.sup, h.fOK, h.sOK, fun _ _ _ => rfl, h.rem, h.dup, h.ex⟩⟩
  | probe x =>
    have h' : Inv cfg F t c a := ⟨h.sup, h.fOK, h.sOK, h.mac, h.rem, h.dup, h.ex⟩
    exact ⟨rfl, h'.flagged c a x⟩
  | mark toks =>
    have h' : Inv cfg F t c a := ⟨h.sup, h.fOK, h.sOK, h.mac, h.rem, h.dup, h.ex⟩
    exact ⟨rfl, h'.flags ..⟩
  | suppr s =>
    exact ⟨rfl, h.sup.addSuppr cfg.same s (h.sOK s List.mem_cons_self), h.fOK, fun u hu => h.sOK u (List.mem_cons_of_mem _ hu),
      h.mac, h.rem, h.dup, h.ex⟩
  | report x =>
    have hf := h.fOK
    simp only [foreignOK, Bool.and_eq_true, Bool.or_eq_true] at hf
    obtain ⟨hfx, hft⟩ := hf
    have h' : Inv cfg F t c a :=
      ⟨h.sup, hft, h.sOK, fun y hy => h.mac y (List.mem_cons_of_mem _ hy),
        fun y hy => h.rem y (List.mem_cons_of_mem _ hy), fun he y hy => h.dup he y (List.mem_cons_of_mem _ hy), h.ex⟩
    by_cases hi : x.internal = true
    · have r : ∀ st : State S, reportErr cfg st o x = (st, { o with forwarded := o.forwarded ++ [x] }) :=
        fun st => by simp [reportErr, hi]
      simp only [stepEv, r, flag_internal _ _ _ _ hi]
      exact ⟨trivial, h'⟩
    · have hi' : x.internal = false := by simpa using hi
      have hm : lookupMacros c.locMacros x = lookupMacros a.locMacros x := h.mac x List.mem_cons_self hi'
      have hr : remarkFor c.remarks x = remarkFor a.remarks x := h.rem x List.mem_cons_self hi'
      have hsup : c.supprs.any (fun s => cfg.hits s x (lookupMacros c.locMacros x)) =
          a.supprs.any (fun s => cfg.hits s x (lookupMacros a.locMacros x)) := by
        rw [hm]
        refine h.sup.any _ fun s hs hhit => ?_
        simpa [hi', hhit] using List.all_eq_true.1 (hfx.resolve_left (by simp [hi'])) s hs
      have hdh : (!cfg.emitDuplicates &&
            (if c.supprs.any (fun s => cfg.hits s x (lookupMacros c.locMacros x)) then c.suppressedList else c.errorList).contains x.text) =
          (!cfg.emitDuplicates &&
            (if a.supprs.any (fun s => cfg.hits s x (lookupMacros a.locMacros x)) then a.suppressedList else a.errorList).contains x.text) := by
        rw [hsup]
        cases he : cfg.emitDuplicates
        · obtain ⟨d1, d2⟩ := h.dup he x List.mem_cons_self hi'
          cases hA : a.supprs.any (fun s => cfg.hits s x (lookupMacros a.locMacros x))
          · simpa using d1
          · simpa using d2
        · simp
      simp only [stepEv, reportErr, hi', Bool.false_eq_true, if_false]
      rw [hdh, hsup, hm, hr]
      exact ⟨rfl, (h'.upd ..).flagged ..⟩

theorem run_sim (cfg : Cfg S) (F : List S) (evs : List (Ev S)) : ∀ (c a : State S) (o : Out),
    Inv cfg F evs c a →
    (runEvs cfg c o evs).2 = (runEvs cfg a o evs).2 ∧ (runEvs cfg c o evs).1.exitCode = (runEvs cfg a o evs).1.exitCode := by
  induction evs with
  | nil => intro c a o h; exact ⟨rfl, h.ex⟩
  | cons e t ih =>
    intro c a o h
    obtain ⟨ho, hi⟩ := step_sim cfg F e t c a o h
    simp only [runEvs]
    rw [ho]
    exact ih _ _ _ hi

/-! ### between files -/

theorem checkFile_lists_normal (cfg : Cfg S) (st : State S) (tr : Trace S) (h : tr.early = false) :
    (checkFile cfg st tr).1.errorList = [] ∧ (checkFile cfg st tr).1.suppressedList = [] := by
  unfold checkFile
  simp [h]

theorem dedupBy_eq (key : Finding → Str) : ∀ seen l, dedupBy key seen l = FirstOfKey.firsts key seen l :=
  FirstOfKey.eq_firsts (fun _ => rfl) (fun s x r h => by simp [dedupBy, h]) (fun s x r h => by simp [dedupBy, h])

theorem dedupBy_append (key : Finding → Str) (l1 : List Finding) : ∀ (seen : List Str) (l2 : List Finding),
    dedupBy key seen (l1 ++ l2) = dedupBy key seen l1 ++ dedupBy key ((dedupBy key seen l1).reverse.map key ++ seen) l2 := by
  simp only [dedupBy_eq]; exact fun seen l2 => FirstOfKey.firsts_append key seen l1 l2

/-- membership in the `seen` list is all that matters -/
theorem dedupBy_seen_congr (key : Finding → Str) (l : List Finding) : ∀ (s1 s2 : List Str),
    (∀ k, s1.contains k = s2.contains k) → dedupBy key s1 l = dedupBy key s2 l := by
  simp only [dedupBy_eq]
  exact fun s1 s2 h => FirstOfKey.firsts_congr key l fun k => by simpa using congrArg (· = true) (h k)

/-- filtering a stream that was already filtered (from nothing) changes nothing: the keys it lets through are
    remembered either way -/
theorem dedupBy_dedupBy_prefix (key : Finding → Str) (l1 l2 : List Finding) (seen : List Str) :
    dedupBy key seen (dedupBy key seen l1 ++ l2) = dedupBy key seen (l1 ++ l2) := by
  rw [dedupBy_append, dedupBy_append]
  simp only [dedupBy_eq]
  rw [FirstOfKey.firsts_eq_self key seen _ (FirstOfKey.not_seen_of_mem_firsts key seen l1)
    (FirstOfKey.nodup_keys_firsts key seen l1)]

theorem dedupBy_subset (key : Finding → Str) (l : List Finding) : ∀ (seen : List Str) x, x ∈ dedupBy key seen l → x ∈ l :=
  fun seen _ h => (dedupBy_eq key seen l ▸ FirstOfKey.firsts_sublist key seen l).subset h

/-- filtering the concatenation of separately filtered streams = filtering the concatenation -/
theorem dedupBy_flatMap {β : Type} (key : Finding → Str) (g : β → List Finding) (fs : List β) : ∀ (seen : List Str),
    dedupBy key seen (fs.flatMap fun f => dedupBy key [] (g f)) = dedupBy key seen (fs.flatMap g) := by
  induction fs with
  | nil => intro _; rfl
  | cons f rest ih =>
    intro seen
    simp only [List.flatMap_cons]
    rw [dedupBy_append, dedupBy_append, ih]
    simp only [dedupBy_eq, FirstOfKey.firsts_firsts key (g f) (List.nil_subset seen)]

/-- all that is used of the duplicate filter `D`: it only drops, what it lets through of a prefix does not depend on what
    follows, and it does not see an earlier pass of itself over the pieces -/
theorem filter_pieces {β γ : Type} (D : List γ → List γ) (sub : ∀ l x, x ∈ D l → x ∈ l)
    (app : ∀ l1 l2, ∃ r, (∀ x, x ∈ r → x ∈ l2) ∧ D (l1 ++ l2) = D l1 ++ r)
    (flat : ∀ (g : β → List γ) (fs : List β), D (fs.flatMap fun f => D (g f)) = D (fs.flatMap g))
    (p q : γ → Bool) (g : β → List γ) (fs : List β) (w : List γ)
    (hg : ∀ f, f ∈ fs → ∀ x, x ∈ g f → p x = true) (hw : ∀ x, x ∈ w → p x = false) :
    (D ((fs.flatMap g ++ w).filter q)).filter p = D ((fs.flatMap fun f => D ((g f).filter q)).filter q) := by
  have e : ∀ f, (D ((g f).filter q)).filter q = D ((g f).filter q) := fun f =>
    List.filter_eq_self.2 fun x hx => (List.mem_filter.1 (sub _ x hx)).2
  rw [List.filter_flatMap, funext e, flat fun f => (g f).filter q, ← List.filter_flatMap, List.filter_append]
  obtain ⟨r, hr, h⟩ := app ((fs.flatMap g).filter q) (w.filter q)
  have hl : (D ((fs.flatMap g).filter q)).filter p = D ((fs.flatMap g).filter q) := List.filter_eq_self.2 fun x hx =>
    have ⟨f, hf, hxf⟩ := List.mem_flatMap.1 (List.mem_filter.1 (sub _ x hx)).1
    hg f hf x hxf
  have hr : r.filter p = [] := List.filter_eq_nil_iff.2 fun x hx => by
    rw [hw x (List.mem_filter.1 (hr x hx)).1]; exact Bool.false_ne_true
  rw [h, List.filter_append, hl, hr, List.append_nil]

theorem runFrom_append {α : Type} (cfg : Cfg S) (analyze : α → Trace S) (l1 : List α) : ∀ (st : State S) (l2 : List α),
    runFrom cfg analyze st (l1 ++ l2) =
      ((runFrom cfg analyze (runFrom cfg analyze st l1).1 l2).1,
       (runFrom cfg analyze st l1).2 ++ (runFrom cfg analyze (runFrom cfg analyze st l1).1 l2).2) := by
  induction l1 with
  | nil => intro st l2; simp [runFrom]
  | cons f rest ih => intro st l2; simp [runFrom, ih]

theorem runFrom_length {α : Type} (cfg : Cfg S) (analyze : α → Trace S) (l : List α) : ∀ (st : State S),
    (runFrom cfg analyze st l).2.length = l.length := by
  induction l with
  | nil => intro _; rfl
  | cons f rest ih => intro st; simp [runFrom, ih]

/-! ### the `checked` flags: who can set the flag of an entry -/

@[simp] theorem updState_checked (cfg : Cfg S) (x m b d) (st : State S) : (updState cfg x m b d st).checked = st.checked := by
  rw [updState_eq]

theorem reportErr_checked (cfg : Cfg S) (st : State S) (o x) : (reportErr cfg st o x).1.checked = st.checked := by
  unfold reportErr; split <;> simp

@[simp] theorem clearLists_checked (st : State S) : (clearLists st).checked = st.checked := rfl
@[simp] theorem enter_checked (cfg : Cfg S) (st : State S) : (enter cfg st).checked = st.checked := by
  unfold enter; split <;> rfl

/-- an event of a file can set the `checked` flag of the entry `s`: a marked token list names the file of `s` on a line
    that passes the line test, or a tested message touches `s` (for some macro names) -/
def couldCheck (cfg : Cfg S) (s : S) (evs : List (Ev S)) : Prop :=
  (∃ toks, toks ∈ marksOf evs ∧ ∃ t, t ∈ toks ∧ cfg.fileOf s = t.1 ∧ cfg.markLine s t.2 = true) ∨
  (∃ x, x ∈ testedOf evs ∧ ∃ m, cfg.touches s x m = true)

theorem markStep_checked_mem (cfg : Cfg S) (toks : List (Str × Int)) (st : State S) (s : S) :
    s ∈ (markStep cfg toks st).checked ↔
      s ∈ st.checked ∨ (s ∈ st.supprs ∧ ∃ t, t ∈ toks ∧ cfg.fileOf s = t.1 ∧ cfg.markLine s t.2 = true) := by
  simp only [markStep, List.mem_append, List.mem_filter, List.any_eq_true, Bool.and_eq_true, beq_iff_eq]

theorem flag_checked_mem (cfg : Cfg S) (st : State S) (x : Finding) (st' : State S) (s : S)
    (h : s ∈ (flag cfg st x st').checked) :
    s ∈ st'.checked ∨ (x.internal = false ∧ s ∈ st.supprs ∧ cfg.touches s x (lookupMacros st.locMacros x) = true) := by
  unfold flag at h
  by_cases hi : x.internal = true
  · rw [if_pos hi] at h; exact Or.inl h
  · rw [if_neg hi] at h
    simp only [List.mem_append, List.mem_filter] at h
    rcases h with h | h
    · exact Or.inl h
    · exact Or.inr ⟨by simpa using hi, h.1, h.2⟩

theorem stepEv_checked_origin (cfg : Cfg S) (st : State S) (o : Out) (e : Ev S) (s : S)
    (h : s ∈ (stepEv cfg st o e).1.checked) : s ∈ st.checked ∨ couldCheck cfg s [e] := by
  cases e with
  | suppr u => exact Or.inl h
  | remarks r => exact Or.inl h
  | macros m => exact Or.inl h
  | report x =>
    rcases flag_checked_mem cfg st x _ s h with h1 | ⟨_, _, h3⟩
    · exact Or.inl (by simpa [reportErr_checked] using h1)
    · exact Or.inr (Or.inr ⟨x, by simp [testedOf], _, h3⟩)
  | probe x =>
    rcases flag_checked_mem cfg st x _ s h with h1 | ⟨_, _, h3⟩
    · exact Or.inl h1
    · exact Or.inr (Or.inr ⟨x, by simp [testedOf], _, h3⟩)
  | mark toks =>
    rcases (markStep_checked_mem cfg toks st s).1 h with h1 | ⟨_, t, ht, hf, hl⟩
    · exact Or.inl h1
    · exact Or.inr (Or.inl ⟨toks, by simp [marksOf], t, ht, hf, hl⟩)

theorem marksOf_cons (e : Ev S) (t : List (Ev S)) : marksOf (e :: t) = marksOf [e] ++ marksOf t := by
  cases e <;> rfl

theorem testedOf_cons (e : Ev S) (t : List (Ev S)) : testedOf (e :: t) = testedOf [e] ++ testedOf t := by
  cases e <;> rfl

theorem couldCheck_cons (cfg : Cfg S) (s : S) (e : Ev S) (t : List (Ev S)) :
    couldCheck cfg s (e :: t) ↔ couldCheck cfg s [e] ∨ couldCheck cfg s t := by
  unfold couldCheck
  rw [marksOf_cons, testedOf_cons]
  simp only [List.mem_append, or_and_right, exists_or]
  exact or_or_or_comm

theorem supprsOf_cons (e : Ev S) (t : List (Ev S)) : supprsOf (e :: t) = supprsOf [e] ++ supprsOf t := by
  cases e <;> rfl

/-- entries of the suppression list are only added, each with a cause `A`; a `checked` flag is only set with a cause `C` -/
structure Grows (A C : S → Prop) (st st' : State S) : Prop where
  mono : ∀ s, s ∈ st.supprs → s ∈ st'.supprs
  origin : ∀ s, s ∈ st'.supprs → s ∈ st.supprs ∨ A s
  checked : ∀ s, s ∈ st'.checked → s ∈ st.checked ∨ C s

theorem Grows.refl (A C : S → Prop) (st : State S) : Grows A C st st :=
  ⟨fun _ => id, fun _ => .inl, fun _ => .inl⟩

theorem Grows.trans {A C A' C' A'' C'' : S → Prop} {st st' st'' : State S} (h : Grows A C st st') (h' : Grows A' C' st' st'')
    (hA : ∀ s, A s ∨ A' s → A'' s) (hC : ∀ s, C s ∨ C' s → C'' s) : Grows A'' C'' st st'' where
  mono s hs := h'.mono s (h.mono s hs)
  origin s hs := (h'.origin s hs).elim (fun h1 => (h.origin s h1).imp_right fun a => hA s (.inl a)) fun a => .inr (hA s (.inr a))
  checked s hs := (h'.checked s hs).elim (fun h1 => (h.checked s h1).imp_right fun c => hC s (.inl c)) fun c => .inr (hC s (.inr c))

theorem stepEv_supprs (cfg : Cfg S) (st : State S) (o : Out) (e : Ev S) :
    (stepEv cfg st o e).1.supprs = match e with
      | .suppr s => addSuppr cfg.same st.supprs s
      | _ => st.supprs := by
  cases e with
  | report x => exact (flag_supprs ..).trans (reportErr_supprs ..)
  | probe x => exact flag_supprs ..
  | _ => rfl

theorem step_grows (cfg : Cfg S) (st : State S) (o : Out) (e : Ev S) :
    Grows (· ∈ supprsOf [e]) (couldCheck cfg · [e]) st (stepEv cfg st o e).1 where
  mono s hs := by
    rw [stepEv_supprs]
    cases e with
    | suppr t => exact subset_addSuppr _ _ _ _ hs
    | _ => exact hs
  origin s h := by
    rw [stepEv_supprs] at h
    cases e with
    | suppr u => exact ((mem_addSuppr _ _ _ _).1 h).imp_right fun ⟨h, _⟩ => h ▸ List.mem_cons_self
    | _ => exact .inl h
  checked := stepEv_checked_origin cfg st o e

theorem runEvs_grows (cfg : Cfg S) : ∀ (evs : List (Ev S)) (st : State S) (o : Out),
    Grows (· ∈ supprsOf evs) (couldCheck cfg · evs) st (runEvs cfg st o evs).1
  | [], st, _ => Grows.refl _ _ st
  | e :: t, st, o => (step_grows cfg st o e).trans (runEvs_grows cfg t _ _)
      (fun s h => by rw [supprsOf_cons]; exact List.mem_append.2 h) fun s => (couldCheck_cons cfg s e t).2

/-- neither exit of `checkFile` (with or without `clear()`) touches them -/
theorem checkFile_fst (cfg : Cfg S) (st : State S) (tr : Trace S) :
    (checkFile cfg st tr).1.supprs = (runEvs cfg (enter cfg st) ⟨[], []⟩ tr.evs).1.supprs ∧
    (checkFile cfg st tr).1.checked = (runEvs cfg (enter cfg st) ⟨[], []⟩ tr.evs).1.checked := by
  unfold checkFile
  dsimp only
  split <;> exact ⟨rfl, rfl⟩

theorem checkFile_grows (cfg : Cfg S) (st : State S) (tr : Trace S) :
    Grows (· ∈ supprsOf tr.evs) (couldCheck cfg · tr.evs) st (checkFile cfg st tr).1 := by
  obtain ⟨h1, h2⟩ := checkFile_fst cfg st tr
  obtain ⟨a, b, c⟩ := runEvs_grows cfg tr.evs (enter cfg st) ⟨[], []⟩
  rw [enter_supprs, ← h1] at a b
  rw [enter_checked, ← h2] at c
  exact ⟨a, b, c⟩

theorem exists_mem_cons_of {α : Type} (p : α → Prop) {a : α} {l : List α} (h : p a ∨ ∃ x ∈ l, p x) : ∃ x ∈ a :: l, p x :=
  h.elim (fun h => ⟨a, List.mem_cons_self, h⟩) fun ⟨x, hx, h⟩ => ⟨x, List.mem_cons_of_mem _ hx, h⟩

theorem stateAfter_grows {α : Type} (cfg : Cfg S) (analyze : α → Trace S) : ∀ (pre : List α) (init : State S),
    Grows (fun s => ∃ g ∈ pre, s ∈ supprsOf (analyze g).evs) (fun s => ∃ g ∈ pre, couldCheck cfg s (analyze g).evs)
      init (stateAfter cfg analyze init pre)
  | [], init => Grows.refl _ _ init
  | f :: rest, init => (checkFile_grows cfg init (analyze f)).trans (stateAfter_grows cfg analyze rest _)
      (fun s => exists_mem_cons_of fun g => s ∈ supprsOf (analyze g).evs) fun s => exists_mem_cons_of fun g => couldCheck cfg s (analyze g).evs

/-- where the suppressions left behind come from: the start list or the inline suppressions of an earlier file -/
theorem stateAfter_supprs_origin {α : Type} (cfg : Cfg S) (analyze : α → Trace S) (pre : List α) (init : State S) :
    ∀ s, s ∈ (stateAfter cfg analyze init pre).supprs → s ∈ init.supprs ∨ ∃ g ∈ pre, s ∈ supprsOf (analyze g).evs :=
  (stateAfter_grows cfg analyze pre init).origin

/-- the flag of an entry is set at the start, or some file of the run could set it -/
theorem stateAfter_checked_origin {α : Type} (cfg : Cfg S) (analyze : α → Trace S) (pre : List α) (init : State S) :
    ∀ s, s ∈ (stateAfter cfg analyze init pre).checked → s ∈ init.checked ∨ ∃ g, g ∈ pre ∧ couldCheck cfg s (analyze g).evs :=
  (stateAfter_grows cfg analyze pre init).checked

end Cppcheck.RunState
