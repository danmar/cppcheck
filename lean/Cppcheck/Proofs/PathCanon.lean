import Cppcheck.Model.PathCanon
import Cppcheck.Proofs.TextLemmas
/-
C31 — the path iterator. `skips` and the streams are independent of their fuel. What the repaired `skips` passes over
is said on lists of components in reading order (last first) by the relation `Skip`, one rule for each thing its loop
does, and what the iterator reads by `Reads`; the recursion of `skips` is the derivation of `Skip`, so the simulation
(`skips_comps`, `read_reads`) is an induction on derivations. Every component list that does not climb above its start
has a derivation, and a derivation computes the stack of the documented canonical form (`Reads.foldr`). The last part
joins a relative string onto an absolute base path, for the `pattern == path` shortcut of `PathMatch`.
-/
namespace Cppcheck.PathCanon
open Cppcheck.Wire

theorem dropComp_length_le (root : Nat) (r : Str) : (dropComp root r).length ≤ r.length := by
  induction r with
  | nil => simp [dropComp]
  | cons c r ih =>
    unfold dropComp
    split
    · simp; omega
    · simp

theorem tail_length_lt (r : Str) (h : r ≠ []) : r.tail.length < r.length := by
  cases r with
  | nil => exact absurd rfl h
  | cons c r => simp

/-- one iteration of the loop of `skips`: return a position, go on at one, or (for `dir/../`) call itself, drop a component and go on -/
inductive Step
  | ret (r : Str)
  | cont (l : Bool) (r : Str)
  | drop (l : Bool) (r : Str)

def Step.run (root : Nat) (rec : Bool → Str → Str) : Step → Str
  | .ret r => r
  | .cont l r => rec l r
  | .drop l r => rec l (dropComp root (rec false r))

@[simp] theorem Step.run_ret (root : Nat) (rec : Bool → Str → Str) (r : Str) : (Step.ret r).run root rec = r := rfl

@[simp] theorem Step.run_cont (root : Nat) (rec : Bool → Str → Str) (l : Bool) (r : Str) :
    (Step.cont l r).run root rec = rec l r := rfl

@[simp] theorem Step.run_drop (root : Nat) (rec : Bool → Str → Str) (l : Bool) (r : Str) :
    (Step.drop l r).run root rec = rec l (dropComp root (rec false r)) := rfl

@[simp] theorem Step.run_ite (root : Nat) (rec : Bool → Str → Str) (c : Prop) [Decidable c] (a b : Step) :
    (if c then a else b).run root rec = if c then a.run root rec else b.run root rec := apply_ite ..

def skipsStep (v : Variant) (root : Nat) (leadsep : Bool) (rem : Str) : Step :=
  if rem.length ≤ root then .ret rem
  else if leadsep && hd rem != '/' then .ret rem
  else
    let r1 := if leadsep then rem.tail else rem
    if hd r1 == '.' then
      let r2 := r1.tail
      if hd r2 == '.' then
        let r3 := r2.tail
        if hd r3 == '/' then
          if v.rootdd && r3.length ≤ root then .drop leadsep r3 else .drop leadsep r3.tail
        else .ret rem
      else if hd r2 == '/' then .cont leadsep r2
      else if hd r2 == NUL then .ret r2
      else .ret rem
    else if hd r1 == '/' then
      if v.dsep && leadsep then .cont leadsep r1 else .cont false r1.tail
    else .ret rem

theorem skipsF_succ (v : Variant) (fuel root : Nat) (ls : Bool) (rem : Str) :
    skipsF v (fuel + 1) root ls rem = (skipsStep v root ls rem).run root (skipsF v fuel root) := by
  rw [skipsF, skipsStep]
  simp only [Step.run_ite, Step.run_drop,
    ← apply_ite (fun r => skipsF v fuel root ls (dropComp root (skipsF v fuel root false r)))]
  rfl

/-- the positions a step passes on are shorter than `rem` (one it returns: not longer), which makes the fuel irrelevant -/
def Step.Shorter (rem : Str) : Step → Prop
  | .ret r => r.length ≤ rem.length
  | .cont _ r => r.length < rem.length
  | .drop _ r => r.length < rem.length

/-- every position the loop passes on is `rem` without one to four leading characters, and `rem` is not empty -/
theorem skipsStep_shorter (v : Variant) (root : Nat) (ls : Bool) (rem : Str) : (skipsStep v root ls rem).Shorter rem := by
  -- a branch passes on `rem` or one of its tails `r1`, `r2`, `r3`, and behind the first test `rem` is longer than `root`
  cases ls <;> fun_cases skipsStep v root _ rem
  all_goals simp +zetaDelta only [Step.Shorter, List.length_tail, Bool.and_false, Bool.false_eq_true, if_true, if_false] at *
  all_goals omega

theorem Step.run_length_le {root : Nat} {rem : Str} {s : Step} (h : s.Shorter rem) (rec : Bool → Str → Str)
    (hrec : ∀ l r, (rec l r).length ≤ r.length) : (s.run root rec).length ≤ rem.length := by
  cases s with
  | ret r => exact h
  | cont l r => exact Nat.le_trans (hrec l r) (Nat.le_of_lt h)
  | drop l r =>
    exact Nat.le_trans (hrec _ _) (Nat.le_trans (dropComp_length_le _ _) (Nat.le_trans (hrec _ _) (Nat.le_of_lt h)))

theorem skipsF_length_le (v : Variant) : ∀ (fuel root : Nat) (ls : Bool) (rem : Str),
    (skipsF v fuel root ls rem).length ≤ rem.length := by
  intro fuel
  induction fuel with
  | zero => intro root ls rem; simp [skipsF]
  | succ fuel ih =>
    intro root ls rem
    rw [skipsF_succ]
    exact Step.run_length_le (skipsStep_shorter v root ls rem) _ (fun l r => ih root l r)

theorem Step.run_congr {root : Nat} {rem : Str} {s : Step} (h : s.Shorter rem) (rec1 rec2 : Bool → Str → Str)
    (h1 : ∀ l r, (rec1 l r).length ≤ r.length) (heq : ∀ l r, r.length < rem.length → rec1 l r = rec2 l r) :
    s.run root rec1 = s.run root rec2 := by
  cases s with
  | ret r => rfl
  | cont l r => exact heq l r h
  | drop l r =>
    show rec1 l (dropComp root (rec1 false r)) = rec2 l (dropComp root (rec2 false r))
    rw [← heq false r h]
    exact heq l _ (Nat.lt_of_le_of_lt (Nat.le_trans (dropComp_length_le _ _) (h1 false r)) h)

/-- the result of `skips` does not depend on the fuel once it exceeds the number of characters left -/
theorem skipsF_fuel (v : Variant) (root : Nat) : ∀ (f1 f2 : Nat) (ls : Bool) (rem : Str),
    rem.length < f1 → rem.length < f2 → skipsF v f1 root ls rem = skipsF v f2 root ls rem := by
  intro f1
  induction f1 with
  | zero => intro f2 ls rem h; omega
  | succ f1 ih =>
    intro f2 ls rem h1 h2
    cases f2 with
    | zero => omega
    | succ f2 =>
      rw [skipsF_succ, skipsF_succ]
      exact Step.run_congr (skipsStep_shorter v root ls rem) _ _ (fun l r => skipsF_length_le v f1 root l r)
        (fun l r hr => ih f2 l r (by omega) (by omega))

theorem skips_eq (v : Variant) (root : Nat) (ls : Bool) (rem : Str) :
    skips v root ls rem = (skipsStep v root ls rem).run root (skips v root) := by
  unfold skips
  rw [skipsF_succ]
  exact Step.run_congr (skipsStep_shorter v root ls rem) _ _ (fun l r => skipsF_length_le v _ root l r)
    (fun l r hr => skipsF_fuel v root _ _ l r hr (by omega))

theorem skips_length_le (v : Variant) (root : Nat) (ls : Bool) (rem : Str) :
    (skips v root ls rem).length ≤ rem.length := skipsF_length_le v _ root ls rem

theorem skips_short (v : Variant) (root : Nat) (ls : Bool) (rem : Str) (h : rem.length ≤ root) :
    skips v root ls rem = rem := by
  rw [skips_eq]
  simp [skipsStep, h]

def readFrom (v : Variant) (root : Nat) (rem : Str) : Str := streamF v (rem.length + 1) root rem

theorem advance_length_lt (v : Variant) (root : Nat) (rem : Str) (h : rem ≠ []) :
    (advance v root rem).length < rem.length := by
  unfold advance
  have := tail_length_lt rem h
  simp only []
  split
  · exact Nat.lt_of_le_of_lt (skips_length_le v root true _) this
  · exact this

theorem ne_nil_of_hd_ne_nul {r : Str} (h : (hd r == NUL) = false) : r ≠ [] := by
  intro e; subst e; simp [hd] at h

theorem streamF_fuel (v : Variant) (root : Nat) : ∀ (f1 f2 : Nat) (rem : Str),
    rem.length < f1 → rem.length < f2 → streamF v f1 root rem = streamF v f2 root rem := by
  intro f1
  induction f1 with
  | zero => intro f2 rem h; omega
  | succ f1 ih =>
    intro f2 rem h1 h2
    cases f2 with
    | zero => omega
    | succ f2 =>
      simp only [streamF]
      by_cases hc : (hd rem == NUL) = true
      · simp [hc]
      · simp only [hc, Bool.false_eq_true, if_false]
        have := advance_length_lt v root rem (ne_nil_of_hd_ne_nul (by simpa using hc))
        rw [ih f2 _ (by omega) (by omega)]

theorem readFrom_eq (v : Variant) (root : Nat) (rem : Str) :
    readFrom v root rem = if hd rem == NUL then [] else hd rem :: readFrom v root (advance v root rem) := by
  unfold readFrom
  rw [streamF]
  by_cases hc : (hd rem == NUL) = true
  · simp [hc]
  · simp only [hc, Bool.false_eq_true, if_false]
    have := advance_length_lt v root rem (ne_nil_of_hd_ne_nul (by simpa using hc))
    rw [streamF_fuel v root _ _ _ (by omega) (Nat.lt_succ_self _)]

theorem Iter.stream_def (v : Variant) (it : Iter) : it.stream v = readFrom v it.root it.rem := rfl

theorem readFrom_cons (v : Variant) (root : Nat) (c : Char) (r : Str) (hc : c ≠ NUL) :
    readFrom v root (c :: r) = c :: readFrom v root (if hd r == '/' then skips v root true r else r) := by
  rw [readFrom_eq]
  simp only [hd, List.headD_cons, beq_eq_false_iff_ne.2 hc, Bool.false_eq_true, if_false]
  rfl

/-- reading the root part: no canonicalisation happens any more -/
theorem readFrom_short (v : Variant) (root : Nat) : ∀ (r : Str), r.length ≤ root → NUL ∉ r → readFrom v root r = r := by
  intro r
  induction r with
  | nil => intro _ _; rw [readFrom_eq]; simp [hd]
  | cons c r ih =>
    intro hl hn
    have hl' : r.length ≤ root := Nat.le_of_succ_le hl
    have hr := ih hl' (fun h => hn (List.mem_cons_of_mem _ h))
    rw [readFrom_cons _ _ c r (fun e => hn (e ▸ List.mem_cons_self))]
    congr 1
    split
    · rw [skips_short _ _ _ _ hl']; exact hr
    · exact hr

/-- reading a run of characters with no separator behind the first one: `operator++` looks at the character it arrives at -/
theorem readFrom_comp (v : Variant) (root : Nat) : ∀ (w rest : Str), w ≠ [] → '/' ∉ w.tail → NUL ∉ w →
    readFrom v root (w ++ rest) = w ++ readFrom v root (if hd rest == '/' then skips v root true rest else rest) := by
  intro w
  induction w with
  | nil => intro rest h; exact absurd rfl h
  | cons c w ih =>
    intro rest _ hs hn
    rw [List.cons_append, readFrom_cons _ _ c _ (fun e => hn (e ▸ List.mem_cons_self))]
    congr 1
    cases w with
    | nil => rfl
    | cons d w' =>
      have hd1 : (hd (d :: w' ++ rest) == '/') = false := beq_eq_false_iff_ne.2 (fun e => hs (e ▸ List.mem_cons_self))
      rw [hd1]
      exact ih rest (List.cons_ne_nil d w') (fun h => hs (List.mem_cons_of_mem _ h))
        (fun h => hn (List.mem_cons_of_mem _ h))

/-! ### one loop iteration on the shapes a component boundary can have (repaired code) -/

/-- the text under the iterator when it stands on a separator (`ls`, as `skips(true)` is called) or behind one -/
def lead : Bool → Str → Str
  | true, x => '/' :: x
  | false, x => x

theorem lead_length (ls : Bool) (x : Str) : x.length ≤ (lead ls x).length := by
  cases ls <;> simp [lead]

theorem body_slash (root : Nat) (ls : Bool) (z : Str) (h : root < (lead ls ('/' :: z)).length) :
    skips .fixed root ls (lead ls ('/' :: z)) = skips .fixed root ls (lead ls z) := by
  rw [skips_eq]
  -- here and in `body_dot_slash`, `body_dd`: the text selects one branch of `skipsStep`, and `h` refutes the test `≤ root` in front
  cases ls <;> simp only [lead, List.length_cons] at h
  all_goals
    simp [lead, skipsStep, hd, Variant.fixed]
    omega

theorem skips_sep (root : Nat) (ls : Bool) (z : Str) (h : root < ('/' :: z).length) :
    skips .fixed root ls ('/' :: z) = skips .fixed root ls (lead ls z) := by
  cases ls
  · exact body_slash root false z h
  · rfl

theorem body_dot_slash (root : Nat) (ls : Bool) (z : Str) (h : root < (lead ls ('.' :: '/' :: z)).length) :
    skips .fixed root ls (lead ls ('.' :: '/' :: z)) = skips .fixed root ls ('/' :: z) := by
  rw [skips_eq]
  cases ls <;> simp only [lead, List.length_cons] at h
  all_goals
    simp [lead, skipsStep, hd]
    omega

theorem body_dot_end (ls : Bool) : skips .fixed 0 ls (lead ls ['.']) = [] := by
  rw [skips_eq]
  cases ls <;> simp [lead, skipsStep, hd, NUL]

theorem body_dd (root : Nat) (ls : Bool) (z : Str) (h : root ≤ ('/' :: z).length) :
    skips .fixed root ls (lead ls ('.' :: '.' :: '/' :: z)) =
      skips .fixed root ls (dropComp root (skips .fixed root false ('/' :: z))) := by
  simp only [List.length_cons] at h
  -- the call inside starts behind the separator, or on it if it is the root's: `skips(false)` passes a separator all the same
  by_cases h2 : z.length + 1 ≤ root
  · rw [skips_eq]
    cases ls
    all_goals
      simp [lead, skipsStep, hd, Variant.fixed, h2]
      omega
  · rw [skips_sep root false z (by simp; omega), skips_eq]
    cases ls
    all_goals
      simp [lead, skipsStep, hd, Variant.fixed, h2]
      omega

/-- a real component: non-empty, without separator or NUL, not `.` and not `..` -/
def normalC (c : Str) : Prop := c ≠ [] ∧ '/' ∉ c ∧ NUL ∉ c ∧ c ≠ dot ∧ c ≠ dotdot

theorem body_normal (root : Nat) (ls : Bool) (c rest : Str) (hn : normalC c) (hlen : root < (c ++ rest).length) :
    skips .fixed root ls (lead ls (c ++ rest)) = lead ls (c ++ rest) := by
  rw [skips_eq]
  obtain ⟨h0, hs, hz, hd1, hd2⟩ := hn
  have hl : ¬ ((lead ls (c ++ rest)).length ≤ root) := by have := lead_length ls (c ++ rest); omega
  cases c with
  | nil => exact absurd rfl h0
  | cons d c' =>
    have d1 : d ≠ '/' := fun e => hs (by simp [e])
    have d2 : d ≠ NUL := fun e => hz (by simp [e])
    by_cases hdot : d = '.'
    · subst hdot
      cases c' with
      | nil => exact absurd rfl hd1
      | cons e c'' =>
        have e1 : e ≠ '/' := fun h => hs (by simp [h])
        have e2 : e ≠ NUL := fun h => hz (by simp [h])
        by_cases hdot2 : e = '.'
        · subst hdot2
          cases c'' with
          | nil => exact absurd rfl hd2
          | cons g c3 =>
            have g1 : g ≠ '/' := fun h => hs (by simp [h])
            simp only [skipsStep, hl, if_false]
            cases ls <;> simp [lead, hd, g1]
        · simp only [skipsStep, hl, if_false]
          cases ls <;> simp [lead, hd, hdot2, e1, e2]
    · simp only [skipsStep, hl, if_false]
      cases ls <;> simp [lead, hd, hdot, d1]

theorem dropComp_short (root : Nat) (r : Str) (h : r.length ≤ root) : dropComp root r = r := by
  cases r with
  | nil => rfl
  | cons c r =>
    simp only [List.length_cons] at h
    simp [dropComp]
    intro hh; omega

theorem dropComp_slash (root : Nat) (r : Str) : dropComp root ('/' :: r) = '/' :: r := by
  simp [dropComp]

/-- dropping one component: the characters of `c`, up to the separator / the root that follows -/
theorem dropComp_comp (root : Nat) (c rest : Str) (hs : '/' ∉ c) (hroot : root ≤ rest.length)
    (hrest : rest.length ≤ root ∨ hd rest = '/') : dropComp root (c ++ rest) = rest := by
  induction c with
  | nil =>
    simp only [List.nil_append]
    rcases hrest with h | h
    · exact dropComp_short root rest h
    · cases rest with
      | nil => rfl
      | cons d r =>
        have : d = '/' := by simpa [hd] using h
        subst this; exact dropComp_slash root r
  | cons d c ih =>
    have d1 : d ≠ '/' := fun e => hs (by simp [e])
    have : (d :: (c ++ rest)).length > root := by simp; omega
    simp only [List.cons_append, dropComp, this, decide_true, Bool.true_and, bne_iff_ne, ne_eq, d1, not_false_eq_true, if_true]
    exact ih (fun h => hs (by simp [h]))

/-! ### what the iterator passes over and what it reads, on components in reading order (last component first) -/

/-- a component that stays: not empty, not `.`, not `..` -/
def realC (c : Str) : Prop := ignorable c = false ∧ (c == dotdot) = false

/-- `skips`, started in front of the components `cs`, arrives in front of the suffix `l`; at a `..` it calls itself (arriving at
    `c :: m`), drops `c` and goes on from `m`. `e`: there is a root, where a `..` that finds no component to drop is itself dropped -/
inductive Skip (e : Bool) : List Str → List Str → Prop
  | stop (l : List Str) : Skip e l l
  | ign {c : Str} {cs l : List Str} : ignorable c = true → Skip e cs l → Skip e (c :: cs) l
  | dd {c : Str} {cs m l : List Str} : Skip e cs (c :: m) → realC c → Skip e m l → Skip e (dotdot :: cs) l
  | atRoot {cs : List Str} : e = true → Skip e cs [] → Skip e (dotdot :: cs) []

/-- reading `cs` yields the components `out`: skip, read a real component, again -/
inductive Reads (e : Bool) : List Str → List Str → Prop
  | nil {cs : List Str} : Skip e cs [] → Reads e cs []
  | cons {c : Str} {cs m out : List Str} : Skip e cs (c :: m) → realC c → Reads e m out → Reads e cs (c :: out)

theorem Skip.suffix {e : Bool} {cs l : List Str} (h : Skip e cs l) : l <:+ cs := by
  induction h with
  | stop l => exact List.suffix_refl l
  | ign _ _ ih => exact ih.trans (List.suffix_cons ..)
  | dd _ _ _ ih1 ih2 => exact ih2.trans ((List.suffix_cons ..).trans (ih1.trans (List.suffix_cons ..)))
  | atRoot _ _ ih => exact ih.trans (List.suffix_cons ..)

theorem getLast?_suffix {l cs : List Str} (hs : l <:+ cs) (hl : l ≠ []) : cs.getLast? = l.getLast? := by
  obtain ⟨pre, rfl⟩ := hs
  cases h : l.getLast? with
  | none => exact absurd (List.getLast?_eq_none_iff.1 h) hl
  | some x => rw [List.getLast?_append, h, Option.some_or]

theorem suffix_induction {α : Type} {P : List α → Prop} (nil : P [])
    (cons : ∀ c cs, (∀ l, l <:+ cs → P l) → P (c :: cs)) (cs : List α) : P cs := by
  suffices h : ∀ l, l <:+ cs → P l from h cs (List.suffix_refl cs)
  induction cs with
  | nil => intro l hl; rw [List.suffix_nil.1 hl]; exact nil
  | cons c cs ih =>
    intro l hl
    rcases List.suffix_cons_iff.1 hl with rfl | hl
    · exact cons c cs ih
    · exact ih l hl

/-- no component holds a separator or the terminator; without a root the string does not begin with a separator (that
    would be a root), so that `skips(true)` is not called in front of the end of the string -/
def compsOk (R : Str) (cs : List Str) : Prop :=
  (∀ c ∈ cs, '/' ∉ c ∧ NUL ∉ c) ∧ (R = [] → cs.getLast? ≠ some [])

theorem compsOk.suffix {R : Str} {cs l : List Str} (h : compsOk R cs) (hs : l <:+ cs) : compsOk R l :=
  ⟨fun c hc => h.1 c (hs.subset hc), fun hR => by
    cases l with
    | nil => nofun
    | cons a l' => rw [← getLast?_suffix hs (List.cons_ne_nil a l')]; exact h.2 hR⟩

theorem compsOk.normal {R c : Str} {m : List Str} (h : compsOk R (c :: m)) (hc : realC c) : normalC c := by
  have h1 := hc.1
  simp only [ignorable, Bool.or_eq_false_iff, beq_eq_false_iff_ne, ne_eq] at h1
  have h3 := h.1 c List.mem_cons_self
  exact ⟨h1.1, h3.1, h3.2, h1.2, by simpa using hc.2⟩

/-- the text from a component boundary on: the components `l`, one separator between them, then the root `R` (`ls`: and a
    separator in front, where the iterator stands when `skips(true)` is called) -/
def posL (ls : Bool) (R : Str) (l : List Str) : Str :=
  match l with
  | [] => R
  | _ => lead ls (joinSlash l ++ R)

theorem posL_cons (ls : Bool) (R c : Str) (m : List Str) : posL ls R (c :: m) = lead ls (c ++ posL true R m) := by
  cases m <;> simp [posL, lead, joinSlash]

theorem posL_length (ls : Bool) (R : Str) (l : List Str) : R.length ≤ (posL ls R l).length := by
  cases l with
  | nil => exact Nat.le_refl _
  | cons c m => exact Nat.le_trans (by simp) (lead_length ls _)

theorem posL_false (R : Str) (l : List Str) : posL false R l = joinSlash l ++ R := by cases l <;> rfl

theorem posL_true_cases {R : Str} (hR : R = [] ∨ R.head? = some '/') (m : List Str) :
    R = [] ∧ m = [] ∨ ∃ z, posL true R m = '/' :: z := by
  cases m with
  | nil => exact hR.imp (⟨·, rfl⟩) List.head?_eq_some_iff.1
  | cons b r => exact Or.inr ⟨_, rfl⟩

/-! ### one step of `skips` and of reading, at a component boundary -/

theorem skips_nil (R : Str) (ls : Bool) : skips .fixed R.length ls (posL ls R []) = R :=
  skips_short _ _ _ _ (Nat.le_refl _)

theorem skips_behind (R : Str) (ls : Bool) (m : List Str) :
    skips .fixed R.length ls (posL true R m) = skips .fixed R.length ls (posL ls R m) := by
  cases m with
  | nil => rfl
  | cons b r => exact skips_sep _ ls _ (by simp; omega)

theorem skips_real (R : Str) (ls : Bool) {c : Str} (hn : normalC c) (m : List Str) :
    skips .fixed R.length ls (posL ls R (c :: m)) = posL ls R (c :: m) := by
  have := posL_length true R m
  have := List.length_pos_iff.2 hn.1
  rw [posL_cons, body_normal _ _ c _ hn (by simp; omega)]

theorem skips_ign {R : Str} (hR : R = [] ∨ R.head? = some '/') (ls : Bool) {c : Str} (hc : ignorable c = true)
    {cs : List Str} (hok : compsOk R (c :: cs)) :
    skips .fixed R.length ls (posL ls R (c :: cs)) = skips .fixed R.length ls (posL ls R cs) := by
  have hc' : c = [] ∨ c = dot := by simpa [ignorable] using hc
  have hlen := posL_length true R cs
  -- behind `c` stands `posL true R cs`: the end of a string without root, or a separator and more
  rw [posL_cons, ← skips_behind R ls cs]
  rcases posL_true_cases hR cs with ⟨rfl, rfl⟩ | ⟨z, hz⟩
  · rcases hc' with rfl | rfl
    · cases ls
      · rfl
      · exact absurd rfl (hok.2 rfl)
    · exact (body_dot_end ls).trans (skips_nil [] ls).symm
  · rw [hz] at hlen ⊢
    have hlt := lead_length ls ('.' :: '/' :: z)
    simp only [List.length_cons] at hlen hlt
    rcases hc' with rfl | rfl
    · cases ls
      · rfl
      · show skips .fixed _ true (lead true ('/' :: z)) = _
        exact body_slash _ true z (by simp [lead]; omega)
    · show skips .fixed _ ls (lead ls ('.' :: '/' :: z)) = _
      exact body_dot_slash _ _ _ (by omega)

theorem skips_dd {R : Str} (hR : R = [] ∨ R.head? = some '/') (ls : Bool) (cs : List Str) (h : R ≠ [] ∨ cs ≠ []) :
    skips .fixed R.length ls (posL ls R (dotdot :: cs)) =
      skips .fixed R.length ls (dropComp R.length (skips .fixed R.length false (posL false R cs))) := by
  have hlen := posL_length true R cs
  rw [posL_cons, ← skips_behind R false cs]
  rcases posL_true_cases hR cs with ⟨rfl, rfl⟩ | ⟨z, hz⟩
  · exact (h.elim (· rfl) (· rfl)).elim
  · rw [hz] at hlen ⊢
    exact body_dd _ ls z hlen

theorem dropComp_pos (R : Str) {c : Str} (hc : '/' ∉ c) (m : List Str) :
    dropComp R.length (posL false R (c :: m)) = posL true R m := by
  rw [posL_cons]
  exact dropComp_comp _ c _ hc (posL_length true R m)
    (by cases m with
      | nil => exact Or.inl (Nat.le_refl _)
      | cons _ _ => exact Or.inr rfl)

theorem skips_comps (R : Str) (hR : R = [] ∨ R.head? = some '/') {e : Bool} (he : e = true → R ≠ []) {cs l : List Str}
    (h : Skip e cs l) : compsOk R cs → ∀ ls,
      skips .fixed R.length ls (posL ls R cs) = skips .fixed R.length ls (posL ls R l) := by
  induction h with
  | stop l => intro _ _; rfl
  | @ign c cs' l hc h ih =>
    intro hok ls
    rw [skips_ign hR ls hc hok]
    exact ih (hok.suffix (List.suffix_cons c cs')) ls
  | @dd c cs' m l h1 hc h2 ih1 ih2 =>
    intro hok ls
    have hok' := hok.suffix (List.suffix_cons _ cs')
    have hokc := hok'.suffix h1.suffix
    have hn := hokc.normal hc
    rw [skips_dd hR ls cs' (Or.inr (by rintro rfl; cases h1)), ih1 hok' false, skips_real R false hn, dropComp_pos R hn.2.1,
      skips_behind]
    exact ih2 (hokc.suffix (List.suffix_cons c m)) ls
  | @atRoot cs' he' h ih =>
    intro hok ls
    rw [skips_dd hR ls cs' (Or.inl (he he')), ih (hok.suffix (List.suffix_cons _ cs')) false, skips_nil]
    show skips .fixed R.length ls (dropComp R.length R) = _
    rw [dropComp_short _ _ (Nat.le_refl _)]
    rfl

/-- reading a real component, then `operator++` on what follows it -/
theorem read_real {R : Str} (hR : R = [] ∨ R.head? = some '/') (ls : Bool) {c : Str} (hn : normalC c) (m : List Str) :
    readFrom .fixed R.length (posL ls R (c :: m)) =
      lead ls (c ++ readFrom .fixed R.length (skips .fixed R.length true (posL true R m))) := by
  have run : ∀ w, w ≠ [] → '/' ∉ w.tail → NUL ∉ w → readFrom .fixed R.length (w ++ posL true R m) =
      w ++ readFrom .fixed R.length (skips .fixed R.length true (posL true R m)) := by
    intro w h1 h2 h3
    rw [readFrom_comp _ _ w _ h1 h2 h3]
    rcases posL_true_cases hR m with ⟨rfl, rfl⟩ | ⟨z, hz⟩
    · rfl
    · rw [hz, if_pos (by simp [hd])]
  rw [posL_cons]
  cases ls with
  | false => exact run c hn.1 (fun h => hn.2.1 (List.mem_of_mem_tail h)) hn.2.2.1
  | true => exact run ('/' :: c) (List.cons_ne_nil _ _) hn.2.1 (by simpa [NUL] using hn.2.2.1)

/-- **reading from a component boundary**: the components `Reads` yields, separated by one separator, then the root -/
theorem read_reads (R : Str) (hR : R = [] ∨ R.head? = some '/') (hRn : NUL ∉ R) {e : Bool} (he : e = true → R ≠ [])
    {cs out : List Str} (h : Reads e cs out) : compsOk R cs → ∀ ls,
      readFrom .fixed R.length (skips .fixed R.length ls (posL ls R cs)) = posL ls R out := by
  induction h with
  | nil h =>
    intro hok ls
    rw [skips_comps R hR he h hok ls, skips_nil]
    exact readFrom_short _ _ R (Nat.le_refl _) hRn
  | @cons c cs m out h hc r ih =>
    intro hok ls
    have hokc := hok.suffix h.suffix
    have hn := hokc.normal hc
    rw [skips_comps R hR he h hok ls, skips_real R ls hn, read_real hR ls hn, ih (hokc.suffix (List.suffix_cons c m)) true,
      posL_cons]

/-! ### every component list that does not climb above its start is read; what is read is the stack of the documented form -/

theorem ignorable_nil : ignorable [] = true := rfl

theorem ignorable_dot : ignorable dot = true := by decide

theorem dotdot_not_ignorable : ignorable dotdot = false := by decide

theorem esc_ignorable_cons {c : Str} (h : ignorable c = true) (n : Nat) (cs : List Str) :
    esc n (c :: cs) = esc n cs := by simp only [esc, h, if_true]

theorem esc_dotdot_cons {c : Str} (h1 : ignorable c = false) (h2 : (c == dotdot) = true) (n : Nat) (cs : List Str) :
    esc n (c :: cs) = esc (n + 1) cs := by simp only [esc, h1, h2, Bool.false_eq_true, if_false, if_true]

theorem esc_normal_cons (c : Str) (r : List Str) (h1 : ignorable c = false) (h2 : (c == dotdot) = false) (n : Nat) :
    esc n (c :: r) = esc (n - 1) r := by simp [esc, h1, h2]

theorem Reads.ign {e : Bool} {c : Str} {cs out : List Str} (hc : ignorable c = true) :
    Reads e cs out → Reads e (c :: cs) out
  | .nil h => .nil (.ign hc h)
  | .cons h hn r => .cons (.ign hc h) hn r

theorem Reads.dd {e : Bool} {c : Str} {cs m out : List Str} (h : Skip e cs (c :: m)) (hc : realC c) :
    Reads e m out → Reads e (dotdot :: cs) out
  | .nil h2 => .nil (.dd h hc h2)
  | .cons h2 hn r => .cons (.dd h hc h2) hn r

theorem Skip.esc_eq {e : Bool} {cs l : List Str} (h : Skip e cs l) (he : e = false) (n : Nat) : esc n cs = esc n l := by
  induction h generalizing n with
  | stop l => rfl
  | ign hc _ ih => rw [esc_ignorable_cons hc]; exact ih n
  | dd _ hc _ ih1 ih2 =>
    rw [esc_dotdot_cons dotdot_not_ignorable rfl, ih1, esc_normal_cons _ _ hc.1 hc.2]; exact ih2 n
  | atRoot he' => rw [he] at he'; cases he'

/-- `n`: the number of `..` already waiting, as in `esc` -/
theorem reads_exists (e : Bool) (cs : List Str) (n : Nat) (h : e = true ∨ esc n cs = 0) : ∃ out, Reads e cs out := by
  induction cs generalizing n with
  | nil => exact ⟨[], .nil (.stop [])⟩
  | cons c cs ih =>
    by_cases h1 : ignorable c = true
    · rw [esc_ignorable_cons h1] at h
      exact (ih n h).imp fun _ => Reads.ign h1
    · have h1' := Bool.eq_false_iff.2 h1
      by_cases h2 : (c == dotdot) = true
      · obtain rfl := eq_of_beq h2
        rw [esc_dotdot_cons h1' h2] at h
        obtain ⟨out, r⟩ := ih (n + 1) h
        cases r with
        | nil hs =>
          -- nothing left to cancel: dropped at the root; without a root the path would climb above its start
          cases e with
          | true => exact ⟨[], .nil (.atRoot rfl hs)⟩
          | false => rw [hs.esc_eq rfl] at h; exact h.elim nofun nofun
        | cons hs hc r => exact ⟨_, r.dd hs hc⟩
      · have h2' := Bool.eq_false_iff.2 h2
        rw [esc_normal_cons c cs h1' h2'] at h
        exact (ih (n - 1) h).imp' (c :: ·) fun _ r => .cons (.stop _) ⟨h1', h2'⟩ r

theorem canonStep_ignorable {c : Str} (h : ignorable c = true) (rooted : Bool) (st : List Str) :
    canonStep rooted st c = st := by
  simp only [ignorable] at h
  simp only [canonStep, h, if_true]

theorem canonStep_normal {c : Str} (h1 : ignorable c = false) (h2 : (c == dotdot) = false) (rooted : Bool)
    (st : List Str) : canonStep rooted st c = c :: st := by
  simp only [ignorable] at h1
  simp only [canonStep, h1, h2, Bool.false_eq_true, if_false]

theorem canonStep_dotdot {c : Str} (hc : realC c) (rooted : Bool) (st : List Str) :
    canonStep rooted (c :: st) dotdot = st := by
  simp only [canonStep, hc.2]; rfl

theorem Skip.foldr {e : Bool} {cs l : List Str} (h : Skip e cs l) (rooted : Bool) (st : List Str)
    (he : e = true → rooted = true ∧ st = []) :
    cs.foldr (fun c s => canonStep rooted s c) st = l.foldr (fun c s => canonStep rooted s c) st := by
  induction h with
  | stop l => rfl
  | ign hc _ ih => rw [List.foldr_cons, canonStep_ignorable hc, ih]
  | dd _ hc _ ih1 ih2 => rw [List.foldr_cons, ih1, List.foldr_cons, canonStep_normal hc.1 hc.2, canonStep_dotdot hc, ih2]
  | atRoot he' _ ih =>
    obtain ⟨rfl, rfl⟩ := he he'
    rw [List.foldr_cons, ih]; rfl

theorem Reads.foldr {e : Bool} {cs out : List Str} (h : Reads e cs out) (rooted : Bool) (st : List Str)
    (he : e = true → rooted = true ∧ st = []) : cs.foldr (fun c s => canonStep rooted s c) st = out ++ st := by
  induction h with
  | nil h => exact h.foldr rooted st he
  | cons h hc _ ih => rw [h.foldr rooted st he, List.foldr_cons, ih, canonStep_normal hc.1 hc.2]; rfl

theorem Reads.canonComps_eq {e : Bool} {L out : List Str} (h : Reads e L.reverse out) (rooted : Bool)
    (he : e = true → rooted = true) : canonComps rooted L = out.reverse := by
  rw [canonComps, ← List.foldr_reverse, h.foldr rooted [] (fun h => ⟨he h, rfl⟩), List.append_nil]

theorem canonComps_append (CB CP : List Str) (h : esc 0 CP.reverse = 0) :
    canonComps true (CB ++ CP) = canonComps true CB ++ canonComps false CP := by
  obtain ⟨out, r⟩ := reads_exists false CP.reverse 0 (Or.inr h)
  rw [Reads.canonComps_eq r false nofun, canonComps, List.foldl_append, ← List.foldr_reverse, r.foldr true _ nofun,
    List.reverse_append, canonComps]

/-- components in reading order (last component first): drop the ignorable ones and, for every `..`, one real
    component; `n` = number of real components still to drop.  Result: the list from the first surviving one on. -/
def skn : Nat → List Str → List Str
  | _, [] => []
  | n, c :: cs =>
    if ignorable c then skn n cs
    else if c == dotdot then skn (n + 1) cs
    else if n > 0 then skn (n - 1) cs
    else c :: cs

theorem skn_ignorable_cons {c : Str} (h : ignorable c = true) (n : Nat) (cs : List Str) :
    skn n (c :: cs) = skn n cs := by rw [skn, if_pos h]

theorem skn_dotdot_cons (n : Nat) (cs : List Str) : skn n (dotdot :: cs) = skn (n + 1) cs := by
  simp only [skn, dotdot_not_ignorable, Bool.false_eq_true, if_false, beq_self_eq_true, if_true]

theorem skn_succ_normal_cons (c : Str) (r : List Str) (h1 : ignorable c = false) (h2 : (c == dotdot) = false) (n : Nat) :
    skn (n + 1) (c :: r) = skn n r := by simp [skn, h1, h2]

theorem skn_normal_cons (c : Str) (r : List Str) (h1 : ignorable c = false) (h2 : (c == dotdot) = false) :
    skn 0 (c :: r) = c :: r := by simp [skn, h1, h2]

/-! ### `splitSlash` / `joinSlash` are core's `splitOn` / `intercalate`; a path spelled backwards -/

theorem joinSlash_cons_cons (a b : Str) (r : List Str) : joinSlash (a :: b :: r) = a ++ '/' :: joinSlash (b :: r) := rfl

theorem joinSlash_single (a : Str) : joinSlash [a] = a := rfl

theorem splitSlash_eq_splitOn : ∀ s, splitSlash s = s.splitOn '/' :=
  Text.eq_splitOn rfl (fun r => by simp [splitSlash]) fun x r w ws hx h => by simp [splitSlash, hx, h]

theorem joinSlash_eq_intercalate : ∀ cs, joinSlash cs = ['/'].intercalate cs :=
  Text.eq_intercalate rfl (fun _ => rfl) fun _ _ _ => rfl

theorem splitSlash_ne_nil (s : Str) : splitSlash s ≠ [] := splitSlash_eq_splitOn s ▸ List.splitOn_ne_nil '/' s

theorem joinSlash_splitSlash (s : Str) : joinSlash (splitSlash s) = s := by
  rw [splitSlash_eq_splitOn, joinSlash_eq_intercalate, List.intercalate_splitOn]

theorem splitSlash_append_sep (s t : Str) : splitSlash (s ++ '/' :: t) = splitSlash s ++ splitSlash t := by
  simp only [splitSlash_eq_splitOn, List.splitOn_append_cons_self]

theorem splitSlash_mem (s : Str) : ∀ c ∈ splitSlash s, ∀ x ∈ c, x ≠ '/' ∧ x ∈ s := fun _ hc _ hx =>
  have hc' := splitSlash_eq_splitOn s ▸ hc
  ⟨fun e => Text.not_mem_of_mem_splitOn hc' (e ▸ hx), (Text.infix_of_mem_splitOn hc').subset hx⟩

theorem joinSlash_append (A B : List Str) (hA : A ≠ []) (hB : B ≠ []) :
    joinSlash (A ++ B) = joinSlash A ++ '/' :: joinSlash B := by
  simp [joinSlash_eq_intercalate, Text.intercalate_append hA hB]

theorem joinSlash_reverse (M : List Str) : (joinSlash M).reverse = joinSlash ((M.map List.reverse).reverse) := by
  simpa [joinSlash_eq_intercalate] using Text.reverse_intercalate ['/'] M

theorem splitSlash_joinSlash (cs : List Str) (hne : cs ≠ []) (h : ∀ c ∈ cs, '/' ∉ c) :
    splitSlash (joinSlash cs) = cs := by
  rw [splitSlash_eq_splitOn, joinSlash_eq_intercalate, List.splitOn_intercalate '/' h hne]

theorem splitSlash_reverse (s : Str) : splitSlash s.reverse = ((splitSlash s).map List.reverse).reverse := by
  simp only [splitSlash_eq_splitOn, Text.splitOn_reverse]

theorem reverse_beq {p : Str} (hp : p.reverse = p) (c : Str) : (c.reverse == p) = (c == p) := by
  by_cases h : c = p
  · subst h; rw [hp]
  · rw [beq_eq_false_iff_ne.2 h, beq_eq_false_iff_ne.2 (fun e => h (by rw [← List.reverse_reverse c, e, hp]))]

theorem ignorable_reverse (c : Str) : ignorable c.reverse = ignorable c := by
  simp only [ignorable, reverse_beq (rfl : dot.reverse = dot)]
  congr 1
  cases c <;> simp

theorem dotdot_reverse (c : Str) : (c.reverse == dotdot) = (c == dotdot) := reverse_beq rfl c

theorem realC.reverse {c : Str} (hc : realC c) : realC c.reverse :=
  ⟨(ignorable_reverse c).trans hc.1, (dotdot_reverse c).trans hc.2⟩

theorem Skip.map_reverse {e : Bool} {cs l : List Str} (h : Skip e cs l) :
    Skip e (cs.map List.reverse) (l.map List.reverse) := by
  induction h with
  | stop l => exact .stop _
  | ign hc _ ih => exact .ign (by rwa [ignorable_reverse]) ih
  | dd _ hc _ ih1 ih2 => exact .dd ih1 hc.reverse ih2
  | atRoot he _ ih => exact .atRoot he ih

theorem Reads.map_reverse {e : Bool} {cs out : List Str} (h : Reads e cs out) :
    Reads e (cs.map List.reverse) (out.map List.reverse) := by
  induction h with
  | nil h => exact .nil h.map_reverse
  | cons h hc _ ih => exact .cons h.map_reverse hc.reverse ih

theorem splitSlash_head (s : Str) (h : (splitSlash s).head? = some []) : s = [] ∨ s.head? = some '/' := by
  cases s with
  | nil => exact Or.inl rfl
  | cons d s' =>
    by_cases hd' : d = '/'
    · exact Or.inr (by rw [hd']; rfl)
    · obtain ⟨w, ws, e⟩ := List.exists_cons_of_ne_nil (List.splitOn_ne_nil '/' s')
      rw [splitSlash_eq_splitOn, List.splitOn_cons_eq_if_modifyHead, if_neg (by simpa using hd'), e] at h
      cases h

/-! ### the iterator on a whole string -/

/-- `read_eq_canon` with the string already split into root `T` and the rest -/
theorem read_split (T rest : Str) (hT : T = [] ∨ T.getLast? = some '/') (hn : NUL ∉ T ++ rest)
    (hrel : T ≠ [] ∨ (esc 0 (splitSlash rest).reverse = 0 ∧ rest.head? ≠ some '/')) :
    (readFrom .fixed T.length (skips .fixed T.length false (T ++ rest).reverse)).reverse =
      T ++ joinSlash (canonComps (decide (T.length > 0)) (splitSlash rest)) := by
  by_cases h0 : T = [] ∧ rest = []
  · obtain ⟨rfl, rfl⟩ := h0
    rfl
  have hR : T.reverse = [] ∨ T.reverse.head? = some '/' := by rwa [List.reverse_eq_nil_iff, List.head?_reverse]
  have hRn : NUL ∉ T.reverse := fun h => hn (List.mem_append_left _ (List.mem_reverse.1 h))
  -- the components in reading order, each spelled backwards
  have htext : (T ++ rest).reverse = posL false T.reverse ((splitSlash rest).reverse.map List.reverse) := by
    rw [posL_false, List.map_reverse, ← joinSlash_reverse, joinSlash_splitSlash, List.reverse_append]
  have hok : compsOk T.reverse ((splitSlash rest).reverse.map List.reverse) := by
    refine ⟨fun c hc => ?_, fun hR0 hl => ?_⟩
    · obtain ⟨a, ha, rfl⟩ := List.mem_map.1 hc
      have hm := splitSlash_mem _ a (List.mem_reverse.1 ha)
      exact ⟨fun h => (hm '/' (List.mem_reverse.1 h)).1 rfl,
        fun h => hn (List.mem_append_right _ (hm NUL (List.mem_reverse.1 h)).2)⟩
    · -- the last component in reading order is the first component of the string, which does not start with '/'
      rw [List.getLast?_map, List.getLast?_reverse] at hl
      have hl' : (splitSlash rest).head? = some [] := by
        cases h : (splitSlash rest).head? with
        | none => rw [h] at hl; cases hl
        | some a => rw [h, Option.map_some, Option.some.injEq, List.reverse_eq_nil_iff] at hl; rw [hl]
      have hT0 := List.reverse_eq_nil_iff.1 hR0
      exact (splitSlash_head rest hl').elim (fun h => h0 ⟨hT0, h⟩) (hrel.elim (fun h => absurd hT0 h) (·.2))
  obtain ⟨out, r⟩ := reads_exists (decide (T.length > 0)) (splitSlash rest).reverse 0
    (hrel.imp (fun h => by simpa [List.length_pos_iff] using h) (·.1))
  have h := read_reads T.reverse hR hRn (by simp [List.length_pos_iff]) r.map_reverse hok false
  rw [← htext, List.length_reverse] at h
  have hid : (List.reverse ∘ List.reverse : Str → Str) = id := by funext l; simp
  rw [h, posL_false, List.reverse_append, List.reverse_reverse, joinSlash_reverse, List.map_map, hid, List.map_id,
    Reads.canonComps_eq r _ id]

/-- **the repaired iterator reads the documented canonical form** (abstract form: `root` leading characters of the
    mapped raw string `raw` are the root) -/
theorem read_eq_canon (root : Nat) (raw : Str) (hn : NUL ∉ raw) (hdom : CanonDomain root raw = true) :
    (readFrom .fixed root (skips .fixed root false raw.reverse)).reverse = canon root raw := by
  simp only [CanonDomain, Bool.and_eq_true, decide_eq_true_eq, Bool.or_eq_true, bne_iff_ne, ne_eq, closedRoot,
    beq_iff_eq, noEscape] at hdom
  obtain ⟨⟨hlen, hclosed⟩, hrel⟩ := hdom
  have hT : (raw.take root).length = root := by rw [List.length_take]; exact Nat.min_eq_left hlen
  have hnil : raw.take root = [] ↔ root = 0 := by rw [← List.length_eq_zero_iff, hT]
  have hrel' : raw.take root ≠ [] ∨
      (esc 0 (splitSlash (raw.drop root)).reverse = 0 ∧ (raw.drop root).head? ≠ some '/') := by
    by_cases h0 : root = 0
    · subst h0; exact hrel.elim (fun h => absurd h (Nat.lt_irrefl 0)) Or.inr
    · exact Or.inl (fun e => h0 (hnil.1 e))
  have h := read_split (raw.take root) (raw.drop root) (hclosed.imp hnil.2 id)
    (by rw [List.take_append_drop]; exact hn) hrel'
  rw [List.take_append_drop, hT] at h
  exact h

theorem cstr_no_nul (s : Str) : NUL ∉ cstr s := fun h => by
  simpa using List.all_eq_true.1 List.all_takeWhile NUL h

theorem toLowerAscii_ne_nul (c : Char) (h : c ≠ NUL) : toLowerAscii c ≠ NUL := by
  unfold toLowerAscii
  split
  · rename_i hr
    simp only [Bool.and_eq_true, decide_eq_true_eq] at hr
    intro e
    have h1 : 65 ≤ c.toNat := hr.1
    have h2 : c.toNat ≤ 90 := hr.2
    have hv : (c.toNat + 32).isValidChar := by left; omega
    have := congrArg Char.toNat e
    rw [Text.toNat_ofNat_valid _ hv] at this
    simp [NUL] at this
  · exact h

theorem mapChar_ne_nul (syn : Syntax) (c : Char) (h : c ≠ NUL) : mapChar syn c ≠ NUL := by
  cases syn with
  | unix => exact h
  | windows =>
    simp only [mapChar]
    split
    · decide
    · exact toLowerAscii_ne_nul c h

theorem rawOf_no_nul (syn : Syntax) (a b : Str) : NUL ∉ (rawOf syn a b).2 := by
  simp only [rawOf, List.mem_map, not_exists, not_and]
  intro c hc
  apply mapChar_ne_nul
  intro e
  subst e
  simp only [joinRaw, List.mem_append] at hc
  rcases hc with (hc | hc) | hc
  · exact cstr_no_nul a hc
  · split at hc
    · simp [NUL] at hc
    · simp at hc
  · exact cstr_no_nul b hc

/-- what C31 `pathiter_eq_canon` (Props/C31) states -/
theorem iter_read_eq_canon (syn : Syntax) (a b : Str)
    (h : CanonDomain (rawOf syn a b).1 (rawOf syn a b).2 = true) :
    (Iter.mk' .fixed syn a b).read .fixed = canonOf syn a b := by
  have := read_eq_canon (rawOf syn a b).1 (rawOf syn a b).2 (rawOf_no_nul syn a b) h
  simpa [Iter.read, Iter.stream_def, Iter.mk', canonOf, rawOf] using this

theorem iter_stream_eq_canon (syn : Syntax) (a b : Str)
    (h : CanonDomain (rawOf syn a b).1 (rawOf syn a b).2 = true) :
    (Iter.mk' .fixed syn a b).stream .fixed = (canonOf syn a b).reverse := by
  have := iter_read_eq_canon syn a b h
  simp only [Iter.read] at this
  rw [← this, List.reverse_reverse]

/-! ### joining a relative string onto an absolute base path -/

theorem lt_length_of_cat_ne_nul {s : Str} {i : Nat} (h : cat s i ≠ NUL) : i < s.length := by
  apply Nat.lt_of_not_le
  intro hle
  exact h (by simp only [cat, List.getD_eq_getElem?_getD, List.getElem?_eq_none hle, Option.getD_none])

/-- the root is recognised by tests that the terminator fails, the last of them at the root's last position -/
theorem rootLen_le (syn : Syntax) (s : Str) : rootLen syn s ≤ s.length := by
  have sep : ∀ i, issep syn (cat s i) = true → i < s.length := fun i h =>
    lt_length_of_cat_ne_nul (fun e => by rw [e] at h; revert h; cases syn <;> decide)
  have chr : ∀ i c, c ≠ NUL → (cat s i == c) = true → i < s.length := fun i c hc h =>
    lt_length_of_cat_ne_nul (fun e => hc (by rw [← e]; exact (beq_iff_eq.1 h).symm))
  unfold rootLen
  split
  · next h0 =>
    split
    · next h1 =>
      split
      · next h2 =>
        split
        · next h3 => exact sep 3 h3
        · exact (Bool.or_eq_true_iff.1 h2).elim (chr 2 '.' (by decide)) (chr 2 '?' (by decide))
      · exact sep 1 (Bool.and_eq_true_iff.1 h1).2
    · exact sep 0 h0
  · split
    · next hd =>
      split
      · next h2 => exact sep 2 h2
      · exact chr 1 ':' (by decide) (Bool.and_eq_true_iff.1 hd).2
    · exact Nat.zero_le _

theorem one_le_ite {c : Prop} [Decidable c] {a b : Nat} (ha : 1 ≤ a) (hb : 1 ≤ b) : 1 ≤ (if c then a else b) := by
  split <;> assumption

theorem rootLen_pos (syn : Syntax) (r : Str) : 1 ≤ rootLen syn ('/' :: r) := by
  have h : issep syn '/' = true := by cases syn <;> decide
  simp only [rootLen, cat, List.getD_cons_zero, h, if_true]
  exact one_le_ite (one_le_ite (one_le_ite (by omega) (by omega)) (by omega)) (by omega)

theorem mapChar_slash (syn : Syntax) : mapChar syn '/' = '/' := by cases syn <;> decide

theorem cstr_nil : cstr [] = [] := rfl

theorem rawOf_single (syn : Syntax) (q : Str) :
    rawOf syn q [] = (if (cstr q).isEmpty then 0 else rootLen syn (cstr q), (cstr q).map (mapChar syn)) := by
  unfold rawOf
  rw [cstr_nil]
  generalize cstr q = Q
  cases Q <;> simp [joinRaw]

theorem rawOf_pair (syn : Syntax) (a b : Str) (ha : cstr a ≠ []) :
    rawOf syn a b = (rootLen syn (cstr a),
      (if (cstr b).isEmpty then cstr a else cstr a ++ '/' :: cstr b).map (mapChar syn)) := by
  unfold rawOf
  generalize cstr a = A at *
  generalize cstr b = B
  cases A with
  | nil => exact absurd rfl ha
  | cons x A' => cases B <;> simp [joinRaw]

theorem canonOf_nil_left (syn : Syntax) (p : Str) : canonOf syn [] p = canonOf syn p [] := by
  unfold canonOf rawOf
  rw [cstr_nil]
  generalize cstr p = Q
  cases Q <;> simp [joinRaw]

theorem canon_zero_nil : canon 0 [] = [] := by
  simp [canon, splitSlash, canonComps, canonStep, joinSlash]

theorem head?_take_append {l t : Str} {a : Char} {n : Nat} (hn : 1 ≤ n) (h : l.head? = some a) :
    (l.take n ++ t).head? = some a := by
  obtain ⟨k, rfl⟩ := Nat.exists_eq_add_of_le' hn
  cases l with
  | nil => cases h
  | cons x l' => simpa using h

/-- a relative string (no `..` above its start) appended behind a rooted one -/
theorem canon_join_core (rB : Nat) (Bm Qm : Str) (hpos : 1 ≤ rB) (hlen : rB ≤ Bm.length)
    (hhead : Bm.head? = some '/') (hclosed : (Bm.take rB).getLast? = some '/')
    (hesc : esc 0 (splitSlash Qm).reverse = 0) :
    ∃ pre, canon rB (Bm ++ '/' :: Qm) = pre ++ canon 0 Qm ∧
      (pre.getLast? = some '/' ∨ (canon 0 Qm = [] ∧ (canon rB (Bm ++ '/' :: Qm)).head? = some '/')) := by
  have htake : (Bm ++ '/' :: Qm).take rB = Bm.take rB := List.take_append_of_le_length hlen
  have hdrop : (Bm ++ '/' :: Qm).drop rB = Bm.drop rB ++ '/' :: Qm := List.drop_append_of_le_length hlen
  have hdec : decide (rB > 0) = true := by simp; omega
  have hdec0 : decide (0 > 0) = false := by simp
  simp only [canon, htake, hdrop, splitSlash_append_sep, hdec, hdec0, List.take_zero, List.drop_zero, List.nil_append]
  rw [canonComps_append _ _ hesc]
  generalize canonComps true (splitSlash (Bm.drop rB)) = SB
  generalize canonComps false (splitSlash Qm) = PC
  cases PC with
  | nil =>
    exact ⟨Bm.take rB ++ joinSlash (SB ++ []), by simp [joinSlash],
      Or.inr ⟨by simp [joinSlash], head?_take_append hpos hhead⟩⟩
  | cons c PC' =>
    cases SB with
    | nil => exact ⟨Bm.take rB, by simp, Or.inl hclosed⟩
    | cons b SB' =>
      refine ⟨Bm.take rB ++ joinSlash (b :: SB') ++ ['/'], ?_, Or.inl (by simp)⟩
      rw [joinSlash_append _ _ (by simp) (by simp)]
      simp

/-- a relative string (no root of its own, no `..` above its start) joined onto an absolute base path: the canonical
    form ends with the canonical form of the relative string, behind a separator -/
theorem canonOf_join (syn : Syntax) (base p : Str) (hb : isAbsolute base = true) (hr : rootLen syn (cstr p) = 0)
    (hdp : CanonDomain (rawOf syn p []).1 (rawOf syn p []).2 = true)
    (hdx : CanonDomain (rawOf syn base p).1 (rawOf syn base p).2 = true) :
    ∃ pre, canonOf syn base p = pre ++ canonOf syn p [] ∧
      (pre.getLast? = some '/' ∨ (canonOf syn p [] = [] ∧ (canonOf syn base p).head? = some '/')) := by
  obtain ⟨B', hB⟩ : ∃ B', cstr base = '/' :: B' := by
    cases base with
    | nil => simp [isAbsolute] at hb
    | cons c r =>
      have hc : c = '/' := by simpa [isAbsolute] using hb
      subst hc
      exact ⟨cstr r, by simp [cstr, NUL]⟩
  have hBne : cstr base ≠ [] := by rw [hB]; simp
  have hrB := rootLen_pos syn B'
  have hrBle := rootLen_le syn ('/' :: B')
  unfold canonOf
  rw [rawOf_pair syn base p hBne, hB] at hdx
  rw [rawOf_single syn p] at hdp
  rw [rawOf_pair syn base p hBne, rawOf_single syn p, hB]
  generalize hrB' : rootLen syn ('/' :: B') = rB at *
  by_cases hQ : cstr p = []
  · simp only [hQ, List.isEmpty_nil, if_true, List.map_nil, canon_zero_nil, List.append_nil]
    exact ⟨_, rfl, Or.inr ⟨trivial, head?_take_append hrB (by simp [mapChar_slash])⟩⟩
  · have hQne : (cstr p).isEmpty = false := by cases h : cstr p <;> simp_all
    simp only [hQne, Bool.false_eq_true, if_false, hr] at hdp hdx ⊢
    have hmap : (('/' :: B') ++ '/' :: cstr p).map (mapChar syn) =
        ('/' :: B').map (mapChar syn) ++ '/' :: (cstr p).map (mapChar syn) := by simp [mapChar_slash]
    rw [hmap] at hdx ⊢
    simp only [CanonDomain, Bool.and_eq_true, decide_eq_true_eq, Bool.or_eq_true, Nat.lt_irrefl, decide_false,
      Bool.false_or] at hdp hdx
    have hlen : rB ≤ (('/' :: B').map (mapChar syn)).length := by simpa using hrBle
    have hclosed : ((('/' :: B').map (mapChar syn)).take rB).getLast? = some '/' := by
      have := hdx.1.2
      simp only [closedRoot, Bool.or_eq_true, beq_iff_eq, List.take_append_of_le_length hlen] at this
      rcases this with h | h
      · omega
      · exact h
    have hesc : esc 0 (splitSlash ((cstr p).map (mapChar syn))).reverse = 0 := by
      have := hdp.2.1
      simpa [noEscape] using this
    exact canon_join_core rB _ _ hrB hlen (by simp [mapChar_slash]) hclosed hesc

end Cppcheck.PathCanon
