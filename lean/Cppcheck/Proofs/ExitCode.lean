import Cppcheck.Model.ExitCode
/-
C25 — the exit status.  A run of a logger appends messages and raises its exit flag iff one of them fails (`Ext`).  `Cand r` collects
the messages that can make the status non-zero, whatever the order in which the workers' messages arrive: the status is the error exit
code iff `Cand r`, and, the duplicate gates keeping one message of every key, a printed finding that counts exists iff `Cand r`.
-/
namespace Cppcheck.ExitCode

theorem seen_upd (s : LState) (a b : Bool) (k : Nat) :
    ∃ sn sp, (if a then s else if b then { s with seenSup := k :: s.seenSup } else { s with seen := k :: s.seen })
      = { s with seen := sn, seenSup := sp } := by
  cases a <;> cases b <;> exact ⟨_, _, rfl⟩

theorem step_cases (o : Opts) (g : Bool) (s : LState) (f : Finding) (hs : o.safety = false) :
    (∃ sn sp, loggerStep o g s f = { s with seen := sn, seenSup := sp }) ∨
    (f.internal = true ∧ loggerStep o g s f = { s with out := s.out ++ [⟨f, false⟩] }) ∨
    (f.internal = false ∧ f.emptyText = false ∧ (g = true → f.nomsgGlobal = false) ∧
      ∃ sn sp, loggerStep o g s f = { exit := s.exit || (!f.nofail && !f.nomsgGlobal), seen := sn, seenSup := sp, out := s.out ++ [⟨f, false⟩] }) := by
  have same : ∀ {t}, t = s → ∃ sn sp, t = { s with seen := sn, seenSup := sp } := fun h => ⟨_, _, h⟩
  cases hi : f.internal
  case true => exact .inr (.inl ⟨rfl, by simp only [loggerStep, hi, if_true]⟩)
  cases hl : f.libSkip
  case true => exact .inl (same (by simp only [loggerStep, hi, hl, if_true, Bool.false_eq_true, if_false]))
  cases he : f.emptyText
  case true =>
    exact .inl (same (by simp only [loggerStep, hi, hl, he, hs, if_true, Bool.false_eq_true, if_false, Bool.and_false, Bool.false_and]))
  have hn : (if g = true then f.nomsgGlobal else f.nomsgLocal) = false → g = true → f.nomsgGlobal = false := by
    intro h hg; rwa [if_pos hg] at h
  unfold loggerStep
  generalize (if g = true then f.nomsgGlobal else f.nomsgLocal) = nomsg1 at hn ⊢
  simp only [hi, hl, he, hs, Bool.and_false, Bool.false_and, Bool.false_eq_true, if_false]
  -- what is left of the step: the duplicate test, the update of the filters (`seen_upd`), then the test of `nomsg1`
  obtain ⟨sn, sp, h2⟩ := seen_upd s o.emitDuplicates (nomsg1 || !g && f.nomsgGlobal) f.key
  rw [h2]
  generalize (!o.emitDuplicates && _) = dup
  cases dup
  case true => exact .inl (same rfl)
  cases nomsg1
  case true => exact .inl ⟨sn, sp, rfl⟩
  refine .inr (.inr ⟨trivial, trivial, hn rfl, sn, sp, ?_⟩)
  cases (!f.nofail && !f.nomsgGlobal) <;> simp

/-- a forwarded message for which its logger raised the exit flag -/
def Emit.fails (e : Emit) : Bool := !e.internal && !e.f.nofail && !e.f.nomsgGlobal

theorem Emit.fails_iff {e : Emit} : e.fails = true ↔ e.internal = false ∧ e.f.nofail = false ∧ e.f.nomsgGlobal = false := by
  simp [Emit.fails, and_assoc]

/-- a visible message has a text and, from a logger that asks all suppressions (`g`), is not suppressed -/
def Emit.Ok (g : Bool) (e : Emit) : Prop :=
  e.internal = false → e.f.emptyText = false ∧ (g = true → e.f.nomsgGlobal = false)

def Ext (g : Bool) (fs : List Finding) (s s' : LState) : Prop :=
  ∃ new, s'.out = s.out ++ new ∧ s'.exit = (s.exit || new.any Emit.fails) ∧ ∀ e ∈ new, e.f ∈ fs ∧ e.Ok g

def From (s0 : LState) (fs : List Finding) (s : LState) : Prop :=
  ∀ e ∈ s.out, e ∈ s0.out ∨ e.f ∈ fs

theorem Ext.refl (g : Bool) (fs : List Finding) (s : LState) : Ext g fs s s :=
  ⟨[], by simp⟩

theorem Ext.trans {g : Bool} {fs fs' : List Finding} {s s' s'' : LState} (h : Ext g fs s s') (h' : Ext g fs' s' s'') :
    Ext g (fs ++ fs') s s'' := by
  obtain ⟨n, o, x, h⟩ := h
  obtain ⟨n', o', x', h'⟩ := h'
  refine ⟨n ++ n', by rw [o', o, List.append_assoc], by rw [x', x, List.any_append, Bool.or_assoc], fun e he => ?_⟩
  rcases List.mem_append.mp he with he | he
  · exact ⟨List.mem_append_left _ (h e he).1, (h e he).2⟩
  · exact ⟨List.mem_append_right _ (h' e he).1, (h' e he).2⟩

theorem step_ext {o : Opts} (g : Bool) (hs : o.safety = false) (s : LState) (f : Finding) :
    Ext g [f] s (loggerStep o g s f) := by
  rcases step_cases o g s f hs with ⟨sn, sp, h1⟩ | ⟨hi, h1⟩ | ⟨hi, he, hg, sn, sp, h1⟩ <;> rw [h1]
  · exact Ext.refl g [f] s
  · exact ⟨[⟨f, false⟩], rfl, by simp [Emit.fails, Emit.internal, hi], by simp [Emit.Ok, Emit.internal, hi]⟩
  · exact ⟨[⟨f, false⟩], rfl, by simp [Emit.fails, Emit.internal, hi], by simp [Emit.Ok, he]; exact fun _ => hg⟩

theorem run_ext {o : Opts} (g : Bool) (hs : o.safety = false) : ∀ (fs : List Finding) (s : LState),
    Ext g fs s (runLogger o g s fs) := by
  intro fs
  induction fs with
  | nil => exact Ext.refl g []
  | cons f r ih => exact fun s => (step_ext g hs s f).trans (ih _)

theorem Ext.of_init {g b : Bool} {fs : List Finding} {s : LState} (h : Ext g fs (LState.init b) s) :
    s.exit = (b || s.out.any Emit.fails) ∧ ∀ e ∈ s.out, e.f ∈ fs ∧ e.Ok g := by
  obtain ⟨n, o, x, h⟩ := h
  rw [show s.out = n from o]
  exact ⟨x, h⟩

theorem fileState_spec {r : Run} (hs : r.o.safety = false) {s : LState} (h : s ∈ fileStates r) :
    s.exit = s.out.any Emit.fails ∧ ∀ e ∈ s.out, e.f ∈ allFindings r ∧ e.Ok (useGlobal r) := by
  obtain ⟨fs, hfs, rfl⟩ := List.mem_map.mp h
  obtain ⟨hx, ho⟩ := (run_ext (useGlobal r) hs fs _).of_init
  refine ⟨hx, fun e he => ⟨?_, (ho e he).2⟩⟩
  exact List.mem_append_left _ (List.mem_append_left _ (List.mem_append_left _ (List.mem_flatten.mpr ⟨fs, hfs, (ho e he).1⟩)))

theorem fromFiles_spec {r : Run} (hs : r.o.safety = false) {e : Emit} (h : e ∈ fromFiles r) :
    e.f ∈ allFindings r ∧ e.Ok (useGlobal r) := by
  obtain ⟨s, h1, h2⟩ := List.mem_flatMap.mp h
  exact (fileState_spec hs h1).2 e h2

theorem fileExit_iff {r : Run} (hs : r.o.safety = false) :
    (∃ s ∈ fileStates r, s.exit = true) ↔ ∃ e ∈ fromFiles r, e.fails = true := by
  simp only [fromFiles, List.mem_flatMap]
  constructor
  · rintro ⟨s, h1, h2⟩
    rw [(fileState_spec hs h1).1, List.any_eq_true] at h2
    exact h2.imp fun e he => ⟨⟨s, h1, he.1⟩, he.2⟩
  · rintro ⟨e, ⟨s, h1, h2⟩, h3⟩
    exact ⟨s, h1, by rw [(fileState_spec hs h1).1]; exact List.any_eq_true.mpr ⟨e, h2, h3⟩⟩

theorem main_spec (r : Run) (hs : r.o.safety = false) :
    ((main1 r).exit = true → (main2 r).exit = true) ∧
    (main2 r).exit = (mainStart r || (main2 r).out.any Emit.fails) ∧
    ∀ e ∈ (main2 r).out, e.f ∈ allFindings r ∧ e.Ok true := by
  have h1 : Ext true r.wp1 (LState.init (mainStart r)) (main1 r) := by
    unfold main1
    split
    · exact run_ext true hs _ _
    · exact Ext.refl ..
  have h2 : Ext true r.wp2 (main1 r) (main2 r) := run_ext true hs _ _
  obtain ⟨hx, ho⟩ := (h1.trans h2).of_init
  refine ⟨fun h => ?_, hx, fun e he => ⟨?_, (ho e he).2⟩⟩
  · obtain ⟨_, _, x, _⟩ := h2
    rw [x, h]; rfl
  · rcases List.mem_append.mp (ho e he).1 with h | h
    · exact List.mem_append_left _ (List.mem_append_left _ (List.mem_append_right _ h))
    · exact List.mem_append_left _ (List.mem_append_right _ h)

theorem mainStart_file {r : Run} (h : mainStart r = true) : ∃ s ∈ fileStates r, s.exit = true := by
  unfold mainStart at h
  split at h
  · split at h
    · rename_i s hl
      exact ⟨s, List.mem_of_getLast? hl, h⟩
    · cases h
  · cases h

theorem sum_le_length (l : List LState) (f : LState → Nat) (hf : ∀ s, f s ≤ 1) : (l.map f).sum ≤ l.length := by
  induction l with
  | nil => simp
  | cons a r ih => simp only [List.map_cons, List.sum_cons, List.length_cons]; have := hf a; omega

theorem fileRet_le (r : Run) (s : LState) : fileRet r s ≤ 1 := by
  unfold fileRet; split
  · omega
  · split <;> omega

theorem sumRets_le (r : Run) : sumRets r ≤ r.files.length := by
  have := sum_le_length (fileStates r) (fileRet r) (fileRet_le r)
  simpa [sumRets, fileStates] using this

theorem execResult_eq {r : Run} (hw : noWrap r = true) :
    execResult r = sumRets r + (if r.o.executor == .single && r.wp1Errors && (main1 r).exit then 1 else 0) +
      (if r.o.executor == .process then r.lostPipes else 0) := by
  have h1 := sumRets_le r
  simp only [noWrap, decide_eq_true_eq] at hw
  unfold execResult
  apply Nat.mod_eq_of_lt
  split <;> split <;> omega

theorem or_ne_zero_left {a b : Nat} (h : a ≠ 0) : a ||| b ≠ 0 :=
  fun h0 => h (Nat.or_eq_zero_iff.mp h0).1

theorem or_ne_zero_right {a b : Nat} (h : b ≠ 0) : a ||| b ≠ 0 :=
  fun h0 => h (Nat.or_eq_zero_iff.mp h0).2

/-- the file-level exit flag reaches `returnValue` -/
theorem rv1_of_file {r : Run} (hw : noWrap r = true) (hcc : avoidsCheckConfig r = true)
    {s : LState} (hs : s ∈ fileStates r) (hx : s.exit = true) : rv1 r ≠ 0 := by
  apply or_ne_zero_left
  have h1 : 0 < fileRet r s := by
    unfold fileRet
    simp only [avoidsCheckConfig, Bool.or_eq_true, Bool.not_eq_true'] at hcc
    rcases hcc with hcc | hcc <;> simp [hcc, hx]
  have h2 : 0 < sumRets r := List.sum_pos_iff_exists_pos_nat.mpr ⟨_, List.mem_map_of_mem hs, h1⟩
  rw [execResult_eq hw]
  omega

theorem rv1_of_main {r : Run} (hx : (main2 r).exit = true) : rv1 r ≠ 0 := by
  apply or_ne_zero_right
  simp [hx]

theorem rv2_of_rv1 {r : Run} (h : rv1 r ≠ 0) : rv2 r ≠ 0 := by
  unfold rv2
  have : (rv1 r == 0) = false := by simpa using h
  simp [this, h]

theorem status_of_rv2 {r : Run} (hs : r.o.safety = false) (h : rv2 r ≠ 0) :
    exitStatus r = waitStatus r.o.errorExitCode := by
  unfold exitStatus mainReturn
  have : (rv2 r != 0) = true := by simpa using h
  simp [hs, this]

theorem status_of_rv2_zero {r : Run} (hs : r.o.safety = false) (h : rv2 r = 0) : exitStatus r = 0 := by
  unfold exitStatus mainReturn
  simp [hs, h, waitStatus]

theorem status_eq_of_rv1 {r r' : Run} (ho : r'.o = r.o) (hg : r'.unmatchedGate = r.unmatchedGate) (hu : unmatchedErr r' = unmatchedErr r)
    (hc : hasCritical r' = hasCritical r) (h : (rv1 r' = rv1 r) ∨ (rv1 r' ≠ 0 ∧ rv1 r ≠ 0)) : exitStatus r' = exitStatus r := by
  unfold exitStatus mainReturn
  rw [ho, hc]
  have : (rv2 r' != 0) = (rv2 r != 0) := by
    unfold rv2
    rw [ho, hg, hu]
    rcases h with h | ⟨h1, h2⟩
    · rw [h]
    · simp [h1, h2, bne_iff_ne.mpr h1, bne_iff_ne.mpr h2]
  rw [this]

/-- which messages can make a printed, not exitcode-suppressed finding: independent of the arrival order -/
def Cand (r : Run) : Prop :=
  (∃ e ∈ fromFiles r, e.fails = true) ∨ (∃ e ∈ (main2 r).out, e.fails = true) ∨
  (r.unmatchedGate = true ∧ ∃ u ∈ r.unmatched, u.nofail = false)

theorem status_of_cand {r : Run} (hs : r.o.safety = false) (hw : noWrap r = true) (hcc : avoidsCheckConfig r = true)
    (h : Cand r) : exitStatus r = waitStatus r.o.errorExitCode := by
  rcases h with h | h | ⟨hg, u, h1, hn⟩
  · obtain ⟨s, h2, h3⟩ := (fileExit_iff hs).mpr h
    exact status_of_rv2 hs (rv2_of_rv1 (rv1_of_file hw hcc h2 h3))
  · have hx : (main2 r).exit = true := by rw [(main_spec r hs).2.1, List.any_eq_true.mpr h, Bool.or_true]
    exact status_of_rv2 hs (rv2_of_rv1 (rv1_of_main hx))
  · by_cases hz : rv2 r = 0
    · -- `returnValue` is still 0 when the unmatchedSuppression findings are looked at, so they set it
      have hue : unmatchedErr r = true := by
        unfold unmatchedErr
        split
        · exact List.any_eq_true.mpr ⟨u, h1, by simp [hn]⟩
        · cases hl : r.unmatched with
          | nil => rw [hl] at h1; cases h1
          | cons a t => rfl
      rw [status_of_rv2_zero hs hz]
      unfold rv2 at hz
      by_cases h0 : rv1 r = 0
      · simp only [hg, hue, h0, beq_self_eq_true, Bool.and_self, if_true] at hz
        unfold waitStatus
        simp only [two32] at hz
        -- `hz`: the error exit code is 0 modulo 2^32, so modulo 256
        omega
      · have : (rv1 r == 0) = false := by simpa using h0
        simp [this] at hz
        exact absurd hz h0
    · exact status_of_rv2 hs hz

theorem cand_of_status {r : Run} (hs : r.o.safety = false) (hc : r.o.errorExitCode % 256 ≠ 0) (hl : r.lostPipes = 0)
    (h9 : avoidsUnmatchedNofail r = true) (h : exitStatus r = waitStatus r.o.errorExitCode) : Cand r := by
  have hnz : rv2 r ≠ 0 := by
    intro hz
    rw [status_of_rv2_zero hs hz] at h
    unfold waitStatus at h
    omega
  by_cases h1 : rv1 r = 0
  · -- the unmatchedSuppression branch
    unfold rv2 at hnz
    by_cases hcond : (r.unmatchedGate && unmatchedErr r && rv1 r == 0) = true
    · simp only [Bool.and_eq_true] at hcond
      have hg := hcond.1.1
      have hue := hcond.1.2
      refine .inr (.inr ⟨hg, ?_⟩)
      unfold unmatchedErr at hue
      split at hue
      · simpa using hue
      · rename_i hv
        simp only [avoidsUnmatchedNofail, Bool.or_eq_true, Bool.not_eq_true'] at h9
        rcases h9 with ((h9 | h9) | h9) | h9
        · exact absurd h9 hv
        · rw [hg] at h9; cases h9
        · rw [h9] at hue; cases hue
        · simpa using h9
    · rw [if_neg hcond] at hnz
      exact absurd h1 hnz
  · -- some logger raised its flag
    by_cases hm : (main2 r).exit = true
    · rw [(main_spec r hs).2.1, Bool.or_eq_true, List.any_eq_true] at hm
      exact hm.elim (fun h2 => .inl ((fileExit_iff hs).mp (mainStart_file h2))) fun h2 => .inr (.inl h2)
    · have hm' : (main2 r).exit = false := by simpa using hm
      have hm1 : (main1 r).exit = false := by
        cases hh : (main1 r).exit
        · rfl
        · rw [(main_spec r hs).1 hh] at hm'; cases hm'
      have hpos : 0 < sumRets r := by
        apply Nat.pos_of_ne_zero
        intro h0
        apply h1
        unfold rv1 execResult
        simp [h0, hm', hm1, hl]
      obtain ⟨n, hn, h3⟩ := List.sum_pos_iff_exists_pos_nat.mp hpos
      obtain ⟨s, h2, rfl⟩ := List.mem_map.mp hn
      refine .inl ((fileExit_iff hs).mp ⟨s, h2, ?_⟩)
      unfold fileRet at h3
      split at h3
      · omega
      · split at h3
        · assumption
        · omega

theorem gate_cons (d k : Bool) (p : Finding → Bool) (seen : List Nat) (a : Emit) (r : List Emit) :
    (gate d k p seen (a :: r) = gate d k p seen r ∧ (a.internal = false → p a.f = true → seen.contains a.f.key = true)) ∨
    ((a.internal = true → k = true) ∧ (a.internal = false → p a.f = true) ∧
      ∃ seen', (seen' = seen ∨ a.internal = false ∧ seen' = a.f.key :: seen) ∧
        gate d k p seen (a :: r) = a :: gate d k p seen' r) := by
  rw [gate]
  cases a.internal
  case true =>
    cases k
    · exact .inl ⟨rfl, nofun⟩
    · exact .inr ⟨fun _ => rfl, nofun, _, .inl rfl, rfl⟩
  cases p a.f
  case false => exact .inl ⟨rfl, nofun⟩
  cases d
  case true => exact .inr ⟨nofun, fun _ => rfl, _, .inl rfl, rfl⟩
  cases h : seen.contains a.f.key
  · exact .inr ⟨nofun, fun _ => rfl, _, .inr ⟨rfl, rfl⟩, rfl⟩
  · exact .inl ⟨rfl, fun _ _ => rfl⟩

theorem gate_sub (d k : Bool) (p : Finding → Bool) : ∀ (es : List Emit) (seen : List Nat) (e : Emit),
    e ∈ gate d k p seen es → e ∈ es ∧ (e.internal = true → k = true) ∧ (e.internal = false → p e.f = true) := by
  intro es
  induction es with
  | nil => intro seen e h; simp [gate] at h
  | cons a r ih =>
    intro seen e h
    have tail : ∀ seen', e ∈ gate d k p seen' r → e ∈ a :: r ∧ _ :=
      fun seen' h => let ⟨h1, h2⟩ := ih seen' e h; ⟨List.mem_cons_of_mem _ h1, h2⟩
    rcases gate_cons d k p seen a r with ⟨h1, _⟩ | ⟨hk, hp, seen', _, h1⟩
    · exact tail _ (h1 ▸ h)
    · rw [h1] at h
      rcases List.mem_cons.mp h with rfl | h
      · exact ⟨List.mem_cons_self, hk, hp⟩
      · exact tail _ h

theorem gate_rep (d k : Bool) (p : Finding → Bool) : ∀ (es : List Emit) (seen : List Nat) (e : Emit),
    e ∈ es → e.internal = false → p e.f = true →
    seen.contains e.f.key = true ∨ ∃ e' ∈ gate d k p seen es, e'.internal = false ∧ e'.f.key = e.f.key := by
  intro es
  induction es with
  | nil => intro seen e h; cases h
  | cons a r ih =>
    intro seen e h hi hp
    rcases gate_cons d k p seen a r with ⟨h1, hdup⟩ | ⟨_, _, seen', hs', h1⟩ <;> rw [h1]
    · rcases List.mem_cons.mp h with rfl | h
      · exact .inl (hdup hi hp)
      · exact ih seen e h hi hp
    · rcases List.mem_cons.mp h with rfl | h
      · exact .inr ⟨e, List.mem_cons_self, hi, rfl⟩
      · rcases ih seen' e h hi hp with h2 | ⟨e', h2, h3⟩
        · -- `a` is kept and its key remembered: if that key is `e`'s, `a` itself stands for `e`
          rcases hs' with rfl | ⟨hia, rfl⟩
          · exact .inl h2
          · rw [List.contains_cons, Bool.or_eq_true, beq_iff_eq] at h2
            exact h2.elim (fun h2 => .inr ⟨a, List.mem_cons_self, hia, h2.symm⟩) .inl
        · exact .inr ⟨e', List.mem_cons_of_mem _ h2, h3⟩

theorem stdInput_eq (r : Run) : stdInput r = stdInputOf r (fromFiles r) := rfl
theorem printed_eq (r : Run) : printed r = printedOf r (fromFiles r) := rfl

theorem mem_stdInputOf {r : Run} {es : List Emit} {e : Emit} :
    e ∈ stdInputOf r es ↔
      (r.o.executor = .single ∧ e ∈ es) ∨ (r.o.executor ≠ .single ∧ e ∈ hasToLog r.o es) ∨ e ∈ (main2 r).out ∨
      (r.unmatchedGate = true ∧ ∃ u ∈ r.unmatched, ⟨u, false⟩ = e) := by
  unfold stdInputOf
  by_cases hx : r.o.executor = .single <;> cases r.unmatchedGate <;> simp [hx]

theorem stdInputOf_all {r : Run} (hs : r.o.safety = false) {es : List Emit} (hes : ∀ e, e ∈ es → e ∈ fromFiles r) {e : Emit}
    (h : e ∈ stdInputOf r es) : e.f ∈ allFindings r := by
  rcases mem_stdInputOf.mp h with ⟨_, h1⟩ | ⟨_, h1⟩ | h1 | ⟨_, u, h1, h2⟩
  · exact (fromFiles_spec hs (hes e h1)).1
  · exact (fromFiles_spec hs (hes e (gate_sub _ _ _ _ _ _ h1).1)).1
  · exact ((main_spec r hs).2.2 e h1).1
  · subst h2; exact List.mem_append_right _ h1

theorem key_nofail {r : Run} (hk : keyCoherent r = true) {f g : Finding} (hf : f ∈ allFindings r) (hg : g ∈ allFindings r)
    (h : f.key = g.key) : f.nofail = g.nofail := by
  simp only [keyCoherent, List.all_eq_true] at hk
  have := hk f hf g hg
  simp only [Bool.or_eq_true, bne_iff_ne, ne_eq, Bool.and_eq_true, beq_iff_eq] at this
  rcases this with h1 | h1
  · exact absurd h h1
  · exact h1.1

/-- a visible message at StdLogger that is not exit-code-suppressed has a printed representative -/
theorem culprit_printedOf {r : Run} (hs : r.o.safety = false) (hk : keyCoherent r = true) {es : List Emit}
    (hes : ∀ e, e ∈ es → e ∈ fromFiles r) {e : Emit} (he : e ∈ stdInputOf r es) (hint : e.internal = false)
    (hn : e.f.nofail = false) : ∃ f ∈ printedOf r es, f.nofail = false := by
  rcases gate_rep r.o.emitDuplicates false (fun _ => true) (stdInputOf r es) [] e he hint rfl with h | ⟨e', h1, _, h3⟩
  · cases h
  · refine ⟨e'.f, List.mem_map_of_mem h1, ?_⟩
    have h4 := (gate_sub _ _ _ _ _ _ h1).1
    rw [key_nofail hk (stdInputOf_all hs hes h4) (stdInputOf_all hs hes he) h3]; exact hn

theorem cand_of_printedOf {r : Run} (hs : r.o.safety = false) {es : List Emit} (hes : ∀ e, e ∈ es → e ∈ fromFiles r)
    (h : ∃ f ∈ printedOf r es, f.nofail = false) : Cand r := by
  obtain ⟨f, hf, hn⟩ := h
  obtain ⟨e, he, rfl⟩ := List.mem_map.mp hf
  have hsub := gate_sub _ _ _ _ _ _ he
  have hint : e.internal = false := by
    cases h : e.internal
    · rfl
    · cases hsub.2.1 h
  -- whichever way `e` came, it reached StdLogger only if all suppressions had been asked about it
  have fails : e.f.nomsgGlobal = false → e.fails = true := fun hg => Emit.fails_iff.mpr ⟨hint, hn, hg⟩
  rcases mem_stdInputOf.mp hsub.1 with ⟨hx, h1⟩ | ⟨hx, h1⟩ | h1 | ⟨hg, u, h1, h2⟩
  · exact .inl ⟨e, hes e h1, fails (((fromFiles_spec hs (hes e h1)).2 hint).2 (by simp [useGlobal, hx]))⟩
  · have h3 := gate_sub _ _ _ _ _ _ h1
    have hp := h3.2.2 hint
    simp only [Bool.and_eq_true, Bool.not_eq_true'] at hp
    exact .inl ⟨e, hes e h3.1, fails hp.1⟩
  · exact .inr (.inl ⟨e, h1, fails ((((main_spec r hs).2.2 e h1).2 hint).2 rfl)⟩)
  · subst h2; exact .inr (.inr ⟨hg, u, h1, hn⟩)

theorem printedOf_of_cand {r : Run} (hs : r.o.safety = false) (hk : keyCoherent r = true) (hu : unmatchedPlain r = true)
    {es : List Emit} (hes : ∀ e, e ∈ es ↔ e ∈ fromFiles r) (h : Cand r) : ∃ f ∈ printedOf r es, f.nofail = false := by
  have hes1 : ∀ e, e ∈ es → e ∈ fromFiles r := fun e h => (hes e).mp h
  rcases h with ⟨e, h1, hf⟩ | ⟨e, h1, hf⟩ | ⟨hg, u, h1, hn⟩
  · obtain ⟨hint, hn, hng⟩ := Emit.fails_iff.mp hf
    have hmem : e ∈ es := (hes e).mpr h1
    by_cases hsingle : r.o.executor = .single
    · exact culprit_printedOf hs hk hes1 (mem_stdInputOf.mpr (.inl ⟨hsingle, hmem⟩)) hint hn
    · -- the executor's gate may let through another message with `e`'s key: by `keyCoherent` it serves as well
      have hp : (fun f : Finding => !f.nomsgGlobal && !f.emptyText) e.f = true := by
        simp [hng, ((fromFiles_spec hs h1).2 hint).1]
      rcases gate_rep r.o.emitDuplicates true (fun f : Finding => !f.nomsgGlobal && !f.emptyText) _ [] e hmem hint hp with h6 | ⟨e', h6, h7, h8⟩
      · cases h6
      · have hin : e' ∈ stdInputOf r es := mem_stdInputOf.mpr (.inr (.inl ⟨hsingle, h6⟩))
        refine culprit_printedOf hs hk hes1 hin h7 ?_
        rw [key_nofail hk (stdInputOf_all hs hes1 hin) (fromFiles_spec hs h1).1 h8]; exact hn
  · obtain ⟨hint, hn, _⟩ := Emit.fails_iff.mp hf
    exact culprit_printedOf hs hk hes1 (mem_stdInputOf.mpr (.inr (.inr (.inl h1)))) hint hn
  · have hpl : u.internal = false ∧ u.emptyText = false := by
      simp only [unmatchedPlain, List.all_eq_true, Bool.and_eq_true, Bool.not_eq_true'] at hu
      exact hu u h1
    exact culprit_printedOf hs hk hes1 (mem_stdInputOf.mpr (.inr (.inr (.inr ⟨hg, u, h1, rfl⟩))))
      (by simp [Emit.internal, hpl.1]) hn

theorem printedOf_iff_cand (r : Run) (hs : r.o.safety = false) (hk : keyCoherent r = true) (hu : unmatchedPlain r = true)
    (es : List Emit) (hes : ∀ e, e ∈ es ↔ e ∈ fromFiles r) :
    (∃ f ∈ printedOf r es, f.nofail = false) ↔ Cand r :=
  ⟨cand_of_printedOf hs fun e h => (hes e).mp h, printedOf_of_cand hs hk hu hes⟩

/-- completeness: a printed finding that is not exit-code-suppressed forces the error exit code -/
theorem complete (r : Run) (hs : r.o.safety = false) (hw : noWrap r = true) (hcc : avoidsCheckConfig r = true)
    (f : Finding) (hf : f ∈ printed r) (hn : f.nofail = false) :
    exitStatus r = waitStatus r.o.errorExitCode :=
  status_of_cand hs hw hcc (cand_of_printedOf hs (es := fromFiles r) (fun _ h => h) ⟨f, hf, hn⟩)

/-- soundness: the error exit code is explained by a printed finding that is not exit-code-suppressed -/
theorem sound (r : Run) (hs : r.o.safety = false) (hc : r.o.errorExitCode % 256 ≠ 0) (hl : r.lostPipes = 0)
    (hk : keyCoherent r = true) (hu : unmatchedPlain r = true) (h9 : avoidsUnmatchedNofail r = true)
    (h : exitStatus r = waitStatus r.o.errorExitCode) : ∃ f ∈ printed r, f.nofail = false :=
  printedOf_of_cand hs hk hu (es := fromFiles r) (fun _ => Iff.rfl) (cand_of_status hs hc hl h9 h)

end Cppcheck.ExitCode
