import Cppcheck.Model.Cache
import Cppcheck.Proofs.Decimal
import Cppcheck.Proofs.TextLemmas
/-
Lemmas behind Props/C18.lean and Props/C19.lean, after the predicates their hypotheses are stated with.  The core is
`runFile_spec`: over a build directory all of whose entries are honest (`Inv`) a cache hit returns what the analysis would have
produced, because the hash has no collision on the inputs of the history and the key determines the analysis input.  Then the
code meets the hypotheses: the key composition `Encoding.fixed` is uniquely decodable (a `PrefixCode` built from prefix codes),
and files.txt gives every listed file a cache file of its own.  Last, for C19, the toolinfo chain `renderToolinfo` over `++` and
item by item, and the `<error>` children `cachedErrors` reads from a cache document.
-/
namespace Cppcheck.Cache
open Cppcheck.Wire

variable {H S F : Type} [DecidableEq H]

omit [DecidableEq H] in
theorem BuildDir.get_put (bd : BuildDir H S F) (k k2 : Str) (e : Entry H S F) :
    (bd.put k e).get k2 = if k = k2 then some e else bd.get k2 := by
  fun_induction BuildDir.put bd k e <;> grind [BuildDir.get]

/-- the key determines the analysis input on the inputs `L` -/
def KeyFaithfulOn (E : Encoding) (L : List FileInput) : Prop :=
  ∀ a ∈ L, ∀ b ∈ L, hashInput E a = hashInput E b → a.view = b.view

instance (E : Encoding) (L : List FileInput) : Decidable (KeyFaithfulOn E L) := by
  unfold KeyFaithfulOn; infer_instance

/-- no suppression decision of the run depends on the macro names of a finding the analysis of `tr` produces -/
def MacroFree (W : World H S F) (vis : Finding → Bool) (tr : Tree) : Prop :=
  ∀ i ∈ tr, ∀ f ∈ W.analyze [] i.view, vis f.stored = vis f

instance (W : World H S F) (vis : Finding → Bool) (tr : Tree) : Decidable (MacroFree W vis tr) := by
  unfold MacroFree; infer_instance

/-- the analysis of the files of `tr` gives the same result under the return summaries `sr` as without any -/
def SummFree (W : World H S F) (sr : SummRet) (tr : Tree) : Prop :=
  ∀ i ∈ tr, W.analyze sr i.view = W.analyze [] i.view ∧ W.summary sr i.view = W.summary [] i.view

instance [DecidableEq S] (W : World H S F) (sr : SummRet) (tr : Tree) : Decidable (SummFree W sr tr) := by
  unfold SummFree; infer_instance

/-- every listed file is looked up in the cache file files.txt lists for it, and no two files share one -/
def MapOK (lk : LookupKind) (paths : List Str) : Prop :=
  (filesTxt paths).map (·.afile) = paths.map (cacheFile lk (filesTxt paths)) ∧ ((filesTxt paths).map (·.afile)).Nodup

instance (lk : LookupKind) (paths : List Str) : Decidable (MapOK lk paths) := by
  unfold MapOK; infer_instance

/-- the cache entry is what an analysis of `i` without return summaries writes (the `.sN` part is not constrained) -/
def Honest (W : World H S F) (i : FileInput) (e : Entry H S F) : Prop :=
  e.hash = key W i ∧ e.findings = (W.analyze [] i.view).map Finding.stored ∧ e.summ = W.summary [] i.view

/-- every cache file holds the result of a full analysis of some input of `L` -/
def Inv (W : World H S F) (L : List FileInput) (bd : BuildDir H S F) : Prop :=
  ∀ slot e, bd.get slot = some e → ∃ i ∈ L, Honest W i e

/-- no two hash inputs that occur in `L` collide (the satisfiable form of "std::hash has no collision": a function from all byte
    strings into `size_t` cannot be injective, it can be collision-free on the finitely many inputs of a history) -/
def HashInjOn (W : World H S F) (L : List FileInput) : Prop :=
  ∀ a ∈ L, ∀ b ∈ L, W.hash (hashInput W.enc a) = W.hash (hashInput W.enc b) → hashInput W.enc a = hashInput W.enc b

instance (W : World H S F) (L : List FileInput) : Decidable (HashInjOn W L) := by unfold HashInjOn; infer_instance

theorem Finding.stored_stored (f : Finding) : f.stored.stored = f.stored := rfl

theorem filterMap_report_stored (vis : Finding → Bool) (l : List Finding) (h : ∀ f ∈ l, vis f.stored = vis f) :
    (l.map Finding.stored).filterMap (report vis) = l.filterMap (report vis) := by
  induction l with
  | nil => rfl
  | cons f r ih =>
    have hf := h f (by simp)
    have hr := ih (fun g hg => h g (by simp [hg]))
    simp only [List.map_cons, List.filterMap_cons, report, Finding.stored_stored, hf, hr]

theorem inj_on_of_nodup_map {α β} (f : α → β) (l : List α) (h : (l.map f).Nodup) {a b : α} (ha : a ∈ l) (hb : b ∈ l)
    (e : f a = f b) : a = b :=
  have hp := List.pairwise_map.mp h
  List.Pairwise.forall_of_forall_of_flip (R := fun a b => f a = f b → a = b) (fun _ _ _ => rfl)
    (hp.imp fun h e => absurd e h) (hp.imp fun h e => absurd e.symm h) ha hb e

theorem reuse_eq_some {W : World H S F} {bd : BuildDir H S F} {slot : Str} {i : FileInput} {e : Entry H S F}
    (h : reuse W bd slot i = some e) : bd.get slot = some e ∧ e.hash = key W i := by
  unfold reuse at h
  split at h
  · split at h
    · cases h; exact ⟨‹_›, (‹_ ∧ _›).1⟩
    · cases h
  · cases h

section OneRun
variable (W : World H S F) (L : List FileInput) (sr : SummRet) (vis : Finding → Bool) (ft : List FtLine)

theorem runFile_spec (hinj : HashInjOn W L) (henc : KeyFaithfulOn W.enc L)
    (bd : BuildDir H S F) (hbd : Inv W L bd) (i : FileInput) (hi : i ∈ L)
    (hmac : ∀ f ∈ W.analyze [] i.view, vis f.stored = vis f)
    (hsr : W.analyze sr i.view = W.analyze [] i.view ∧ W.summary sr i.view = W.summary [] i.view) :
    ∃ e, Honest W i e ∧ (runFile W sr vis ft bd i).2 = (W.analyze [] i.view).filterMap (report vis)
      ∧ ∀ s, (runFile W sr vis ft bd i).1.get s = if cacheFile W.lk ft i.path = s then some e else bd.get s := by
  cases hr : reuse W bd (cacheFile W.lk ft i.path) i with
  | none =>
    simp only [runFile, hr]
    refine ⟨entryOf W sr i, ⟨rfl, ?_, ?_⟩, ?_, fun s => BuildDir.get_put bd _ s _⟩
    · simp [entryOf, hsr.1]
    · simp [entryOf, hsr.2]
    · rw [hsr.1]
  | some e =>
    -- a hit: the entry is honest for some `j ∈ L`, the hash does not collide on `L`, the key determines the view
    obtain ⟨hget, hk⟩ := reuse_eq_some hr
    obtain ⟨j, hj, hej⟩ := hbd _ e hget
    have hview : j.view = i.view := henc j hj i hi (hinj j hj i hi (hej.1.symm.trans hk))
    simp only [runFile, hr]
    refine ⟨e, ⟨hk, hview ▸ hej.2.1, hview ▸ hej.2.2⟩, ?_, fun s => ?_⟩
    · rw [hej.2.1, hview]
      exact filterMap_report_stored vis _ hmac
    · split
      · subst_vars; exact hget
      · rfl

theorem runFiles_spec (hinj : HashInjOn W L) (henc : KeyFaithfulOn W.enc L) :
    ∀ (files : List FileInput) (bd : BuildDir H S F), Inv W L bd → (∀ i ∈ files, i ∈ L) → MacroFree W vis files → SummFree W sr files →
      (runFiles W sr vis ft bd files).2 = files.map (fun i => (W.analyze [] i.view).filterMap (report vis))
      ∧ ∀ s, ((∀ i ∈ files, cacheFile W.lk ft i.path ≠ s) ∧ (runFiles W sr vis ft bd files).1.get s = bd.get s)
          ∨ ∃ i ∈ files, cacheFile W.lk ft i.path = s ∧ ∃ e, (runFiles W sr vis ft bd files).1.get s = some e ∧ Honest W i e := by
  intro files
  induction files with
  | nil => intro bd _ _ _ _; exact ⟨rfl, fun s => .inl ⟨fun _ h => (nomatch h), rfl⟩⟩
  | cons i r ih =>
    intro bd hbd hL hmac hsr
    obtain ⟨e, he, h1, h2⟩ := runFile_spec W L sr vis ft hinj henc bd hbd i
      (hL i (by simp)) (hmac i (by simp)) (hsr i (by simp))
    have hbd1 : Inv W L (runFile W sr vis ft bd i).1 := fun s e' h => by
      rw [h2] at h
      split at h
      · cases h; exact ⟨i, hL i (by simp), he⟩
      · exact hbd s e' h
    obtain ⟨g1, g2⟩ := ih _ hbd1
      (fun j hj => hL j (by simp [hj]))
      (fun j hj => hmac j (by simp [hj]))
      (fun j hj => hsr j (by simp [hj]))
    simp only [runFiles]
    refine ⟨by simp [h1, g1], fun s => ?_⟩
    rcases g2 s with ⟨hno, hg⟩ | ⟨j, hj, hjs, e', hg, hh⟩
    · rw [h2] at hg
      by_cases hs : cacheFile W.lk ft i.path = s
      · exact .inr ⟨i, List.mem_cons_self, hs, e, by rw [hg, if_pos hs], he⟩
      · exact .inl ⟨List.forall_mem_cons.mpr ⟨hs, hno⟩, by rw [hg, if_neg hs]⟩
    · exact .inr ⟨j, List.mem_cons_of_mem _ hj, hjs, e', hg, hh⟩

omit [DecidableEq H] in
theorem collect_spec (bd : BuildDir H S F) (lines : List FtLine) (files : List FileInput)
    (h1 : lines.map (·.afile) = files.map (fun i => cacheFile W.lk ft i.path))
    (h2 : lines.map (·.source) = files.map (·.path))
    (h3 : ∀ i ∈ files, ∃ e, bd.get (cacheFile W.lk ft i.path) = some e ∧ e.summ = W.summary [] i.view) :
    collect bd lines = files.map fun i => (i.path, W.summary [] i.view) := by
  induction files generalizing lines with
  | nil => rw [List.map_eq_nil_iff.mp h1]; rfl
  | cons i fr ih =>
    obtain ⟨l, r, rfl, ha, hr⟩ := List.map_eq_cons_iff.mp h1
    obtain ⟨e, he, hs⟩ := h3 i (by simp)
    simp only [List.map_cons, List.cons.injEq] at h2
    simp only [collect, ha, he, hs, h2.1, List.map_cons]
    rw [ih r hr h2.2 fun j hj => h3 j (by simp [hj])]

end OneRun

theorem filesTxtFrom_source (seen paths : List Str) : (filesTxtFrom seen paths).map (·.source) = paths := by
  induction paths generalizing seen with
  | nil => rfl
  | cons p r ih => simp [filesTxtFrom, ih]

theorem filesTxt_source (paths : List Str) : (filesTxt paths).map (·.source) = paths := filesTxtFrom_source [] paths

/-- `order`: the order in which the workers finish the listed files -/
theorem runWithCacheSched_spec (W : World H S F) (L : List FileInput) (vis : Finding → Bool)
    (hinj : HashInjOn W L) (henc : KeyFaithfulOn W.enc L)
    (st : BdState H S F) (hbd : Inv W L st.1) (files order : List FileInput) (hperm : order.Perm files) (hL : ∀ i ∈ files, i ∈ L)
    (hmac : MacroFree W vis files) (hsr : SummFree W (srOf W st.1 st.2) files) :
    (runWithCacheSched W vis st files order).2.perFile = (runFresh W vis order).perFile
    ∧ Inv W L (runWithCacheSched W vis st files order).1.1
    ∧ (MapOK W.lk (files.map (·.path)) → (runWithCacheSched W vis st files order).2.whole = (runFresh W vis files).whole) := by
  have hmem : ∀ i, i ∈ order ↔ i ∈ files := fun i => hperm.mem_iff
  obtain ⟨g1, g2⟩ := runFiles_spec W L (srOf W st.1 st.2) vis (filesTxt (files.map (·.path))) hinj henc order st.1 hbd
    (fun i hi => hL i ((hmem i).mp hi)) (fun i hi => hmac i ((hmem i).mp hi)) (fun i hi => hsr i ((hmem i).mp hi))
  refine ⟨g1, fun s e h => ?_, fun ⟨hm1, hm2⟩ => ?_⟩
  · rcases g2 s with ⟨_, hg⟩ | ⟨i, hi, _, e', hg, hh⟩
    · exact hbd s e (hg ▸ h)
    · cases hg.symm.trans h; exact ⟨i, hL i ((hmem i).mp hi), hh⟩
  have hsrc := filesTxt_source (files.map (·.path))
  simp only [runWithCacheSched, runFresh]
  -- from here on files.txt is any list `ft` with these properties (`collect_spec` takes it twice)
  generalize filesTxt (files.map (·.path)) = ft at hm1 hm2 hsrc g2 ⊢
  rw [List.map_map] at hm1
  -- the listed files have pairwise different cache files, so the entry in the slot of each is honest for that file
  have hnd : (order.map fun i => cacheFile W.lk ft i.path).Nodup := (hperm.map _).nodup_iff.mpr (hm1 ▸ hm2)
  rw [collect_spec W ft _ ft files hm1 hsrc fun i hi => ?_]
  rcases g2 (cacheFile W.lk ft i.path) with ⟨hno, _⟩ | ⟨j, hj, hjs, e, hg, hh⟩
  · exact absurd rfl (hno i ((hmem i).mpr hi))
  · cases inj_on_of_nodup_map _ _ hnd hj ((hmem i).mpr hi) hjs
    exact ⟨e, hg, hh.2.2⟩

theorem runWithCache_spec (W : World H S F) (L : List FileInput) (vis : Finding → Bool)
    (hinj : HashInjOn W L) (henc : KeyFaithfulOn W.enc L)
    (st : BdState H S F) (hbd : Inv W L st.1) (files : List FileInput) (hL : ∀ i ∈ files, i ∈ L)
    (hmac : MacroFree W vis files) (hsr : SummFree W (srOf W st.1 st.2) files) :
    (runWithCache W vis st files).2.perFile = (runFresh W vis files).perFile ∧ Inv W L (runWithCache W vis st files).1.1
    ∧ (MapOK W.lk (files.map (·.path)) → (runWithCache W vis st files).2 = runFresh W vis files) := by
  obtain ⟨h1, h2, h3⟩ := runWithCacheSched_spec W L vis hinj henc st hbd files files (.refl _) hL hmac hsr
  exact ⟨h1, h2, fun hmap => congr (congrArg Report.mk h1) (h3 hmap)⟩

theorem exec_spec (W : World H S F) (L : List FileInput) (hinj : HashInjOn W L) (henc : KeyFaithfulOn W.enc L) :
    ∀ (evs : List Event) (st : BdState H S F) (t : Tree), Inv W L st.1 →
      (∀ r ∈ runsOf t evs, (∀ i ∈ r.2, i ∈ L) ∧ MacroFree W r.1 r.2) → (∀ r ∈ cachedRuns W st t evs, SummFree W r.1 r.2) →
      (execCached W st t evs).map (·.perFile) = (execFresh W t evs).map (·.perFile)
      ∧ ((∀ r ∈ runsOf t evs, MapOK W.lk (r.2.map (·.path))) → execCached W st t evs = execFresh W t evs) := by
  intro evs
  induction evs with
  | nil => intro _ _ _ _ _; exact ⟨rfl, fun _ => rfl⟩
  | cons ev r ih =>
    intro st t hbd h hs
    cases ev with
    | edit f => exact ih st (f t) hbd h hs
    | run vis =>
      simp only [runsOf, List.mem_cons, forall_eq_or_imp] at h ⊢
      simp only [cachedRuns, List.mem_cons, forall_eq_or_imp] at hs
      obtain ⟨h1, h2, h3⟩ := runWithCache_spec W L vis hinj henc st hbd t h.1.1 h.1.2 hs.1
      obtain ⟨g1, g2⟩ := ih _ t h2 h.2 hs.2
      simp only [execCached, execFresh, List.map_cons]
      exact ⟨by rw [h1, g1], fun hmap => by rw [h3 hmap.1, g2 hmap.2]⟩

omit [DecidableEq H] in
theorem inv_empty (W : World H S F) (L : List FileInput) : Inv W L ([] : BuildDir H S F) := by
  intro slot e h; simp [BuildDir.get] at h

theorem dec_digits (n : Nat) : ∀ c ∈ dec n, c.isDigit = true := fun c hc =>
  Nat.isDigit_of_mem_toDigits (by decide) (by decide) hc

theorem dec_ne_nil (n : Nat) : dec n ≠ [] := Nat.toDigits_ne_nil

theorem dec_inj {n m : Nat} (h : dec n = dec m) : n = m := Decimal.toDigits_inj h

/-- `enc` is a prefix code in front of the rests `ok`: a word (up to `key`) and what follows it are determined by their
    concatenation.  A list of words is a prefix of every longer list: it can be read only in front of something no word can start. -/
def PrefixCode {α β : Type} (enc : α → Str) (key : α → β) (ok : Str → Prop) : Prop :=
  ∀ a b r r', ok r → ok r' → enc a ++ r = enc b ++ r' → key a = key b ∧ r = r'

/-- the `ok` of a code whose words end in a character that marks their end: nothing is asked of the rest -/
def anyRest : Str → Prop := fun _ => True

theorem PrefixCode.seq {α β γ δ : Type} {e1 : α → Str} {k1 : α → β} {ok1 : Str → Prop} {e2 : γ → Str} {k2 : γ → δ} {ok2 : Str → Prop}
    (h1 : PrefixCode e1 k1 ok1) (h2 : PrefixCode e2 k2 ok2) (hok : ∀ c r, ok2 r → ok1 (e2 c ++ r)) :
    PrefixCode (fun p : α × γ => e1 p.1 ++ e2 p.2) (fun p => (k1 p.1, k2 p.2)) ok2 := by
  intro a b r r' hr hr' h
  simp only [List.append_assoc] at h
  obtain ⟨g1, h'⟩ := h1 _ _ _ _ (hok _ _ hr) (hok _ _ hr') h
  obtain ⟨g2, h''⟩ := h2 _ _ _ _ hr hr' h'
  exact ⟨Prod.ext g1 g2, h''⟩

theorem PrefixCode.list {α β : Type} {enc : α → Str} {key : α → β} {ok stop : Str → Prop} (h : PrefixCode enc key ok)
    (hstop : ∀ a r, ¬ stop (enc a ++ r)) (hok : ∀ (as : List α) r, stop r → ok (as.flatMap enc ++ r)) :
    PrefixCode (List.flatMap enc) (List.map key) stop := by
  intro as
  induction as with
  | nil =>
    intro bs r r' hr _ h'
    cases bs with
    | nil => exact ⟨rfl, h'⟩
    | cons b bs =>
      rw [List.flatMap_nil, List.nil_append, List.flatMap_cons, List.append_assoc] at h'
      exact absurd (h' ▸ hr) (hstop b _)
  | cons a as ih =>
    intro bs r r' hr hr' h'
    cases bs with
    | nil =>
      rw [List.flatMap_nil, List.nil_append, List.flatMap_cons, List.append_assoc] at h'
      exact absurd (h' ▸ hr') (hstop a _)
    | cons b bs =>
      simp only [List.flatMap_cons, List.append_assoc] at h'
      obtain ⟨hab, h''⟩ := h a b _ _ (hok as r hr) (hok bs r' hr') h'
      obtain ⟨g1, g2⟩ := ih bs r r' hr hr' h''
      exact ⟨by rw [List.map_cons, List.map_cons, hab, g1], g2⟩

theorem prefixCode_dec (c : Char) (hc : c.isDigit = false) : PrefixCode (fun n => dec n ++ [c]) id anyRest := by
  intro n m r r' _ _ h
  simp only [List.append_assoc, List.singleton_append] at h
  obtain ⟨h1, h2⟩ := Text.append_stop_unique (dec_digits n) (dec_digits m) (.cons hc r) (.cons hc r') h
  exact ⟨dec_inj h1, (List.cons.inj h2).2⟩

theorem prefixCode_lenPrefixed : PrefixCode (fun s : Str => dec s.length ++ ':' :: s) id anyRest := by
  intro s t r r' _ _ h
  obtain ⟨hl, hrest⟩ := prefixCode_dec ':' (by decide) s.length t.length _ _ trivial trivial (by simpa using h)
  exact List.append_inj hrest hl

theorem encTok_fixed (t : RawTok) :
    encTok Encoding.fixed.tok t = dec t.str.length ++ ':' :: t.str ++ (dec t.line ++ [':']) ++ (dec t.col ++ [';']) := by
  simp [encTok, Encoding.fixed, encTokField, List.flatMap_cons]

theorem prefixCode_encTok : PrefixCode (encTok Encoding.fixed.tok) ({ · with comment := false }) anyRest := by
  intro a b r r' hr hr' h
  rw [encTok_fixed, encTok_fixed] at h
  -- `<len>:<str>`, then `<line>:`, then `<col>;`
  obtain ⟨hk, hrest⟩ := ((prefixCode_lenPrefixed.seq (prefixCode_dec ':' (by decide)) fun _ _ _ => trivial).seq
    (prefixCode_dec ';' (by decide)) fun _ _ _ => trivial) ((a.str, a.line), a.col) ((b.str, b.line), b.col) r r' hr hr' h
  simp only [Prod.mk.injEq, id] at hk
  exact ⟨by simp only [hk.1.1, hk.1.2, hk.2], hrest⟩

/-- a token starts with a digit: the `hstop` of `PrefixCode.list` -/
theorem encTok_fixed_head (t : RawTok) (r : Str) : ¬ Text.Stops Char.isDigit (encTok Encoding.fixed.tok t ++ r) := by
  rw [encTok_fixed]
  cases hd : dec t.str.length with
  | nil => exact absurd hd (dec_ne_nil _)
  | cons c q => exact fun h => absurd (h c rfl) (by simp [dec_digits t.str.length c (by simp [hd])])

theorem codeToks_map_uncomment (ts : List RawTok) : (codeToks ts).map ({ · with comment := false }) = codeToks ts := by
  rw [List.map_congr_left (g := id), List.map_id]
  intro t ht
  cases t
  simp_all [codeToks]

theorem prefixCode_encToks : PrefixCode (encToks Encoding.fixed.tok) codeToks (Text.Stops Char.isDigit) := by
  intro a b r r' hr hr' h
  have := prefixCode_encTok.list encTok_fixed_head (fun _ _ _ => trivial) (codeToks a) (codeToks b) r r' hr hr' h
  rwa [codeToks_map_uncomment, codeToks_map_uncomment] at this

theorem encHdr_fixed (h : Header) :
    encHdr Encoding.fixed h = 'F' :: (dec h.name.length ++ ':' :: h.name ++ encToks Encoding.fixed.tok h.toks) := by
  simp [encHdr, Encoding.fixed, encHdrField, List.flatMap_cons]

/-- in the shape of the `hok` argument of `PrefixCode.list` and `.seq` with `stop := (· = [])` -/
theorem flatMap_encHdr_fixed_head (hs : List Header) (r : Str) (hr : r = []) :
    Text.Stops Char.isDigit (hs.flatMap (encHdr Encoding.fixed) ++ r) := by
  cases hs with
  | nil => simp [hr, Text.Stops]
  | cons x r => rw [List.flatMap_cons, encHdr_fixed]; exact .cons (by decide) _

theorem prefixCode_encHdr : PrefixCode (encHdr Encoding.fixed) (fun h => (h.name, codeToks h.toks)) (Text.Stops Char.isDigit) := by
  intro a b r r' hr hr' h
  rw [encHdr_fixed, encHdr_fixed] at h
  exact (prefixCode_lenPrefixed.seq prefixCode_encToks fun _ _ _ => trivial) (a.name, a.toks) (b.name, b.toks) r r' hr hr'
    (List.cons.inj h).2

/-- **the key composition of the code (`Encoding.fixed`, 72c97eb / 40d3d51) is uniquely decodable**: equal hash data ⇒ equal
    toolinfo, code tokens, header names and header code tokens -/
theorem hashInput_fixed_unique (a b : FileInput) (h : hashInput Encoding.fixed a = hashInput Encoding.fixed b) :
    a.toolinfo = b.toolinfo ∧ codeToks a.main = codeToks b.main
    ∧ a.headers.map (fun h => (h.name, codeToks h.toks)) = b.headers.map (fun h => (h.name, codeToks h.toks)) := by
  have e : ∀ i : FileInput, hashInput Encoding.fixed i
      = dec i.toolinfo.length ++ ':' :: i.toolinfo ++ (encToks Encoding.fixed.tok i.main ++ i.headers.flatMap (encHdr Encoding.fixed)) := by
    intro i; simp [hashInput, Encoding.fixed, encPreField, List.flatMap_cons]
  -- `<len>:<toolinfo>`, then the tokens in front of the headers, then the headers in front of the end of the string
  have hdrs := prefixCode_encHdr.list (stop := (· = [])) (fun a r => by rw [encHdr_fixed]; simp) flatMap_encHdr_fixed_head
  have := (prefixCode_lenPrefixed.seq (prefixCode_encToks.seq hdrs flatMap_encHdr_fixed_head) fun _ _ _ => trivial)
    (a.toolinfo, a.main, a.headers) (b.toolinfo, b.main, b.headers) [] [] rfl rfl (by simpa [e] using h)
  simpa using this.1

def dotA : Str := ".a".toList

theorem afile_inj (b b' : Str) (n n' : Nat) (h : b ++ dotA ++ dec n = b' ++ dotA ++ dec n') : b = b' ∧ n = n' := by
  have hr := congrArg List.reverse h
  simp only [List.reverse_append, dotA] at hr
  have e : ".a".toList.reverse = ['a', '.'] := by decide
  rw [e] at hr
  simp only [List.cons_append, List.nil_append] at hr
  obtain ⟨h1, h2⟩ := Text.append_stop_unique (fun x hx => dec_digits n x (List.mem_reverse.mp hx))
    (fun x hx => dec_digits n' x (List.mem_reverse.mp hx)) (.cons (by decide) _) (.cons (by decide) _) hr
  have hb : b.reverse = b'.reverse := by simpa using h2
  exact ⟨List.reverse_inj.mp hb, dec_inj (List.reverse_inj.mp h1)⟩

theorem countBase_append (b : Str) (l1 l2 : List Str) : countBase b (l1 ++ l2) = countBase b l1 + countBase b l2 := by
  induction l1 with
  | nil => simp [countBase]
  | cons p r ih => simp only [List.cons_append, countBase, ih]; omega

theorem filesTxtFrom_shape (paths : List Str) : ∀ (seen : List Str), ∀ l ∈ filesTxtFrom seen paths,
    ∃ b n, l.afile = b ++ dotA ++ dec n ∧ countBase b seen < n := by
  induction paths with
  | nil => intro seen l hl; simp [filesTxtFrom] at hl
  | cons p r ih =>
    intro seen l hl
    simp only [filesTxtFrom, List.mem_cons] at hl
    rcases hl with rfl | hl
    · exact ⟨getFilename p, _, rfl, Nat.lt_succ_self _⟩
    · obtain ⟨b, n, h1, h2⟩ := ih (seen ++ [p]) l hl
      refine ⟨b, n, h1, ?_⟩
      rw [countBase_append] at h2; omega

/-- AnalyzerInformation::getFilesTxt never lists one cache file twice -/
theorem filesTxtFrom_afile_nodup (paths : List Str) : ∀ (seen : List Str), ((filesTxtFrom seen paths).map (·.afile)).Nodup := by
  induction paths with
  | nil => intro seen; simp [filesTxtFrom]
  | cons p r ih =>
    intro seen
    simp only [filesTxtFrom, List.map_cons, List.nodup_cons]
    refine ⟨?_, ih _⟩
    intro hmem
    obtain ⟨l, hl, heq⟩ := List.mem_map.mp hmem
    obtain ⟨b, n, h1, h2⟩ := filesTxtFrom_shape r (seen ++ [p]) l hl
    rw [h1] at heq
    obtain ⟨hb, hn⟩ := afile_inj _ _ _ _ heq
    rw [countBase_append, hb] at h2
    simp [countBase] at h2
    omega

theorem filesTxt_afile_ne_nil (paths : List Str) : ∀ l ∈ filesTxt paths, l.afile.isEmpty = false := by
  intro l hl
  obtain ⟨b, n, h1, _⟩ := filesTxtFrom_shape paths [] l hl
  rw [h1]
  cases b <;> simp [dotA]

/-- a lookup that can only stop at a line naming the same source finds each file's own line -/
theorem mapOK_of_own (k : LookupKind) (paths : List Str) (hnd : paths.Nodup)
    (hown : ∀ l ∈ filesTxt paths, ∃ l' ∈ filesTxt paths, l'.source = l.source ∧ lookup k (filesTxt paths) l.source = some l'.afile) :
    MapOK k paths := by
  refine ⟨?_, filesTxtFrom_afile_nodup paths []⟩
  rw [← congrArg (List.map (cacheFile k (filesTxt paths))) (filesTxt_source paths), List.map_map]
  apply List.map_congr_left
  intro l hl
  obtain ⟨l', hl', hs, hlk⟩ := hown l hl
  have : l' = l := inj_on_of_nodup_map _ _ (by rw [filesTxt_source]; exact hnd) hl' hl hs
  subst this
  simp [cacheFile, hlk, filesTxt_afile_ne_nil paths _ hl']

theorem find?_of_mem {α} (q : α → Bool) (l : List α) {a : α} (ha : a ∈ l) (hq : q a = true) :
    ∃ b ∈ l, q b = true ∧ l.find? q = some b := by
  cases h : l.find? q with
  | none => exact absurd hq (by simpa using List.find?_eq_none.mp h a ha)
  | some b => exact ⟨b, List.mem_of_find?_eq_some h, List.find?_some h, rfl⟩

theorem lookupExact_own (ft : List FtLine) (l : FtLine) (hl : l ∈ ft) :
    ∃ l' ∈ ft, l'.source = l.source ∧ lookup .exactFirst ft l.source = some l'.afile := by
  obtain ⟨l', hm, hq, hf⟩ := find?_of_mem (fun x => x.source == l.source) ft hl (by simp)
  exact ⟨l', hm, by simpa using hq, by simp [lookup, lookupExact, hf]⟩

theorem lookupSuffix_own (ft : List FtLine) (hsfx : ∀ a ∈ ft, ∀ b ∈ ft, endsWith a.source b.source = true → a.source = b.source)
    (l : FtLine) (hl : l ∈ ft) :
    ∃ l' ∈ ft, l'.source = l.source ∧ lookup .suffixFirst ft l.source = some l'.afile := by
  obtain ⟨l', hm, hq, hf⟩ := find?_of_mem (fun x => endsWith l.source x.source) ft hl (by simp [endsWith])
  exact ⟨l', hm, (hsfx l hl l' hm hq).symm, by simp [lookup, lookupSuffix, hf]⟩

theorem exactFirst_mapOK (paths : List Str) (hnd : paths.Nodup) : MapOK .exactFirst paths :=
  mapOK_of_own _ paths hnd (lookupExact_own _)

/-- no listed path ends with another listed path -/
def NoSuffixPair (paths : List Str) : Prop := ∀ a ∈ paths, ∀ b ∈ paths, endsWith a b = true → a = b

instance (paths : List Str) : Decidable (NoSuffixPair paths) := by unfold NoSuffixPair; infer_instance

theorem renderToolinfo_cons (it : ToolItem) (its : List ToolItem) (sv : SettingsView) :
    renderToolinfo (it :: its) sv = (match renderItem sv it, renderToolinfo its sv with
      | some v, some r => some (v ++ r)
      | _, _ => none) := rfl

theorem renderToolinfo_append (a b : List ToolItem) (sv : SettingsView) :
    renderToolinfo (a ++ b) sv = (match renderToolinfo a sv, renderToolinfo b sv with
      | some x, some y => some (x ++ y)
      | _, _ => none) := by
  induction a with
  | nil =>
    have hn : renderToolinfo [] sv = some [] := rfl
    rw [List.nil_append, hn]
    cases renderToolinfo b sv <;> simp
  | cons it r ih =>
    rw [List.cons_append, renderToolinfo_cons, renderToolinfo_cons, ih]
    cases renderItem sv it <;> cases renderToolinfo r sv <;> cases renderToolinfo b sv <;> simp

theorem renderToolinfo_append_eq_some {a b : List ToolItem} {sv : SettingsView} {z : Str} :
    renderToolinfo (a ++ b) sv = some z ↔ ∃ x y, renderToolinfo a sv = some x ∧ renderToolinfo b sv = some y ∧ x ++ y = z := by
  rw [renderToolinfo_append]
  cases renderToolinfo a sv <;> cases renderToolinfo b sv <;> simp

theorem decInt_inj {a b : Int} (h : decInt a = decInt b) : a = b := by
  unfold decInt at h
  by_cases ha : a < 0 <;> by_cases hb : b < 0 <;> simp only [ha, hb, if_true, if_false] at h
  · have := dec_inj (List.cons.inj h).2; omega
  · have hd := dec_digits b.natAbs '-' (by rw [← h]; simp)
    exact absurd hd (by decide)
  · have hd := dec_digits a.natAbs '-' (by rw [h]; simp)
    exact absurd hd (by decide)
  · have := dec_inj h; omega

theorem renderToolinfo_single (it : ToolItem) (sv : SettingsView) : renderToolinfo [it] sv = renderItem sv it := by
  rw [renderToolinfo_cons]
  show (match renderItem sv it, some [] with | some v, some r => some (v ++ r) | _, _ => none) = _
  cases renderItem sv it <;> simp

/-- a one-item block: a string member is determined by its rendering -/
theorem render_strField_inj (n : String) (sv sv' : SettingsView) (v : Str)
    (h : renderToolinfo [.strField n] sv = renderToolinfo [.strField n] sv') (hv : assoc? n sv.strs = some v) :
    assoc? n sv'.strs = some v := by
  rw [renderToolinfo_single, renderToolinfo_single] at h
  exact h.symm.trans hv

/-- … an int member too (`ostream << int`) -/
theorem render_intField_inj (n : String) (sv sv' : SettingsView) (v : Int)
    (h : renderToolinfo [.intField n] sv = renderToolinfo [.intField n] sv') (hv : assoc? n sv.ints = some v) :
    assoc? n sv'.ints = some v := by
  rw [renderToolinfo_single, renderToolinfo_single] at h
  exact (Option.map_injective (fun _ _ => decInt_inj) h).symm.trans hv

/-- … and a flag (`x ? c : ' '` with `c ≠ ' '`) -/
theorem render_boolFlag_inj (n : String) (c : Char) (hc : c ≠ ' ') (sv sv' : SettingsView) (v : Bool)
    (h : renderToolinfo [.boolFlag n c] sv = renderToolinfo [.boolFlag n c] sv') (hv : assoc? n sv.bools = some v) :
    assoc? n sv'.bools = some v := by
  rw [renderToolinfo_single, renderToolinfo_single] at h
  refine (Option.map_injective (fun a b hab => ?_) h).symm.trans hv
  cases a <;> cases b <;> simp_all [eq_comm]

theorem cachedErrors_append {I : Type} (a b : List (DocChild I)) : cachedErrors (a ++ b) = cachedErrors a ++ cachedErrors b := by
  simp [cachedErrors, List.filterMap_append]

theorem cachedErrors_errors {I : Type} (fs : List Finding) : cachedErrors (fs.map (DocChild.error (I := I))) = fs := by
  simp [cachedErrors, List.filterMap_map, Function.comp_def, DocChild.error?]

theorem cachedErrors_infos {I : Type} (is : List I) : cachedErrors (is.map (DocChild.fileInfo (I := I))) = [] := by
  simp [cachedErrors, List.filterMap_map, Function.comp_def, DocChild.error?]

end Cppcheck.Cache
