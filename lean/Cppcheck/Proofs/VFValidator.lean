import Cppcheck.Model.VFValidator
/-
C01 — soundness of the fact validator (Model/VFValidator.lean) with respect to the MiniC interpreter (Model/MiniC.lean).
Every constructor of `evalE` is a sequencing (`andThen`) of operand evaluations, and what the checker's answer says of an
evaluation (`Sound`) is preserved by sequencing.  `assume` needs the abstract evaluation (`absE0 = checkEG noRef`) and the
checked evaluation `checkE` needs `assume`: `checkEG_sound` is proved once for any `RefSound ref`, used at `noRef` and `assume c`.
-/
namespace Cppcheck.VFV
open Cppcheck.Platforms Cppcheck.MiniC
open Cppcheck.Trunc (wrapC)

/-- what a fact claims about the value of its occurrence -/
def Fact.holds (φ : Fact) (a : Int) : Prop :=
  match φ.kind, φ.bound with
  | .known, _ => a = φ.value
  | .impossible, .point => a ≠ φ.value
  | .impossible, .upper => φ.value < a
  | .impossible, .lower => a < φ.value

instance (φ : Fact) (a : Int) : Decidable (φ.holds a) := by
  unfold Fact.holds; split <;> exact inferInstance

/-- concretisation of an abstract value -/
def AbsVal.mem (v : AbsVal) (a : Int) : Prop := v.lo ≤ a ∧ a ≤ v.hi ∧ a ∉ v.ne

theorem and_true_left {a b : Bool} (h : (a && b) = true) : a = true := (Bool.and_eq_true_iff.1 h).1
theorem and_true_right {a b : Bool} (h : (a && b) = true) : b = true := (Bool.and_eq_true_iff.1 h).2

theorem excl_sound {v : AbsVal} {p a : Int} (h : v.excl p = true) (hm : v.mem a) : a ≠ p := by
  unfold AbsVal.excl at h
  unfold AbsVal.mem at hm
  simp at h
  intro e; subst e
  rcases h with (h | h) | h
  · omega
  · omega
  · exact hm.2.2 h

theorem isConst_sound {v : AbsVal} {c a : Int} (h : v.isConst = some c) (hm : v.mem a) : a = c := by
  unfold AbsVal.isConst at h
  unfold AbsVal.mem at hm
  split at h
  · simp at h; omega
  · simp at h

theorem const_mem (c : Int) : (AbsVal.const c).mem c := by
  simp [AbsVal.const, AbsVal.mem]

theorem mem_const {c a : Int} (h : (AbsVal.const c).mem a) : a = c := by
  simp [AbsVal.const, AbsVal.mem] at h; omega

theorem range_mem {lo hi a : Int} (h1 : lo ≤ a) (h2 : a ≤ hi) : (AbsVal.range lo hi).mem a := by
  simp [AbsVal.range, AbsVal.mem]; omega

theorem join_sound {a b : AbsVal} {x : Int} (h : a.mem x ∨ b.mem x) : (a.join b).mem x := by
  have hlo : a.lo ≤ x ∨ b.lo ≤ x := h.imp (·.1) (·.1)
  have hhi : x ≤ a.hi ∨ x ≤ b.hi := h.imp (·.2.1) (·.2.1)
  refine ⟨(by omega : min a.lo b.lo ≤ x), (by omega : x ≤ max a.hi b.hi), ?_⟩
  -- an excluded point of one side is kept only if the other side excludes it too
  simp only [AbsVal.join, List.mem_append, List.mem_filter]
  rintro (⟨ha, hb⟩ | ⟨hb, ha⟩)
  · exact h.elim (·.2.2 ha) (excl_sound hb · rfl)
  · exact h.elim (excl_sound ha · rfl) (·.2.2 hb)

theorem trim_sound {v : AbsVal} {x : Int} (h : v.mem x) : v.trim.mem x := by
  unfold AbsVal.mem at h ⊢
  unfold AbsVal.trim
  refine ⟨h.1, h.2.1, ?_⟩
  intro hx
  have := List.mem_of_mem_take hx
  exact h.2.2 (List.mem_filter.1 this).1

theorem leq_sound {a b : AbsVal} {x : Int} (hl : a.leq b = true) (h : a.mem x) : b.mem x := by
  unfold AbsVal.leq at hl
  simp at hl
  obtain ⟨⟨h1, h2⟩, h3⟩ := hl
  refine ⟨by unfold AbsVal.mem at h; omega, by unfold AbsVal.mem at h; omega, ?_⟩
  intro hx
  exact excl_sound (h3 x hx) h rfl

theorem bumpLo_sound (ne : List Int) (n : Nat) (lo x : Int) (h1 : lo ≤ x) (h2 : x ∉ ne) : AbsVal.bumpLo ne n lo ≤ x := by
  induction n generalizing lo with
  | zero => simpa [AbsVal.bumpLo]
  | succ n ih =>
    unfold AbsVal.bumpLo
    split
    · rename_i hc
      apply ih
      have : lo ≠ x := by intro e; subst e; exact h2 (List.contains_iff_mem.1 hc)
      omega
    · exact h1

theorem bumpHi_sound (ne : List Int) (n : Nat) (hi x : Int) (h1 : x ≤ hi) (h2 : x ∉ ne) : x ≤ AbsVal.bumpHi ne n hi := by
  induction n generalizing hi with
  | zero => simpa [AbsVal.bumpHi]
  | succ n ih =>
    unfold AbsVal.bumpHi
    split
    · rename_i hc
      apply ih
      have : hi ≠ x := by intro e; subst e; exact h2 (List.contains_iff_mem.1 hc)
      omega
    · exact h1

theorem norm_sound {v : AbsVal} {x : Int} (h : v.mem x) : v.norm.mem x := by
  unfold AbsVal.mem at h
  exact ⟨bumpLo_sound _ _ _ _ h.1 h.2.2, bumpHi_sound _ _ _ _ h.2.1 h.2.2, h.2.2⟩

theorem meetLo_sound {v : AbsVal} {x l : Int} (h : v.mem x) (hl : l ≤ x) : (v.meetLo l).mem x := by
  unfold AbsVal.meetLo
  apply norm_sound
  unfold AbsVal.mem at h ⊢
  exact ⟨by simp; omega, h.2.1, h.2.2⟩

theorem meetHi_sound {v : AbsVal} {x u : Int} (h : v.mem x) (hu : x ≤ u) : (v.meetHi u).mem x := by
  unfold AbsVal.meetHi
  apply norm_sound
  unfold AbsVal.mem at h ⊢
  exact ⟨h.1, by simp; omega, h.2.2⟩

theorem remove_sound {v : AbsVal} {x p : Int} (h : v.mem x) (hp : x ≠ p) : (v.remove p).mem x := by
  unfold AbsVal.remove
  unfold AbsVal.mem at h
  split
  · exact ⟨h.1, h.2.1, by simp; exact ⟨hp, h.2.2⟩⟩
  · split
    · exact ⟨by simp; omega, h.2.1, h.2.2⟩
    · split
      · exact ⟨h.1, by simp; omega, h.2.2⟩
      · apply trim_sound
        exact ⟨h.1, h.2.1, by simp; exact ⟨hp, h.2.2⟩⟩

theorem isEmpty_sound {v : AbsVal} {x : Int} (he : v.isEmpty = true) (h : v.mem x) : False := by
  unfold AbsVal.isEmpty at he
  unfold AbsVal.mem at h
  simp at he
  rcases he with he | ⟨h1, h2⟩
  · omega
  · have : x = v.lo := by omega
    subst this; exact h.2.2 h2

theorem abot_mem {x : Int} (h : abot.mem x) : False := by
  simp [abot, AbsVal.mem] at h; omega

theorem okOn_sound {φ : Fact} {v : AbsVal} {a : Int} (h : φ.okOn v = true) (hm : v.mem a) : φ.holds a := by
  unfold Fact.okOn at h
  simp only [Bool.or_eq_true] at h
  rcases h with h | h
  · exact (isEmpty_sound h hm).elim
  · unfold Fact.holds
    unfold AbsVal.mem at hm
    split at h <;> simp_all
    · omega
    · exact excl_sound (by assumption) ⟨hm.1, hm.2.1, hm.2.2⟩
    · omega
    · omega

def inTy (P : Platform) (t : Ty) (v : Int) : Prop := tmin P t ≤ v ∧ v ≤ tmax P t
instance (P : Platform) (t : Ty) (v : Int) : Decidable (inTy P t v) := by unfold inTy; exact inferInstance

theorem top_mem {P : Platform} {t : Ty} {v : Int} (h : inTy P t v) : (top P t).mem v := range_mem h.1 h.2

theorem two_pow_cast (b : Nat) : ((2 ^ b : Nat) : Int) = (2 : Int) ^ b := by
  push_cast; rfl

theorem conv_inTy (P : Platform) (t : Ty) (v : Int) : inTy P t (conv P t v) := by
  unfold inTy conv wrapC tmin tmax
  generalize bits P t = b
  have hpos : (0 : Int) < 2 ^ b := Int.pow_pos (by decide)
  cases hs : t.signed
  · simp
    exact ⟨Int.emod_nonneg _ (by omega), by have := Int.emod_lt_of_pos v hpos; omega⟩
  · simp
    have h1 := @Int.le_bmod v (2 ^ b) (Nat.two_pow_pos b)
    have h2 := @Int.bmod_lt v (2 ^ b) (Nat.two_pow_pos b)
    rw [two_pow_cast] at h1 h2
    constructor <;> omega

theorem conv_id {P : Platform} {t : Ty} {v : Int} (h : inTy P t v) : conv P t v = v := by
  unfold inTy tmin tmax at h
  unfold conv wrapC
  generalize bits P t = b at *
  cases hs : t.signed
  · simp [hs] at h ⊢
    exact Int.emod_eq_of_lt h.1 (by omega)
  · simp [hs] at h ⊢
    apply Int.bmod_eq_of_le
    · rw [two_pow_cast]; omega
    · rw [two_pow_cast]; omega

theorem arith_inTy {P : Platform} {t : Ty} {x r : Int} (h : arith P t x = some r) : inTy P t r := by
  unfold arith at h
  split at h
  · split at h
    · simp at h; subst h; assumption
    · simp at h
  · simp at h; subst h; exact conv_inTy P t x

theorem fits_inTy {P : Platform} {t : Ty} {v : AbsVal} {a : Int} (hf : fits P t v = true) (h : v.mem a) : inTy P t a := by
  simp [fits] at hf
  exact ⟨Int.le_trans hf.1 h.1, Int.le_trans h.2.1 hf.2⟩

theorem aconv_sound {P : Platform} {t : Ty} {v : AbsVal} {a : Int} (h : v.mem a) : (aconv P t v).mem (conv P t a) := by
  unfold aconv
  split
  · rename_i he; exact (isEmpty_sound he h).elim
  · split
    · rename_i hf
      rw [conv_id (fits_inTy hf h)]; exact h
    · split
      · rename_i c hc
        rw [isConst_sound hc h]; exact const_mem _
      · exact top_mem (conv_inTy P t a)

theorem aarithNe_sound {P : Platform} {t : Ty} {lo hi x r : Int} {ne : List Int} (h : arith P t x = some r)
    (h1 : lo ≤ x) (h2 : x ≤ hi) (h3 : x ∉ ne) : (aarithNe P t lo hi ne).mem r := by
  unfold aarithNe
  unfold arith at h
  split
  · rename_i hs
    rw [if_pos hs] at h
    split at h
    · simp at h; subst h
      exact ⟨by simp; omega, by simp; omega, h3⟩
    · simp at h
  · rename_i hs
    rw [if_neg hs] at h
    simp at h; subst h
    split
    · rename_i hr
      have : inTy P t x := by
        unfold inTy tmin; simp [hs]; omega
      rw [conv_id this]
      exact ⟨by simp; omega, by simp; omega, h3⟩
    · exact top_mem (conv_inTy P t x)

/-- mathematical meaning of a comparison operator -/
def cmpB (op : BinOp) (x y : Int) : Bool :=
  match op with
  | .lt => decide (x < y) | .le => decide (x ≤ y) | .gt => decide (x > y) | .ge => decide (x ≥ y)
  | .eq => decide (x = y) | .ne => decide (x ≠ y) | _ => false

theorem acmp_sound {op : BinOp} {a b : AbsVal} {x y : Int} {r : Bool} (h : acmp op a b = some r) (ha : a.mem x) (hb : b.mem y) :
    r = cmpB op x y := by
  have ha' := ha
  have hb' := hb
  unfold AbsVal.mem at ha hb
  cases op <;> simp only [acmp, cmpB] at h ⊢
  case lt | le | gt | ge =>
    split at h
    · simp at h; subst h; simp; omega
    · split at h
      · simp at h; subst h; simp; omega
      · simp at h
  case eq | ne =>
    split at h
    · simp at h; subst h; simp; omega
    · split at h
      · rename_i cx cy hx hy
        simp at h; subst h
        rw [isConst_sound hx ha', isConst_sound hy hb']
        by_cases hc : cx = cy <;> simp [hc]
      · rename_i cx hx hy
        split at h
        · rename_i he
          simp at h; subst h
          have := excl_sound he hb'
          rw [isConst_sound hx ha']; simp; omega
        · simp at h
      · rename_i cy hx hy
        split at h
        · rename_i he
          simp at h; subst h
          have := excl_sound he ha'
          rw [isConst_sound hy hb']; simp; omega
        · simp at h
      · simp at h
  all_goals cases h

theorem b2i_abool (b : Bool) : abool.mem (MiniC.b2i b) := by
  cases b <;> simp [abool, MiniC.b2i, AbsVal.range, AbsVal.mem]

theorem ofOptBool_sound {o : Option Bool} {b : Bool} (h : ∀ r, o = some r → r = b) : (ofOptBool o).mem (MiniC.b2i b) := by
  cases o with
  | none => exact b2i_abool b
  | some r =>
    have := h r rfl; subst this
    cases r <;> simp [ofOptBool, MiniC.b2i, AbsVal.const, AbsVal.mem]

theorem evalBin_shift_inTy {P : Platform} {op : BinOp} {ta tb : Ty} {a b r : Int} (hs : op.isShift = true)
    (h : evalBin P op ta tb a b = some r) : inTy P (promote P ta) r := by
  unfold evalBin at h
  simp only [hs, if_true] at h
  split at h
  · cases h
  · split at h
    · split at h
      · split at h
        · cases h
        · exact arith_inTy h
      · cases h; exact conv_inTy _ _ _
    · cases h; exact conv_inTy _ _ _

theorem evalBin_arith_inTy {P : Platform} {op : BinOp} {ta tb : Ty} {a b r : Int} (hs : op.isShift = false) (hc : op.isCmp = false)
    (h : evalBin P op ta tb a b = some r) : inTy P (uac P ta tb) r := by
  unfold evalBin at h
  simp only [hs, Bool.false_eq_true, if_false] at h
  cases op <;> simp only [] at h
  case add | sub | mul => exact arith_inTy h
  case div =>
    split at h
    · cases h
    · exact arith_inTy h
  case mod =>
    split at h
    · cases h
    · split at h
      · cases h
      · exact arith_inTy h
  case band | bor | bxor => cases h; exact conv_inTy _ _ _
  case shl | shr => cases hs
  case lt | le | gt | ge | eq | ne => cases hc

theorem evalBin_inTy {P : Platform} {op : BinOp} {ta tb : Ty} {a b r : Int} (h : evalBin P op ta tb a b = some r)
    (hc : op.isCmp = false) : inTy P (binTy P op ta tb) r := by
  unfold binTy
  rw [hc]
  cases hs : op.isShift
  · simpa using evalBin_arith_inTy hs hc h
  · simpa using evalBin_shift_inTy hs h

theorem evalBin_cmp {P : Platform} {op : BinOp} {ta tb : Ty} {a b : Int} (hc : op.isCmp = true) :
    evalBin P op ta tb a b = some (MiniC.b2i (cmpB op (conv P (uac P ta tb) a) (conv P (uac P ta tb) b))) := by
  cases op <;> simp [BinOp.isCmp] at hc <;> simp [evalBin, BinOp.isShift, cmpB]

theorem not_mem_map {f : Int → Int} {l : List Int} {x : Int} (hf : ∀ p, f p = f x → p = x) (h : x ∉ l) : f x ∉ l.map f := by
  intro hm
  obtain ⟨p, hp, e⟩ := List.mem_map.1 hm
  exact h (hf p e ▸ hp)

theorem amulConst_sound {P : Platform} {t : Ty} {v : AbsVal} {x c r : Int} (hv : v.mem x) (h : arith P t (x * c) = some r) :
    (if c = 0 then aarith P t 0 0
     else if c > 0 then aarithNe P t (v.lo * c) (v.hi * c) (v.ne.map (· * c))
     else aarithNe P t (v.hi * c) (v.lo * c) (v.ne.map (· * c))).mem r := by
  obtain ⟨h1, h2, h3⟩ := hv
  have hne : c ≠ 0 → x * c ∉ v.ne.map (· * c) := fun hc => not_mem_map (fun p e => Int.eq_of_mul_eq_mul_right hc e) h3
  split
  · rename_i hz; subst hz
    rw [Int.mul_zero] at h
    exact aarithNe_sound h (Int.le_refl _) (Int.le_refl _) (by simp)
  · rename_i hz
    split
    · exact aarithNe_sound h (Int.mul_le_mul_of_nonneg_right h1 (by omega)) (Int.mul_le_mul_of_nonneg_right h2 (by omega)) (hne hz)
    · exact aarithNe_sound h (Int.mul_le_mul_of_nonpos_right h2 (by omega)) (Int.mul_le_mul_of_nonpos_right h1 (by omega)) (hne hz)

theorem absBin_sound {P : Platform} {op : BinOp} {ta tb : Ty} {a b : AbsVal} {va vb r : Int}
    (ha : a.mem va) (hb : b.mem vb) (h : evalBin P op ta tb va vb = some r) : (absBin P op ta tb a b).mem r := by
  unfold absBin
  split
  · rename_i he
    simp at he
    rcases he with he | he
    · exact (isEmpty_sound he ha).elim
    · exact (isEmpty_sound he hb).elim
  · split
    · rename_i ca cb hca hcb
      rw [isConst_sound hca ha, isConst_sound hcb hb] at h
      rw [h]; exact const_mem r
    · rename_i hnc
      split
      · rename_i hs
        exact top_mem (evalBin_shift_inTy hs h)
      · rename_i hs
        simp at hs
        have ha' := aconv_sound (P := P) (t := uac P ta tb) ha
        have hb' := aconv_sound (P := P) (t := uac P ta tb) hb
        have hfall : op.isCmp = false → (top P (uac P ta tb)).mem r := fun hc => top_mem (evalBin_arith_inTy hs hc h)
        simp only []
        generalize aconv P (uac P ta tb) a = a' at *
        generalize aconv P (uac P ta tb) b = b' at *
        have ha'' := ha'
        have hb'' := hb'
        unfold AbsVal.mem at ha'' hb''
        cases op
        case add | sub =>
          simp [evalBin, BinOp.isShift] at h
          refine aarithNe_sound h (by omega) (by omega) ?_
          -- an excluded point of one operand stays excluded when the other operand is a constant
          split
          · rename_i c hc
            cases isConst_sound hc hb'
            exact not_mem_map (fun p e => by omega) ha''.2.2
          · rename_i c hc _
            cases isConst_sound hc ha'
            exact not_mem_map (fun p e => by omega) hb''.2.2
          · simp
        case mul =>
          simp [evalBin, BinOp.isShift] at h
          simp only []
          split
          · rename_i c hc
            rw [isConst_sound hc hb'] at h
            exact amulConst_sound ha' h
          · rename_i c hc _
            rw [isConst_sound hc ha', Int.mul_comm] at h
            have hfun : (fun p => c * p) = (· * c) := funext fun p => Int.mul_comm c p
            rw [Int.mul_comm c b'.lo, Int.mul_comm c b'.hi, hfun]
            exact amulConst_sound hb' h
          · exact hfall rfl
        case lt | le | gt | ge | eq | ne =>
          rw [evalBin_cmp (by rfl)] at h
          cases h
          exact ofOptBool_sound fun r hr => acmp_sound hr ha' hb'
        case div | mod | band | bor | bxor => exact hfall rfl
        case shl | shr => cases hs

theorem absUn_sound {P : Platform} {op : UnOp} {ta : Ty} {a : AbsVal} {va r : Int}
    (ha : a.mem va) (h : evalUn P op ta va = some r) : (absUn P op ta a).mem r := by
  unfold absUn
  split
  · rename_i he; exact (isEmpty_sound he ha).elim
  · cases op <;> simp only []
    case lnot =>
      simp [evalUn] at h; subst h
      split
      · rename_i he
        have := excl_sound he ha
        simp [MiniC.b2i, this]; exact const_mem 0
      · split
        · rename_i hc
          have := isConst_sound hc ha
          simp [MiniC.b2i, this]; exact const_mem 1
        · exact b2i_abool _
    case neg =>
      simp only [evalUn] at h
      have ha' := aconv_sound (P := P) (t := promote P ta) ha
      generalize aconv P (promote P ta) a = a' at *
      have ha'' := ha'
      unfold AbsVal.mem at ha''
      exact aarithNe_sound h (by omega) (by omega) (not_mem_map (fun p e => by omega) ha''.2.2)
    case compl =>
      split
      · rename_i c hc
        rw [isConst_sound hc ha] at h
        rw [h]; exact const_mem r
      · simp [evalUn] at h; subst h; exact top_mem (conv_inTy _ _ _)

theorem atruth_sound {v : AbsVal} {a : Int} {b : Bool} (h : atruth v = some b) (hm : v.mem a) : b = decide (a ≠ 0) := by
  unfold atruth at h
  split at h
  · rename_i he
    simp at h; subst h
    have := excl_sound he hm
    simp [this]
  · split at h
    · rename_i hc
      simp at h; subst h
      have := isConst_sound hc hm
      simp [this]
    · simp at h

/-- `landVal`, `lorVal` (and `keepUnless` below) name matches that `checkEG` / `assume` write inline; `checkEG_land` etc.
    hold by `rfl` because the texts coincide with those of Model/VFValidator.lean -/
def landVal (va vb : AbsVal) : AbsVal :=
  match atruth va, atruth vb with
  | some false, _ => .const 0
  | _, some false => .const 0
  | some true, some true => .const 1
  | _, _ => abool

def lorVal (va vb : AbsVal) : AbsVal :=
  match atruth va, atruth vb with
  | some true, _ => .const 1
  | _, some true => .const 1
  | some false, some false => .const 0
  | _, _ => abool

theorem landVal_sound {va vb : AbsVal} {x y : Int} (hx : va.mem x) (hy : x ≠ 0 → vb.mem y) :
    (landVal va vb).mem (MiniC.b2i (decide (x ≠ 0) && decide (y ≠ 0))) := by
  unfold landVal
  split
  · rename_i h; rw [← atruth_sound h hx]; exact const_mem 0
  · rename_i h _
    by_cases hx0 : x = 0
    · simp only [hx0, ne_eq, not_true_eq_false, decide_false, Bool.false_and]; exact const_mem 0
    · rw [← atruth_sound h (hy hx0), Bool.and_false]; exact const_mem 0
  · rename_i h1 h2
    have e1 := atruth_sound h1 hx
    rw [← e1, ← atruth_sound h2 (hy (of_decide_eq_true e1.symm))]; exact const_mem 1
  · exact b2i_abool _

theorem lorVal_sound {va vb : AbsVal} {x y : Int} (hx : va.mem x) (hy : x = 0 → vb.mem y) :
    (lorVal va vb).mem (MiniC.b2i (decide (x ≠ 0) || decide (y ≠ 0))) := by
  unfold lorVal
  split
  · rename_i h; rw [← atruth_sound h hx]; exact const_mem 1
  · rename_i h _
    by_cases hx0 : x = 0
    · rw [← atruth_sound h (hy hx0), Bool.or_true]; exact const_mem 1
    · simp only [hx0, ne_eq, not_false_eq_true, decide_true, Bool.true_or]; exact const_mem 1
  · rename_i h1 h2
    have e1 := atruth_sound h1 hx
    have hx0 : x = 0 := Decidable.of_not_not (of_decide_eq_false e1.symm)
    rw [← e1, ← atruth_sound h2 (hy hx0)]; exact const_mem 0
  · exact b2i_abool _

/-- the concrete environment is described by the abstract one, variable by variable -/
def EnvIn : Env → AEnv → Prop
  | [], [] => True
  | a :: σ, v :: s => v.mem a ∧ EnvIn σ s
  | _, _ => False

/-- `EnvIn` is a function on two lists, not an inductive predicate: this is the principle `induction … using` needs -/
theorem EnvIn.induction {motive : (σ : Env) → (s : AEnv) → EnvIn σ s → Prop} (nil : motive [] [] trivial)
    (cons : ∀ a σ v s (hv : v.mem a) (h : EnvIn σ s), motive σ s h → motive (a :: σ) (v :: s) ⟨hv, h⟩) :
    ∀ σ s h, motive σ s h
  | [], [], _ => nil
  | a :: σ, v :: s, h => cons a σ v s h.1 h.2 (EnvIn.induction nil cons σ s h.2)
  | [], _ :: _, h => h.elim
  | _ :: _, [], h => h.elim

theorem envIn_length {σ : Env} {s : AEnv} (h : EnvIn σ s) : σ.length = s.length := by
  induction σ, s, h using EnvIn.induction with
  | nil => rfl
  | cons a σ v s hv h ih => exact congrArg (· + 1) ih

theorem alook_sound {σ : Env} {s : AEnv} (h : EnvIn σ s) (x : Nat) : (alook s x).mem (σ.getD x 0) := by
  induction σ, s, h using EnvIn.induction generalizing x with
  | nil => exact const_mem 0
  | cons a σ v s hv h ih => cases x with
    | zero => exact hv
    | succ x => exact ih x

theorem set_sound {σ : Env} {s : AEnv} (h : EnvIn σ s) (x : Nat) {v : AbsVal} {a : Int} (hv : v.mem a) :
    EnvIn (setVar σ x a) (s.set x v) := by
  induction σ, s, h using EnvIn.induction generalizing x with
  | nil => trivial
  | cons b σ w s hw h ih => cases x with
    | zero => exact ⟨hv, h⟩
    | succ x => exact ⟨hw, ih x⟩

theorem envIn_set_same {σ : Env} {s : AEnv} (h : EnvIn σ s) (x : Nat) {v : AbsVal} (hv : v.mem (σ.getD x 0)) :
    EnvIn σ (s.set x v) := by
  induction σ, s, h using EnvIn.induction generalizing x with
  | nil => trivial
  | cons b σ w s hw h ih => cases x with
    | zero => exact ⟨hv, h⟩
    | succ x => exact ⟨hw, ih x hv⟩

theorem joinEnv_sound {σ : Env} {a b : AEnv} (hl : a.length = b.length) (h : EnvIn σ a ∨ EnvIn σ b) : EnvIn σ (joinEnv a b) := by
  induction a generalizing b σ with
  | nil => cases b with
    | nil => exact h.elim id id
    | cons w b => cases hl
  | cons v a ih => cases b with
    | nil => cases hl
    | cons w b => cases σ with
      | nil => exact h.elim id id
      | cons x σ => exact ⟨trim_sound (join_sound (h.imp (·.1) (·.1))), ih (Nat.succ.inj hl) (h.imp (·.2) (·.2))⟩

theorem leqEnv_sound {σ : Env} {a b : AEnv} (hl : leqEnv a b = true) (h : EnvIn σ a) : EnvIn σ b := by
  induction σ, a, h using EnvIn.induction generalizing b with
  | nil => cases b with
    | nil => trivial
    | cons w b => cases hl
  | cons x σ v a hv h ih => cases b with
    | nil => cases hl
    | cons w b => exact ⟨leq_sound (and_true_left hl) hv, ih (and_true_right hl)⟩

def OEnvIn (σ : Env) : Option AEnv → Prop
  | none => False
  | some s => EnvIn σ s

theorem oenvIn_some {σ : Env} {o : Option AEnv} (h : OEnvIn σ o) : ∃ s, o = some s ∧ EnvIn σ s := by
  cases o with
  | none => exact h.elim
  | some s => exact ⟨s, rfl, h⟩

theorem oenvIn_bind {σ : Env} {o : Option AEnv} {f : AEnv → Option AEnv} :
    OEnvIn σ o → (∀ s, EnvIn σ s → OEnvIn σ (f s)) → OEnvIn σ (match o with | none => none | some s => f s) := by
  intro h hf
  obtain ⟨s, rfl, hs⟩ := oenvIn_some h
  exact hf s hs

theorem fixLen_id {n : Nat} {s : AEnv} (h : s.length = n) : fixLen n s = s := by
  unfold fixLen; simp [h]

theorem fixLen_length (n : Nat) (s : AEnv) : (fixLen n s).length = n := by
  unfold fixLen; split <;> simp_all

theorem envIn_fixLen {σ : Env} {n : Nat} {s : AEnv} (hn : σ.length = n) (h : EnvIn σ s) : EnvIn σ (fixLen n s) := by
  rw [fixLen_id (by rw [← envIn_length h, hn])]; exact h

theorem ojoin_sound {σ : Env} {n : Nat} {a b : Option AEnv} (hn : σ.length = n) (h : OEnvIn σ a ∨ OEnvIn σ b) :
    OEnvIn σ (ojoin n a b) :=
  match a, b, h with
  | none, _, h => h.elim False.elim id
  | some _, none, h => h.elim id False.elim
  | some _, some _, h =>
    joinEnv_sound (by rw [fixLen_length, fixLen_length]) (h.imp (envIn_fixLen hn) (envIn_fixLen hn))

theorem ojoin_none_r (n : Nat) (a : Option AEnv) : ojoin n a none = a := by
  cases a <;> rfl

theorem oleq_sound {σ : Env} {o : Option AEnv} {inv : AEnv} (hl : oleq o inv = true) (h : OEnvIn σ o) : EnvIn σ inv := by
  cases o with
  | none => simp [OEnvIn] at h
  | some a => exact leqEnv_sound (by simpa [oleq] using hl) h

/-- all events at the fact's occurrence satisfy the fact -/
def EvOk (φ : Fact) (evs : List Event) : Prop := ∀ ev ∈ evs, ev.1 = φ.occ → φ.holds ev.2

theorem evOk_nil (φ : Fact) : EvOk φ [] := List.forall_mem_nil _

theorem evOk_append {φ : Fact} {a b : List Event} (ha : EvOk φ a) (hb : EvOk φ b) : EvOk φ (a ++ b) :=
  List.forall_mem_append.2 ⟨ha, hb⟩

theorem factOk_sound {φ : Fact} {id : Nat} {v : AbsVal} {a : Int} (h : factOk φ id v = true) (hm : v.mem a) : EvOk φ [(id, a)] := by
  intro ev hev hocc
  simp at hev; subst hev
  unfold factOk at h
  simp at h
  rcases h with h | h
  · exact absurd hocc h
  · exact okOn_sound h hm

/-- sequencing in `evalE` -/
def andThen (r : Option Int × List Event) (f : Int → Option Int × List Event) : Option Int × List Event :=
  match r.1 with
  | none => (none, r.2)
  | some a => ((f a).1, r.2 ++ (f a).2)

theorem andThen_some {r : Option Int × List Event} {f : Int → Option Int × List Event} {v : Int}
    (h : (andThen r f).1 = some v) : ∃ a, r.1 = some a ∧ (f a).1 = some v := by
  unfold andThen at h
  cases hr : r.1 with
  | none => rw [hr] at h; cases h
  | some a => rw [hr] at h; exact ⟨a, rfl, h⟩

section
variable (P : Platform) (vars : List Ty) (σ : Env)

theorem evalE_un (op : UnOp) (e : Expr) :
    evalE P vars σ (.un op e) = andThen (evalE P vars σ e) fun a => (evalUn P op (tyOf P vars e) a, []) := by
  simp only [evalE, andThen]; rcases evalE P vars σ e with ⟨_ | a, ev⟩ <;> simp

theorem evalE_cast (t : Ty) (e : Expr) :
    evalE P vars σ (.cast t e) = andThen (evalE P vars σ e) fun a => (some (conv P t a), []) := by
  simp only [evalE, andThen]; rcases evalE P vars σ e with ⟨_ | a, ev⟩ <;> simp

theorem evalE_tag (id : Nat) (e : Expr) :
    evalE P vars σ (.tag id e) = andThen (evalE P vars σ e) fun a => (some a, [(id, a)]) := by
  simp only [evalE, andThen]; rcases evalE P vars σ e with ⟨_ | a, ev⟩ <;> rfl

theorem evalE_bin (op : BinOp) (a b : Expr) :
    evalE P vars σ (.bin op a b) = andThen (evalE P vars σ a) fun va => andThen (evalE P vars σ b) fun vb =>
      (evalBin P op (tyOf P vars a) (tyOf P vars b) va vb, []) := by
  simp only [evalE, andThen]
  rcases evalE P vars σ a with ⟨_ | va, ev1⟩
  · rfl
  · rcases evalE P vars σ b with ⟨_ | vb, ev2⟩ <;> simp

theorem evalE_land (a b : Expr) :
    evalE P vars σ (.land a b) = andThen (evalE P vars σ a) fun va =>
      if va = 0 then (some 0, []) else andThen (evalE P vars σ b) fun vb => (some (b2i (decide (vb ≠ 0))), []) := by
  simp only [evalE, andThen]
  rcases evalE P vars σ a with ⟨_ | va, ev1⟩
  · rfl
  · rcases evalE P vars σ b with ⟨_ | vb, ev2⟩ <;> by_cases h : va = 0 <;> simp [h]

theorem evalE_lor (a b : Expr) :
    evalE P vars σ (.lor a b) = andThen (evalE P vars σ a) fun va =>
      if va ≠ 0 then (some 1, []) else andThen (evalE P vars σ b) fun vb => (some (b2i (decide (vb ≠ 0))), []) := by
  simp only [evalE, andThen]
  rcases evalE P vars σ a with ⟨_ | va, ev1⟩
  · rfl
  · rcases evalE P vars σ b with ⟨_ | vb, ev2⟩ <;> by_cases h : va = 0 <;> simp [h]

theorem evalE_cond (cnd a b : Expr) :
    evalE P vars σ (.cond cnd a b) = andThen (evalE P vars σ cnd) fun vc =>
      andThen (if vc ≠ 0 then evalE P vars σ a else evalE P vars σ b) fun v =>
        (some (conv P (uac P (tyOf P vars a) (tyOf P vars b)) v), []) := by
  simp only [evalE, andThen]
  rcases evalE P vars σ cnd with ⟨_ | vc, ev1⟩
  · rfl
  · by_cases h : vc = 0 <;> simp only [h, ne_eq, not_true_eq_false, not_false_eq_true, if_true, if_false]
    · rcases evalE P vars σ b with ⟨_ | vb, ev3⟩ <;> simp
    · rcases evalE P vars σ a with ⟨_ | va, ev2⟩ <;> simp

end

section
variable (c : Ctx) (ref : Expr → Bool → AEnv → Option AEnv) (s : AEnv)

theorem checkEG_un (op : UnOp) (e : Expr) : checkEG c ref s (.un op e) =
    ((checkEG c ref s e).1, absUn c.P op (tyOf c.P c.vars e) (checkEG c ref s e).2) := rfl

theorem checkEG_cast (t : Ty) (e : Expr) : checkEG c ref s (.cast t e) =
    ((checkEG c ref s e).1, aconv c.P t (checkEG c ref s e).2) := rfl

theorem checkEG_tag (id : Nat) (e : Expr) : checkEG c ref s (.tag id e) =
    ((checkEG c ref s e).1 && factOk c.φ id (checkEG c ref s e).2, (checkEG c ref s e).2) := rfl

theorem checkEG_bin (op : BinOp) (a b : Expr) : checkEG c ref s (.bin op a b) =
    ((checkEG c ref s a).1 && (checkEG c ref s b).1,
     absBin c.P op (tyOf c.P c.vars a) (tyOf c.P c.vars b) (checkEG c ref s a).2 (checkEG c ref s b).2) := rfl

theorem checkEG_land (a b : Expr) : checkEG c ref s (.land a b) =
    match ref a true s with
    | none => ((checkEG c ref s a).1, .const 0)
    | some st => ((checkEG c ref s a).1 && (checkEG c ref st b).1, landVal (checkEG c ref s a).2 (checkEG c ref st b).2) := rfl

theorem checkEG_lor (a b : Expr) : checkEG c ref s (.lor a b) =
    match ref a false s with
    | none => ((checkEG c ref s a).1, .const 1)
    | some sf => ((checkEG c ref s a).1 && (checkEG c ref sf b).1, lorVal (checkEG c ref s a).2 (checkEG c ref sf b).2) := rfl

theorem checkEG_cond (cnd a b : Expr) : checkEG c ref s (.cond cnd a b) =
    match ref cnd true s, ref cnd false s with
    | some st, some sf =>
      ((checkEG c ref s cnd).1 && (checkEG c ref st a).1 && (checkEG c ref sf b).1,
       (aconv c.P (uac c.P (tyOf c.P c.vars a) (tyOf c.P c.vars b)) (checkEG c ref st a).2).join
         (aconv c.P (uac c.P (tyOf c.P c.vars a) (tyOf c.P c.vars b)) (checkEG c ref sf b).2))
    | some st, none =>
      ((checkEG c ref s cnd).1 && (checkEG c ref st a).1,
       aconv c.P (uac c.P (tyOf c.P c.vars a) (tyOf c.P c.vars b)) (checkEG c ref st a).2)
    | none, some sf =>
      ((checkEG c ref s cnd).1 && (checkEG c ref sf b).1,
       aconv c.P (uac c.P (tyOf c.P c.vars a) (tyOf c.P c.vars b)) (checkEG c ref sf b).2)
    | none, none => ((checkEG c ref s cnd).1, top c.P (uac c.P (tyOf c.P c.vars a) (tyOf c.P c.vars b))) := rfl

end

/-- soundness of a condition refinement at the environment `σ`: whenever `e` evaluates to a value with truth value `t`, the
    refined state exists and still describes `σ` -/
def RefSound (c : Ctx) (σ : Env) (ref : Expr → Bool → AEnv → Option AEnv) : Prop :=
  ∀ (e : Expr) (t : Bool) (s : AEnv) (v : Int),
    EnvIn σ s → (evalE c.P c.vars σ e).1 = some v → decide (v ≠ 0) = t → OEnvIn σ (ref e t s)

theorem noRef_sound (c : Ctx) (σ : Env) : RefSound c σ noRef :=
  fun _ _ _ _ h _ _ => h

/-- the checker's answer `chk` (flag, abstract value) is right about the result `r` (value, events) of an evaluation -/
def Sound (φ : Fact) (r : Option Int × List Event) (chk : Bool × AbsVal) : Prop :=
  (chk.1 = true → EvOk φ r.2) ∧ ∀ v, r.1 = some v → chk.2.mem v

theorem Sound.pure {φ : Fact} {o : Option Int} {ok : Bool} {w : AbsVal} (h : ∀ v, o = some v → w.mem v) : Sound φ (o, []) (ok, w) :=
  ⟨fun _ => evOk_nil φ, h⟩

theorem Sound.val {φ : Fact} {v : Int} {ok : Bool} {w : AbsVal} (h : w.mem v) : Sound φ (some v, []) (ok, w) :=
  .pure fun _ hv => Option.some.inj hv ▸ h

theorem Sound.andThen {φ : Fact} {r : Option Int × List Event} {f : Int → Option Int × List Event} {chk1 chk : Bool × AbsVal}
    (h1 : Sound φ r chk1) (hok : chk.1 = true → chk1.1 = true)
    (h2 : ∀ a, r.1 = some a → chk1.2.mem a → Sound φ (f a) chk) : Sound φ (andThen r f) chk := by
  unfold VFV.andThen
  cases hr : r.1 with
  | none => exact ⟨fun h => h1.1 (hok h), nofun⟩
  | some a =>
    have h2 := h2 a hr (h1.2 a hr)
    exact ⟨fun h => evOk_append (h1.1 (hok h)) (h2.1 h), h2.2⟩

theorem checkEG_sound (c : Ctx) (ref : Expr → Bool → AEnv → Option AEnv) {σ : Env} (href : RefSound c σ ref)
    (e : Expr) {s : AEnv} (hσ : EnvIn σ s) :
    Sound c.φ (evalE c.P c.vars σ e) (checkEG c ref s e) := by
  induction e generalizing s with
  | lit v t => exact .val (const_mem _)
  | var x => exact .val (alook_sound hσ x)
  | un op e ih =>
    rw [checkEG_un, evalE_un]
    exact (ih hσ).andThen id fun x _ mx => .pure fun v hv => absUn_sound mx hv
  | cast t e ih =>
    rw [checkEG_cast, evalE_cast]
    exact (ih hσ).andThen id fun x _ mx => .val (aconv_sound mx)
  | tag id e ih =>
    rw [checkEG_tag, evalE_tag]
    exact (ih hσ).andThen and_true_left fun x _ mx =>
      ⟨fun h => factOk_sound (and_true_right h) mx, fun v hv => Option.some.inj hv ▸ mx⟩
  | bin op a b iha ihb =>
    rw [checkEG_bin, evalE_bin]
    exact (iha hσ).andThen and_true_left fun x _ mx => (ihb hσ).andThen and_true_right fun y _ my =>
      .pure fun v hv => absBin_sound mx my hv
  | land a b iha ihb =>
    rw [checkEG_land, evalE_land]
    refine (iha hσ).andThen ?_ fun x hx mx => ?_
    · cases ref a true s
      · exact id
      · exact and_true_left
    by_cases hx0 : x = 0
    · -- the right operand is not evaluated
      rw [if_pos hx0]
      subst hx0
      cases ref a true s with
      | none => exact .val (const_mem 0)
      | some st => exact .val (landVal_sound (y := 0) mx (absurd rfl))
    · rw [if_neg hx0]
      obtain ⟨st, hst, hσ'⟩ := oenvIn_some (href a true s x hσ hx (by simp [hx0]))
      rw [hst]
      exact (ihb hσ').andThen and_true_right fun y _ my => .val (by simpa [hx0] using landVal_sound mx fun _ => my)
  | lor a b iha ihb =>
    rw [checkEG_lor, evalE_lor]
    refine (iha hσ).andThen ?_ fun x hx mx => ?_
    · cases ref a false s
      · exact id
      · exact and_true_left
    by_cases hx0 : x = 0
    · rw [if_neg (not_not_intro hx0)]
      obtain ⟨sf, hsf, hσ'⟩ := oenvIn_some (href a false s x hσ hx (by simp [hx0]))
      rw [hsf]
      exact (ihb hσ').andThen and_true_right fun y _ my => .val (by simpa [hx0] using lorVal_sound mx fun _ => my)
    · rw [if_pos hx0]
      cases ref a false s with
      | none => exact .val (const_mem 1)
      | some sf => exact .val (by simpa [hx0, MiniC.b2i] using lorVal_sound (y := 0) mx (absurd · hx0))
  | cond cnd a b ihc iha ihb =>
    rw [checkEG_cond, evalE_cond]
    refine (ihc hσ).andThen ?_ fun x hx _ => ?_
    · cases ref cnd true s <;> cases ref cnd false s
      · exact id
      · exact and_true_left
      · exact and_true_left
      · exact fun h => and_true_left (and_true_left h)
    by_cases hx0 : x = 0
    · rw [if_neg (not_not_intro hx0)]
      obtain ⟨sf, hsf, hσ'⟩ := oenvIn_some (href cnd false s x hσ hx (by simp [hx0]))
      rw [hsf]
      cases ref cnd true s with
      | none => exact (ihb hσ').andThen and_true_right fun y _ my => .val (aconv_sound my)
      | some st => exact (ihb hσ').andThen and_true_right fun y _ my => .val (join_sound (.inr (aconv_sound my)))
    · rw [if_pos hx0]
      obtain ⟨st, hst, hσ'⟩ := oenvIn_some (href cnd true s x hσ hx (by simp [hx0]))
      rw [hst]
      cases ref cnd false s with
      | none => exact (iha hσ').andThen and_true_right fun y _ my => .val (aconv_sound my)
      | some sf =>
        exact (iha hσ').andThen (fun h => and_true_right (and_true_left h)) fun y _ my => .val (join_sound (.inl (aconv_sound my)))

theorem absE0_sound (c : Ctx) {σ : Env} {s : AEnv} {e : Expr} {v : Int}
    (hσ : EnvIn σ s) (h : (evalE c.P c.vars σ e).1 = some v) : (absE0 c s e).mem v :=
  (checkEG_sound c noRef (noRef_sound c σ) e hσ).2 v h

theorem stripTags_var {P : Platform} {vars : List Ty} {σ : Env} (e : Expr) {x : Nat} {v : Int}
    (hs : stripTags e = .var x) (h : (evalE P vars σ e).1 = some v) : v = σ.getD x 0 := by
  induction e with
  | tag id e ih =>
    rw [evalE_tag] at h
    obtain ⟨a, ha, hv⟩ := andThen_some h
    cases hv; exact ih hs ha
  | var y => cases hs; cases h; rfl
  | _ => simp [stripTags] at hs

theorem setIfVar_sound {P : Platform} {vars : List Ty} {σ : Env} {s : AEnv} {e : Expr} {f : AbsVal → AbsVal} {v : Int}
    (hσ : EnvIn σ s) (he : (evalE P vars σ e).1 = some v) (hf : ∀ w : AbsVal, w.mem v → (f w).mem v) : EnvIn σ (setIfVar s e f) := by
  unfold setIfVar
  split
  · rename_i x hx
    split
    · have e1 := stripTags_var e hx he
      apply envIn_set_same hσ
      rw [← e1]; apply hf; rw [e1]; exact alook_sound hσ x
    · exact hσ
  · exact hσ

theorem refineBy_sound {op : BinOp} {vx vb : AbsVal} {x y : Int} (hx : vx.mem x) (hy : vb.mem y) (h : cmpB op x y = true) :
    (refineBy op vx vb).mem x := by
  have hy' := hy
  unfold AbsVal.mem at hy'
  unfold refineBy
  cases op <;> simp only [cmpB, decide_eq_true_eq] at h ⊢
  case lt => exact meetHi_sound hx (by omega)
  case le => exact meetHi_sound hx (by omega)
  case gt => exact meetLo_sound hx (by omega)
  case ge => exact meetLo_sound hx (by omega)
  case eq => exact meetHi_sound (meetLo_sound hx (by omega)) (by omega)
  case ne =>
    split
    · rename_i c hc
      have := isConst_sound hc hy
      exact remove_sound hx (by omega)
    · exact hx
  all_goals exact hx

theorem cmpB_swap (op : BinOp) (x y : Int) : cmpB (swapCmp op) y x = cmpB op x y := by
  cases op <;> simp [cmpB, swapCmp, eq_comm]

theorem cmpB_negCmp {op : BinOp} {x y : Int} (hc : op.isCmp = true) (h : cmpB op x y = false) : cmpB (negCmp op) x y = true := by
  cases op <;> simp [BinOp.isCmp] at hc
  all_goals
    simp [cmpB] at h
    simp [cmpB, negCmp]
    omega

theorem refineCmp_sound (c : Ctx) {op : BinOp} {a b : Expr} {σ : Env} {s : AEnv} {va vb : Int}
    (hσ : EnvIn σ s) (hea : (evalE c.P c.vars σ a).1 = some va) (heb : (evalE c.P c.vars σ b).1 = some vb)
    (h : cmpB op (conv c.P (uac c.P (tyOf c.P c.vars a) (tyOf c.P c.vars b)) va)
                 (conv c.P (uac c.P (tyOf c.P c.vars a) (tyOf c.P c.vars b)) vb) = true) :
    OEnvIn σ (refineCmp c op a b s) := by
  unfold refineCmp
  simp only []
  have ma := absE0_sound c hσ hea
  have mb := absE0_sound c hσ heb
  split
  · rename_i hf
    rw [conv_id (fits_inTy (and_true_left hf) ma), conv_id (fits_inTy (and_true_right hf) mb)] at h
    split
    · rename_i hfalse
      cases (acmp_sound hfalse ma mb).trans h
    · apply setIfVar_sound (setIfVar_sound hσ hea (fun w hw => refineBy_sound hw mb h)) heb
      intro w hw
      exact refineBy_sound hw ma ((cmpB_swap op _ _).trans h)
  · exact hσ

/-- the non-recursive cases of `assume`: the refined state `o`, unless the abstract value `w` of the expression already decides
    the test the other way -/
def keepUnless (w : AbsVal) (t : Bool) (o : Option AEnv) : Option AEnv :=
  match atruth w, t with
  | some true, false => none
  | some false, true => none
  | _, _ => o

theorem keepUnless_sound {w : AbsVal} {t : Bool} {σ : Env} {o : Option AEnv} {v : Int}
    (m : w.mem v) (ht : decide (v ≠ 0) = t) (ho : OEnvIn σ o) : OEnvIn σ (keepUnless w t o) := by
  unfold keepUnless
  cases h1 : atruth w with
  | none => exact ho
  | some b =>
    have := atruth_sound h1 m
    rw [ht] at this; subst this
    cases b <;> exact ho

section
variable (c : Ctx) (t : Bool) (s : AEnv)

theorem assume_tag (id : Nat) (e : Expr) : assume c (.tag id e) t s = assume c e t s := rfl
theorem assume_lnot (e : Expr) : assume c (.un .lnot e) t s = assume c e (!t) s := rfl
theorem assume_land_true (a b : Expr) : assume c (.land a b) true s =
    match assume c a true s with
    | none => none
    | some s1 => assume c b true s1 := rfl
theorem assume_land_false (a b : Expr) : assume c (.land a b) false s =
    ojoin c.vars.length (assume c a false s)
      (match assume c a true s with
       | none => none
       | some s1 => assume c b false s1) := rfl
theorem assume_lor_true (a b : Expr) : assume c (.lor a b) true s =
    ojoin c.vars.length (assume c a true s)
      (match assume c a false s with
       | none => none
       | some s1 => assume c b true s1) := rfl
theorem assume_lor_false (a b : Expr) : assume c (.lor a b) false s =
    match assume c a false s with
    | none => none
    | some s1 => assume c b false s1 := rfl
theorem assume_var (x : Nat) : assume c (.var x) t s =
    keepUnless (alook s x) t
      (if x < s.length then some (s.set x (if t then (alook s x).remove 0 else ((alook s x).meetLo 0).meetHi 0)) else some s) := by
  unfold assume; rfl
theorem assume_bin (op : BinOp) (a b : Expr) : assume c (.bin op a b) t s =
    if op.isCmp then refineCmp c (if t then op else negCmp op) a b s else keepUnless (absE0 c s (.bin op a b)) t (some s) := by
  unfold assume; rfl

theorem assume_other (e : Expr)
    (h : (match e with | .lit .. | .cast .. | .cond .. | .un .neg _ | .un .compl _ => true | _ => false) = true) :
    assume c e t s = keepUnless (absE0 c s e) t (some s) := by
  cases e with
  | lit _ _ | cast _ _ | cond _ _ _ => unfold assume; rfl
  | un op _ => cases op with
    | neg | compl => unfold assume; rfl
    | lnot => cases h
  | _ => cases h

end

theorem b2i_ne_zero (b : Bool) : (MiniC.b2i b ≠ 0) ↔ b = true := by
  cases b <;> simp [MiniC.b2i]

theorem truth_b2i {b t : Bool} (h : decide (MiniC.b2i b ≠ 0) = t) : b = t := by
  cases b <;> cases t <;> simp [MiniC.b2i] at h ⊢

theorem assume_sound (c : Ctx) {σ : Env} (hn : σ.length = c.vars.length) : RefSound c σ (assume c) := by
  intro e t s v hσ he ht
  have keep : ∀ {e : Expr} {t s v}, EnvIn σ s → (evalE c.P c.vars σ e).1 = some v → decide (v ≠ 0) = t →
      OEnvIn σ (keepUnless (absE0 c s e) t (some s)) :=
    fun hσ he ht => keepUnless_sound (absE0_sound c hσ he) ht hσ
  induction e generalizing t s v with
  | tag id e ih =>
    rw [evalE_tag] at he
    obtain ⟨a, ha, hv⟩ := andThen_some he
    cases hv; rw [assume_tag]; exact ih t s _ hσ ha ht
  | un op e ih =>
    cases op with
    | lnot =>
      rw [evalE_un] at he
      obtain ⟨a, ha, hv⟩ := andThen_some he
      cases hv
      rw [assume_lnot]
      refine ih (!t) s a hσ ha ?_
      rw [← ht]
      by_cases ha0 : a = 0 <;> simp [ha0, MiniC.b2i]
    | neg | compl => rw [assume_other _ _ _ _ rfl]; exact keep hσ he ht
  | land a b iha ihb =>
    rw [evalE_land] at he
    obtain ⟨x, hx, he⟩ := andThen_some he
    by_cases hx0 : x = 0
    · rw [if_pos hx0] at he
      cases he
      obtain rfl : false = t := ht
      rw [assume_land_false]
      exact ojoin_sound hn (.inl (iha false s x hσ hx (by simp [hx0])))
    · rw [if_neg hx0] at he
      obtain ⟨y, hy, hv⟩ := andThen_some he
      cases hv
      have h1 := iha true s x hσ hx (by simp [hx0])
      have h2 := fun s1 (h : EnvIn σ s1) => ihb t s1 y h hy (truth_b2i ht)
      cases t with
      | true => rw [assume_land_true]; exact oenvIn_bind h1 h2
      | false => rw [assume_land_false]; exact ojoin_sound hn (.inr (oenvIn_bind h1 h2))
  | lor a b iha ihb =>
    rw [evalE_lor] at he
    obtain ⟨x, hx, he⟩ := andThen_some he
    by_cases hx0 : x = 0
    · rw [if_neg (not_not_intro hx0)] at he
      obtain ⟨y, hy, hv⟩ := andThen_some he
      cases hv
      have h1 := iha false s x hσ hx (by simp [hx0])
      have h2 := fun s1 (h : EnvIn σ s1) => ihb t s1 y h hy (truth_b2i ht)
      cases t with
      | true => rw [assume_lor_true]; exact ojoin_sound hn (.inr (oenvIn_bind h1 h2))
      | false => rw [assume_lor_false]; exact oenvIn_bind h1 h2
    · rw [if_pos hx0] at he
      cases he
      obtain rfl : true = t := ht
      rw [assume_lor_true]
      exact ojoin_sound hn (.inl (iha true s x hσ hx (by simp [hx0])))
  | bin op a b _ _ =>
    rw [assume_bin]
    split
    · rename_i hc
      rw [evalE_bin] at he
      obtain ⟨x, hx, he⟩ := andThen_some he
      obtain ⟨y, hy, hv⟩ := andThen_some he
      rw [evalBin_cmp hc] at hv
      cases hv
      have hb := truth_b2i ht
      cases t with
      | true => exact refineCmp_sound c hσ hx hy hb
      | false => exact refineCmp_sound c hσ hx hy (cmpB_negCmp hc hb)
    · exact keep hσ he ht
  | var x =>
    cases he
    have m := alook_sound hσ x
    rw [assume_var]
    refine keepUnless_sound m ht ?_
    split
    · apply envIn_set_same hσ
      cases t with
      | true => exact remove_sound m (of_decide_eq_true ht)
      | false =>
        have h0 : σ.getD x 0 = 0 := Decidable.of_not_not (of_decide_eq_false ht)
        exact meetHi_sound (meetLo_sound m (by omega)) (by omega)
    · exact hσ
  | lit _ _ | cast _ _ _ | cond _ _ _ _ _ _ => rw [assume_other _ _ _ _ rfl]; exact keep hσ he ht

theorem checkE_sound (c : Ctx) {σ : Env} {s : AEnv} {e : Expr} {r : Option Int} {evs : List Event}
    (hn : σ.length = c.vars.length) (hσ : EnvIn σ s) (h : evalE c.P c.vars σ e = (r, evs)) : Sound c.φ (r, evs) (checkE c s e) :=
  h ▸ checkEG_sound c (assume c) (assume_sound c hn) e hσ

/-- the concrete outcome is described by the abstract one; environments keep their length -/
def OutIn (n : Nat) (o : Out) (a : AOut) : Prop :=
  match o with
  | .normal e => OEnvIn e a.normal ∧ e.length = n
  | .brk e => OEnvIn e a.brk ∧ e.length = n
  | .cont e => OEnvIn e a.cont ∧ e.length = n
  | _ => True

def RunIn (c : Ctx) (r : Out × List Event) (out : AOut) : Prop := EvOk c.φ r.2 ∧ OutIn c.vars.length r.1 out

theorem RunIn.after {c : Ctx} {r : Out × List Event} {out : AOut} {evs : List Event} (h : RunIn c r out) (he : EvOk c.φ evs) :
    RunIn c (r.1, evs ++ r.2) out :=
  ⟨evOk_append he h.1, h.2⟩

/-- for all statements at once: the induction of `stmt_sound` is on the fuel `k` -/
def StmtSound (c : Ctx) (k : Nat) : Prop :=
  ∀ (st : Stmt) (σ : Env) (s : AEnv), σ.length = c.vars.length → EnvIn σ s → (checkS c st s).1 = true →
    RunIn c (execS c.P c.vars k σ st) (checkS c st s).2

theorem setVar_length (σ : Env) (x : Nat) (v : Int) : (setVar σ x v).length = σ.length := by
  simp [setVar]

theorem outIn_join {n : Nat} {o : Out} {a b : AOut} (h : OutIn n o a ∨ OutIn n o b) :
    OutIn n o ⟨ojoin n a.normal b.normal, ojoin n a.brk b.brk, ojoin n a.cont b.cont⟩ := by
  cases o with
  | normal e | brk e | cont e =>
    have hl : e.length = n := h.elim (·.2) (·.2)
    exact ⟨ojoin_sound hl (h.imp (·.1) (·.1)), hl⟩
  | _ => trivial

theorem outIn_abrupt {n : Nat} {o : Out} {a : AOut} (h : OutIn n o a) (ho : ∀ e, o ≠ .normal e) : OutIn n o ⟨none, a.brk, a.cont⟩ := by
  cases o with
  | normal e => exact absurd rfl (ho e)
  | _ => exact h

/-- Two inductions meet: `ih` is the hypothesis of the outer induction on the fuel (it serves the body), the induction on `k`
    here serves the next round of the same loop. -/
theorem loop_sound (c : Ctx) (cnd : Expr) (body : Stmt) (inv : AEnv) (ob : AOut)
    (hcnd : (checkE c inv cnd).1 = true)
    (hbody : ∀ st', assume c cnd true inv = some st' →
      checkS c body st' = (true, ob) ∧ oleq ob.normal inv = true ∧ oleq ob.cont inv = true)
    (k : Nat) (ih : ∀ j, j < k → StmtSound c j) :
    ∀ σ : Env, σ.length = c.vars.length → EnvIn σ inv →
      RunIn c (execS c.P c.vars k σ (.while cnd body)) ⟨ojoin c.vars.length (assume c cnd false inv) ob.brk, none, none⟩ := by
  induction k with
  | zero => exact fun _ _ _ => ⟨evOk_nil _, trivial⟩
  | succ k ihk =>
    intro σ hn hσ
    have ihk := ihk fun j hj => ih j (Nat.lt_succ_of_lt hj)
    rw [execS]
    rcases hec : evalE c.P c.vars σ cnd with ⟨_ | vc, evc⟩ <;>
      have C := (checkE_sound c hn hσ hec).1 hcnd
    · exact ⟨C, trivial⟩
    · simp only []
      by_cases hvc : vc = 0
      · rw [if_pos hvc]
        exact ⟨C, ojoin_sound hn (.inl (assume_sound c hn cnd false inv vc hσ (by rw [hec]) (by simp [hvc]))), hn⟩
      · rw [if_neg hvc]
        obtain ⟨st', hst, hσt⟩ := oenvIn_some (assume_sound c hn cnd true inv vc hσ (by rw [hec]) (by simp [hvc]))
        obtain ⟨hcb, hl1, hl2⟩ := hbody st' hst
        have B := ih k (Nat.lt_succ_self k) body σ st' hn hσt (by rw [hcb])
        rw [hcb] at B
        obtain ⟨B, hin⟩ := B
        rcases heb : execS c.P c.vars k σ body with ⟨o1, ev1⟩
        rw [heb] at B hin
        cases o1 with
        -- after a round that ends normally or by `continue` the invariant holds again
        | normal env' => exact (ihk env' hin.2 (oleq_sound hl1 hin.1)).after (evOk_append C B)
        | cont env' => exact (ihk env' hin.2 (oleq_sound hl2 hin.1)).after (evOk_append C B)
        | brk env' => exact ⟨evOk_append C B, ojoin_sound hin.2 (.inr hin.1), hin.2⟩
        | _ => exact ⟨evOk_append C B, trivial⟩

theorem assign_out {c : Ctx} {σ : Env} {s : AEnv} {x : Nat} {va : AbsVal} {v : Int} (hn : σ.length = c.vars.length) (hσ : EnvIn σ s)
    (hv : va.mem v) :
    OutIn c.vars.length (.normal (setVar σ x v)) ⟨if va.isEmpty then none else some (s.set x va), none, none⟩ := by
  simp only [OutIn]
  split
  · rename_i he; exact (isEmpty_sound he hv).elim
  · exact ⟨set_sound hσ x hv, by rw [setVar_length]; exact hn⟩

theorem stmt_sound (c : Ctx) : ∀ k, StmtSound c k := by
  intro k
  induction k using Nat.strongRecOn with
  | _ k ih =>
  cases k with
  | zero => exact fun _ _ _ _ _ _ => ⟨evOk_nil _, trivial⟩
  | succ k =>
    intro st σ s hn hσ
    have IH := ih k (by omega)
    -- in the leaf cases `checkS` is not unfolded: `hc` gives its conjuncts, and `(checkS c st s).2` is the outcome of
    -- `assign_out`, up to definitional unfolding
    cases st with
    | skip | brk | cont => exact fun _ => ⟨evOk_nil _, hσ, hn⟩
    | ret e =>
      intro hc
      simp only [execS]
      rcases hee : evalE c.P c.vars σ e with ⟨_ | v, ev⟩ <;> exact ⟨(checkE_sound c hn hσ hee).1 hc, trivial⟩
    | assign id x e =>
      intro hc
      simp only [execS]
      rcases hee : evalE c.P c.vars σ e with ⟨_ | v, ev⟩ <;>
        have E := checkE_sound c hn hσ hee
      · exact ⟨E.1 (and_true_left hc), trivial⟩
      · have hv := aconv_sound (P := c.P) (t := varTy c.vars x) (E.2 v rfl)
        exact ⟨evOk_append (E.1 (and_true_left hc)) (factOk_sound (and_true_right hc) hv), assign_out hn hσ hv⟩
    | compound id op x e =>
      intro hc
      simp only [execS]
      rcases hee : evalE c.P c.vars σ e with ⟨_ | v, ev⟩ <;>
        have E := checkE_sound c hn hσ hee
      · exact ⟨E.1 (and_true_left hc), trivial⟩
      · simp only []
        cases heb : evalBin c.P op (varTy c.vars x) (tyOf c.P c.vars e) (σ.getD x 0) v with
        | none => exact ⟨E.1 (and_true_left hc), trivial⟩
        | some r =>
          have hv := aconv_sound (P := c.P) (t := varTy c.vars x) (absBin_sound (alook_sound hσ x) (E.2 v rfl) heb)
          exact ⟨evOk_append (E.1 (and_true_left hc)) (factOk_sound (and_true_right hc) hv), assign_out hn hσ hv⟩
    | incdec id inc pre x =>
      intro hc
      simp only [execS]
      cases heb : evalBin c.P (if inc = true then BinOp.add else BinOp.sub) (varTy c.vars x) tInt (σ.getD x 0) 1 with
      | none => exact ⟨evOk_nil _, trivial⟩
      | some r =>
        have hold := alook_sound hσ x
        have hv := aconv_sound (P := c.P) (t := varTy c.vars x) (absBin_sound hold (const_mem 1) heb)
        refine ⟨?_, assign_out hn hσ hv⟩
        cases pre
        · exact factOk_sound hc hold
        · exact factOk_sound hc hv
    | seq a b =>
      simp only [checkS, execS]
      have A := IH a σ s hn hσ
      rcases hea : execS c.P c.vars k σ a with ⟨r1, ev1⟩
      rw [hea] at A
      generalize checkS c a s = ra at A ⊢
      obtain ⟨ok1, o1⟩ := ra
      simp only [] at A ⊢
      cases hn1 : o1.normal with
      | none =>
        -- no normal exit from `a`: `b` is not checked, and is not run
        intro hc
        have A := A hc
        cases r1 with
        | normal env' => exact absurd A.2.1 (by rw [hn1]; exact id)
        | _ => exact A
      | some s1 =>
        intro hc
        have A := A (and_true_left hc)
        cases r1 with
        | normal env' =>
          have B := IH b env' s1 A.2.2 (show OEnvIn env' (some s1) from hn1 ▸ A.2.1) (and_true_right hc)
          exact ⟨evOk_append A.1 B.1, outIn_join (a := ⟨none, o1.brk, o1.cont⟩) (.inr B.2)⟩
        | _ => exact ⟨A.1, outIn_join (.inl (outIn_abrupt A.2 nofun))⟩
    | ite cnd a b =>
      simp only [checkS, execS]
      intro hc
      rcases hec : evalE c.P c.vars σ cnd with ⟨_ | v, evc⟩ <;>
        have C := (checkE_sound c hn hσ hec).1 (and_true_left (and_true_left hc))
      · exact ⟨C, trivial⟩
      · simp only []
        by_cases hv : v = 0
        · rw [if_neg (by simpa using hv)]
          obtain ⟨sf, hsf, hσf⟩ := oenvIn_some (assume_sound c hn cnd false s v hσ (by rw [hec]) (by simp [hv]))
          rw [hsf] at hc ⊢
          have B := IH b σ sf hn hσf (and_true_right hc)
          exact ⟨evOk_append C B.1, outIn_join (.inr B.2)⟩
        · rw [if_pos hv]
          obtain ⟨st, hst, hσt⟩ := oenvIn_some (assume_sound c hn cnd true s v hσ (by rw [hec]) (by simp [hv]))
          rw [hst] at hc ⊢
          have A := IH a σ st hn hσt (and_true_right (and_true_left hc))
          exact ⟨evOk_append C A.1, outIn_join (.inl A.2)⟩
    | «while» cnd body =>
      simp only [checkS]
      generalize findInv c (assume c cnd true) (fun s' => checkS c body s') (assigned body) loopRounds s = inv
      split
      · exact fun hc => nomatch hc
      · rename_i hleq
        simp at hleq
        have hσi := leqEnv_sound hleq hσ
        cases hst : assume c cnd true inv with
        | none =>
          -- the invariant excludes a true condition: the body is never entered
          intro hc
          have L := loop_sound c cnd body inv AOut.bot hc (by intro st' h'; rw [hst] at h'; cases h') (k + 1) ih σ hn hσi
          simpa [AOut.bot, ojoin_none_r] using L
        | some st' =>
          simp only []
          rcases hcb : checkS c body st' with ⟨ok1, ob⟩
          simp only []
          split
          · rename_i hle
            simp at hle
            intro hc
            obtain rfl : ok1 = true := and_true_right hc
            exact loop_sound c cnd body inv ob (and_true_left hc)
              (by intro st'' h''; rw [hst] at h''; cases h''; exact ⟨hcb, hle.1, hle.2⟩) (k + 1) ih σ hn hσi
          · exact fun hc => nomatch hc

theorem envIn_map {α : Type} (l : List α) (g : α → Int) (h : α → AbsVal) (hm : ∀ i, (h i).mem (g i)) : EnvIn (l.map g) (l.map h) := by
  induction l with
  | nil => simp [EnvIn]
  | cons a l ih => simp [EnvIn]; exact ⟨hm a, ih⟩

theorem init_sound (P : Platform) (f : Func) (args : List Int) : EnvIn (initEnv P f args) (initAbs P f) := by
  unfold initEnv initAbs
  apply envIn_map
  intro i
  split
  · exact top_mem (conv_inTy _ _ _)
  · exact const_mem 0

theorem initEnv_length (P : Platform) (f : Func) (args : List Int) : (initEnv P f args).length = f.vars.length := by
  simp [initEnv]

end Cppcheck.VFV
