import Cppcheck.Model.ValueTypeConv
/-
C09 — the enumerations of the finite types are complete.  The tables of Proofs/ConvSpec.lean are swept over `Shape.all`
(the 64 shapes), `CT.all` and `bools`.
-/
namespace Cppcheck.ValueTypeConv

theorem CT.mem_all (t : CT) : t ∈ CT.all := by cases t <;> decide
theorem BinOp.mem_all (op : BinOp) : op ∈ BinOp.all := by cases op <;> decide
theorem UnOp.mem_all (op : UnOp) : op ∈ UnOp.all := by cases op <;> decide

def bools : List Bool := [false, true]
theorem mem_bools (b : Bool) : b ∈ bools := by cases b <;> decide

def Shape.all : List Shape :=
  bools.flatMap fun a => bools.flatMap fun b => bools.flatMap fun c => bools.flatMap fun d =>
  bools.flatMap fun e => bools.map fun f => ⟨a, b, c, d, e, f⟩

theorem Shape.mem_all (s : Shape) : s ∈ Shape.all := by
  simp only [Shape.all, List.mem_flatMap, List.mem_map]
  exact ⟨_, mem_bools _, _, mem_bools _, _, mem_bools _, _, mem_bools _, _, mem_bools _, _, mem_bools _, rfl⟩

def OpClass.all : List OpClass := [.arith, .bit, .shift, .cmp, .logical, .assign]
theorem OpClass.mem_all (c : OpClass) : c ∈ OpClass.all := by cases c <;> decide

end Cppcheck.ValueTypeConv
