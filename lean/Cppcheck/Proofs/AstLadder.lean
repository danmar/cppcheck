import Cppcheck.Model.AstLadder
/-
C07 — what is independent of the operand level and of the grammar: balanced bracket strings (`closeOff`, `openOff` across them);
`scanQ` and with it `prep` (prepareTernaryOpForAST) on printed trees; when a level stops at a token (`LvStop`); the generic ladder
(`loopLeft`, `assignTern`, `ladder`) over any operand parser, with the loop `K` of its top level and the state `done` it is entered in.
-/
namespace Cppcheck.AstLadder
open PExpr

/-- running bracket depth; `none` when a closer meets depth 0 -/
def balAux : Nat → List Tok → Option Nat
  | k, [] => some k
  | k, t :: r =>
    if t.isOpener then balAux (k + 1) r
    else if t.isCloser then
      match k with
      | 0 => none
      | k' + 1 => balAux k' r
    else balAux k r

theorem balAux_append (a b : List Tok) : ∀ k, balAux k (a ++ b) = (balAux k a).bind (fun k' => balAux k' b) := by
  induction a with
  | nil => intro k; simp [balAux]
  | cons t r ih =>
    intro k
    simp only [List.cons_append, balAux]
    split
    · exact ih _
    · split
      · cases k with
        | zero => simp
        | succ k' => exact ih _
      · exact ih _

/-- induction over the runs of `balAux` that succeed: from depth `k` over `b` to depth `k2` -/
theorem balAux_induct {P : Nat → List Tok → Nat → Prop} (nil : ∀ k, P k [] k)
    (opener : ∀ t r k k2, t.isOpener = true → P (k + 1) r k2 → P k (t :: r) k2)
    (closer : ∀ t r k k2, t.isOpener = false → t.isCloser = true → P k r k2 → P (k + 1) (t :: r) k2)
    (other : ∀ t r k k2, t.isOpener = false → t.isCloser = false → P k r k2 → P k (t :: r) k2) :
    ∀ b k k2, balAux k b = some k2 → P k b k2 := by
  intro b
  induction b with
  | nil => intro k k2 h; cases h; exact nil k
  | cons t r ih =>
    intro k k2 h
    simp only [balAux] at h
    cases ho : t.isOpener with
    | true => rw [ho, if_pos rfl] at h; exact opener t r k k2 ho (ih _ _ h)
    | false =>
      rw [ho] at h
      cases hc : t.isCloser with
      | true =>
        simp only [hc, Bool.false_eq_true, if_false, if_true] at h
        cases k with
        | zero => cases h
        | succ k' => exact closer t r k' k2 ho hc (ih _ _ h)
      | false =>
        simp only [hc, Bool.false_eq_true, if_false] at h
        exact other t r k k2 ho hc (ih _ _ h)

theorem balAux_mono (b : List Tok) (k k2 : Nat) (h : balAux k b = some k2) : ∀ j, balAux (k + j) b = some (k2 + j) := by
  refine balAux_induct (P := fun k b k2 => ∀ j, balAux (k + j) b = some (k2 + j)) ?_ ?_ ?_ ?_ b k k2 h
  · intro k j; rfl
  · intro t r k k2 ho ih j
    simp only [balAux, ho, if_true]
    rw [Nat.add_right_comm]
    exact ih j
  · intro t r k k2 ho hc ih j
    rw [Nat.add_right_comm]
    simp only [balAux, ho, hc, Bool.false_eq_true, if_false, if_true]
    exact ih j
  · intro t r k k2 ho hc ih j
    simp only [balAux, ho, hc, Bool.false_eq_true, if_false]
    exact ih j

def Balanced (b : List Tok) : Prop := balAux 0 b = some 0

theorem Balanced.at (b : List Tok) (h : Balanced b) (k : Nat) : balAux k b = some k := by
  have := balAux_mono b 0 0 h k
  simpa using this

theorem map_add_add (o : Option Nat) (n : Nat) : (o.map (· + n)).map (· + 1) = o.map (· + (n + 1)) := by
  cases o with
  | none => rfl
  | some a => simp only [Option.map_some]; congr 1

theorem closeOff_skip (b r : List Tok) (k k2 : Nat) (h : balAux k b = some k2) :
    closeOff k (b ++ r) = (closeOff k2 r).map (· + b.length) := by
  refine balAux_induct (P := fun k b k2 => closeOff k (b ++ r) = (closeOff k2 r).map (· + b.length)) ?_ ?_ ?_ ?_ b k k2 h
  · intro k; simp
  · intro t b k k2 ho ih
    simp only [List.cons_append, closeOff, ho, if_true, List.length_cons]
    rw [ih]; exact map_add_add _ _
  · intro t b k k2 ho hc ih
    simp only [List.cons_append, closeOff, ho, hc, Bool.false_eq_true, if_false, if_true, List.length_cons]
    rw [ih]; exact map_add_add _ _
  · intro t b k k2 ho hc ih
    simp only [List.cons_append, closeOff, ho, hc, Bool.false_eq_true, if_false, List.length_cons]
    rw [ih]; exact map_add_add _ _

theorem not_opener_of_closer {c : Tok} (hc : c.isCloser = true) : c.isOpener = false := by
  cases c <;> first | rfl | cases hc

theorem closeOff_closer (b r : List Tok) (c : Tok) (hc : c.isCloser = true) (h : Balanced b) :
    closeOff 0 (b ++ c :: r) = some b.length := by
  rw [closeOff_skip b (c :: r) 0 0 h]
  simp [closeOff, not_opener_of_closer hc, hc]

theorem closeOff_groupB (b r : List Tok) (h : Balanced b) : closeOff 0 (b ++ Tok.rb :: r) = some b.length :=
  closeOff_closer b r Tok.rb rfl h

/-! ### mirrored brackets: `openOff` is `closeOff` on the mirrored list -/
def Tok.flip : Tok → Tok
  | .lp => .rp | .rp => .lp | .lb => .rb | .rb => .lb
  | t => t

theorem openOff_eq_closeOff (l : List Tok) : ∀ d, openOff d l = closeOff d (l.map Tok.flip) := by
  induction l with
  | nil => intro d; rfl
  | cons t r ih =>
    intro d
    cases t <;> simp [openOff, closeOff, Tok.flip, Tok.isOpener, Tok.isCloser, ih]

theorem balAux_mirror (l : List Tok) : ∀ k k2, balAux k l = some k2 → balAux k2 (l.reverse.map Tok.flip) = some k := by
  induction l with
  | nil => intro k k2 h; simp only [balAux, Option.some.injEq] at h; subst h; rfl
  | cons t r ih =>
    intro k k2 h
    rw [List.reverse_cons, List.map_append, balAux_append]
    cases t with
    | lp | lb => rw [ih (k + 1) k2 h]; rfl
    | rp | rb =>
      cases k with
      | zero => cases h
      | succ k' => rw [ih k' k2 h]; rfl
    | _ => rw [ih k k2 h]; rfl

theorem openOff_group (b : List Tok) (hb : Balanced b) (pre : List Tok) : openOff 0 (b.reverse ++ Tok.lp :: pre) = some b.length := by
  rw [openOff_eq_closeOff, List.map_append, List.map_cons]
  have := closeOff_closer _ (pre.map Tok.flip) Tok.rp rfl (balAux_mirror _ 0 0 hb)
  simpa [Tok.flip] using this

theorem balanced_append {a b : List Tok} (ha : Balanced a) (hb : Balanced b) : Balanced (a ++ b) := by
  unfold Balanced at *
  rw [balAux_append, ha]; simpa using hb

theorem balanced_wrap {b : List Tok} (o c : Tok) (ho : o.isOpener = true) (hc : c.isCloser = true) (hb : Balanced b) :
    Balanced (o :: (b ++ [c])) := by
  unfold Balanced
  simp only [balAux, ho, if_true]
  rw [balAux_append, Balanced.at b hb 1]
  simp [balAux, not_opener_of_closer hc, hc]

theorem balanced_flat (b : List Tok) (h : ∀ t ∈ b, t.isOpener = false ∧ t.isCloser = false) : Balanced b := by
  unfold Balanced
  induction b with
  | nil => rfl
  | cons t r ih =>
    have := h t (by simp)
    simp only [balAux, this.1, this.2]
    exact ih (fun t' ht' => h t' (by simp [ht']))

theorem balanced_cons {t : Tok} {l : List Tok} (ho : t.isOpener = false) (hc : t.isCloser = false) (h : Balanced l) :
    Balanced (t :: l) := by
  unfold Balanced at h ⊢
  simp only [balAux, ho, hc, Bool.false_eq_true, if_false]; exact h

theorem fname_flat (f : Wire.Str) (v : Bool) :
    (fname f v).isOpener = false ∧ (fname f v).isCloser = false ∧ ∀ s, fname f v ≠ Tok.op s := by
  cases v <;> exact ⟨rfl, rfl, fun _ h => Tok.noConfusion h⟩

theorem balanced_cast (ty : List Wire.Str) (k : Nat) : Balanced (ty.map Tok.ty ++ List.replicate k (Tok.op ['*'])) := by
  apply balanced_flat
  intro t ht
  simp only [List.mem_append, List.mem_map, List.mem_replicate] at ht
  rcases ht with ⟨s, _, rfl⟩ | ⟨_, rfl⟩ <;> exact ⟨rfl, rfl⟩

theorem balanced_print (e : PExpr) : Balanced (print e) := by
  induction e with
  | var s | num s => exact balanced_cons rfl rfl rfl
  | paren e ih => exact balanced_wrap .lp .rp rfl rfl ih
  | bin op l r ihl ihr => exact balanced_append ihl (balanced_cons rfl rfl ihr)
  | tern c t e ihc iht ihe =>
    exact balanced_append ihc (balanced_cons rfl rfl (balanced_append iht (balanced_cons rfl rfl ihe)))
  | pre op e ih => exact balanced_cons rfl rfl ih
  | post op e ih => exact balanced_append ih (balanced_cons rfl rfl rfl)
  | cast ty k e ih =>
    have := balanced_append (balanced_wrap .lp .rp rfl rfl (balanced_cast ty k)) ih
    simpa only [print, List.cons_append, List.append_assoc, List.singleton_append, List.nil_append] using this
  | index a i iha ihi => exact balanced_append iha (balanced_wrap .lb .rb rfl rfl ihi)
  | member a m ih => exact balanced_append ih (balanced_cons rfl rfl (balanced_cons rfl rfl rfl))
  | call0 f v => exact balanced_cons (fname_flat f v).1 (fname_flat f v).2.1 (balanced_wrap (b := []) .lp .rp rfl rfl rfl)
  | call f v a ih => exact balanced_cons (fname_flat f v).1 (fname_flat f v).2.1 (balanced_wrap .lp .rp rfl rfl ih)

theorem scanQ_congr {pd dp : Nat} {nd nd' : Bool} {off off' : Nat} {l : List Tok} (hn : nd = nd') (ho : off = off') :
    scanQ pd dp nd off l = scanQ pd dp nd' off' l := by rw [hn, ho]

/-- inside a bracket group the scan only counts brackets -/
theorem scanQ_inside (b r : List Tok) (k k2 dp : Nat) (nd : Bool) (off : Nat) (h : balAux k b = some k2) :
    scanQ (k + 1) dp nd off (b ++ r) = scanQ (k2 + 1) dp nd (off + b.length) r := by
  refine balAux_induct (P := fun k b k2 => ∀ off, scanQ (k + 1) dp nd off (b ++ r) = scanQ (k2 + 1) dp nd (off + b.length) r)
    ?_ ?_ ?_ ?_ b k k2 h off
  · intro k off; rfl
  · intro t b k k2 ho ih off
    simp only [List.cons_append, scanQ, ho, if_true, List.length_cons]
    rw [ih]; exact scanQ_congr rfl (by omega)
  · intro t b k k2 ho hc ih off
    simp only [List.cons_append, scanQ, ho, hc, Bool.false_eq_true, if_false, if_true, List.length_cons]
    rw [ih]; exact scanQ_congr rfl (by omega)
  · intro t b k k2 ho hc ih off
    simp only [List.cons_append, scanQ, ho, hc, Bool.false_eq_true, if_false, List.length_cons]
    rw [ih]; exact scanQ_congr rfl (by omega)

theorem scanQ_wrap (o c : Tok) (ho : o.isOpener = true) (hc : c.isCloser = true) (b r : List Tok) (hb : Balanced b)
    (dp : Nat) (nd : Bool) (off : Nat) :
    scanQ 0 dp nd off (o :: (b ++ c :: r)) = scanQ 0 dp nd (off + b.length + 2) r := by
  simp only [scanQ, ho, if_true]
  rw [scanQ_inside b (c :: r) 0 0 dp nd (off + 1) hb]
  simp only [scanQ, not_opener_of_closer hc, hc, if_true, Bool.false_eq_true, if_false]
  exact scanQ_congr rfl (by omega)

theorem scanQ_op (s : Wire.Str) (h : okOpStr s = true) (r : List Tok) (dp : Nat) (nd : Bool) (off : Nat) :
    scanQ 0 dp nd off (Tok.op s :: r) = scanQ 0 dp (nd || !(s != [','] && s != ['<'] && s != ['?'])) (off + 1) r := by
  simp only [okOpStr, Bool.and_eq_true, bne_iff_ne, ne_eq] at h
  obtain ⟨⟨h1, h2⟩, h3⟩ := h
  simp only [scanQ, Tok.isOpener, Tok.isCloser, Tok.op.injEq, h1, h2, h3, Bool.false_eq_true, if_false, Bool.or_false]
  by_cases hc : s = [',']
  · subst hc; simp
  · by_cases hl : s = ['<']
    · subst hl; simp
    · simp only [hc, hl, if_false]
      exact scanQ_congr (by simp [hc, hl, h1]) rfl

theorem scanQ_quest (r : List Tok) (dp : Nat) (nd : Bool) (off : Nat) :
    scanQ 0 dp nd off (Tok.op ['?'] :: r) = scanQ 0 (dp + 1) true (off + 1) r := rfl

theorem scanQ_colon (r : List Tok) (dp : Nat) (nd : Bool) (off : Nat) :
    scanQ 0 (dp + 1) nd off (Tok.op [':'] :: r) = scanQ 0 dp nd (off + 1) r := rfl

theorem scanQ_atom (t : Tok) (ho : t.isOpener = false) (hc : t.isCloser = false) (hop : ∀ s, t ≠ Tok.op s)
    (r : List Tok) (dp : Nat) (nd : Bool) (off : Nat) :
    scanQ 0 dp nd off (t :: r) = scanQ 0 dp nd (off + 1) r := by
  simp only [scanQ, ho, hc, hop, Bool.false_eq_true, if_false, Bool.or_false, decide_false]

/-- scanning across a printed tree: only `parenthesesNeeded` can change -/
theorem scanQ_print : ∀ (e : PExpr), plain e = true → ∀ (r : List Tok) (dp : Nat) (nd : Bool) (off : Nat),
    scanQ 0 dp nd off (print e ++ r) = scanQ 0 dp (nd || !topFree e) (off + (print e).length) r := by
  intro e
  induction e with
  | var s | num s =>
    intro _ r dp nd off
    simpa [print, topFree] using scanQ_atom _ rfl rfl (fun _ h => Tok.noConfusion h) r dp nd off
  | paren e ih =>
    intro _ r dp nd off
    simp only [print, topFree, List.cons_append, List.append_assoc]
    rw [scanQ_wrap .lp .rp rfl rfl _ _ (balanced_print e)]
    exact scanQ_congr (by simp) (by simp; omega)
  | bin op l r ihl ihr =>
    intro hp rest dp nd off
    simp only [plain, Bool.and_eq_true] at hp
    simp only [print, topFree, List.append_assoc, List.cons_append]
    rw [ihl hp.1.2, scanQ_op op hp.1.1, ihr hp.2]
    refine scanQ_congr ?_ (by simp only [List.length_append, List.length_cons]; omega)
    simp only [Bool.not_and]; ac_rfl
  | tern c t e ihc iht ihe =>
    intro hp rest dp nd off
    simp only [plain, Bool.and_eq_true] at hp
    simp only [print, topFree, List.append_assoc, List.cons_append]
    rw [ihc hp.1.1, scanQ_quest, iht hp.1.2, scanQ_colon, ihe hp.2]
    exact scanQ_congr (by simp) (by simp only [List.length_append, List.length_cons]; omega)
  | pre op e ih =>
    intro hp rest dp nd off
    simp only [plain, Bool.and_eq_true] at hp
    simp only [print, topFree, List.cons_append]
    rw [scanQ_op op hp.1, ih hp.2]
    refine scanQ_congr ?_ (by simp only [List.length_cons]; omega)
    simp only [Bool.not_and]; ac_rfl
  | post op e ih =>
    intro hp rest dp nd off
    simp only [plain, Bool.and_eq_true] at hp
    simp only [print, topFree, List.append_assoc, List.singleton_append]
    rw [ih hp.2, scanQ_op op hp.1]
    refine scanQ_congr ?_ (by simp only [List.length_append, List.length_cons, List.length_nil]; omega)
    simp only [Bool.not_and]; ac_rfl
  | cast ty k e ih =>
    intro hp rest dp nd off
    simp only [plain] at hp
    simp only [print, topFree, List.cons_append, List.append_assoc]
    have := scanQ_wrap .lp .rp rfl rfl _ (print e ++ rest) (balanced_cast ty k) dp nd off
    simp only [List.append_assoc] at this
    rw [this, ih hp]
    exact scanQ_congr rfl (by simp only [List.length_cons, List.length_append, List.length_map, List.length_replicate]; omega)
  | index a i iha ihi =>
    intro hp rest dp nd off
    simp only [plain, Bool.and_eq_true] at hp
    simp only [print, topFree, List.append_assoc, List.cons_append]
    rw [iha hp.1, scanQ_wrap .lb .rb rfl rfl _ _ (balanced_print i)]
    exact scanQ_congr rfl (by simp only [List.length_append, List.length_cons, List.length_nil]; omega)
  | member a m ih =>
    intro hp rest dp nd off
    simp only [plain] at hp
    simp only [print, topFree, List.append_assoc, List.cons_append, List.nil_append]
    rw [ih hp, scanQ_op ['.'] (by decide), scanQ_atom _ rfl rfl (fun _ h => Tok.noConfusion h)]
    exact scanQ_congr (by simp) (by simp only [List.length_append, List.length_cons, List.length_nil]; omega)
  | call0 f v =>
    intro _ rest dp nd off
    simp only [print, topFree, List.cons_append, List.nil_append]
    rw [scanQ_atom _ (fname_flat f v).1 (fname_flat f v).2.1 (fname_flat f v).2.2]
    have := scanQ_wrap .lp .rp rfl rfl [] rest rfl dp nd (off + 1)
    simp only [List.nil_append, List.length_nil] at this
    rw [this]; exact scanQ_congr (by simp) (by simp)
  | call f v a ih =>
    intro _ rest dp nd off
    simp only [print, topFree, List.cons_append, List.append_assoc]
    rw [scanQ_atom _ (fname_flat f v).1 (fname_flat f v).2.1 (fname_flat f v).2.2, scanQ_wrap .lp .rp rfl rfl _ _ (balanced_print a)]
    simp
    congr 1
    omega

theorem prep_cons_ne (t : Tok) (h : t ≠ Tok.op ['?']) (r : List Tok) : prep (t :: r) = t :: prep r := by
  rw [prep.eq_2]; simp [h]   -- `eq_2`: the `cons` arm of `prep` (the numbers follow the arms of the model definition)

theorem okOpStr_ne_quest {s : Wire.Str} (h : okOpStr s = true) : s ≠ ['?'] := by
  simp only [okOpStr, Bool.and_eq_true, bne_iff_ne, ne_eq] at h; exact h.1.1

theorem prep_flat_append (a : List Tok) (h : ∀ t ∈ a, t ≠ Tok.op ['?']) (r : List Tok) : prep (a ++ r) = a ++ prep r := by
  induction a with
  | nil => rfl
  | cons x xs ih =>
    rw [List.cons_append, prep_cons_ne _ (h x (by simp)), ih (fun t ht => h t (by simp [ht]))]; rfl

theorem insertAt_append (a b : List Tok) (x : Tok) : insertAt a.length x (a ++ b) = a ++ x :: b := by
  simp [insertAt]

theorem topFree_prepE (e : PExpr) : topFree (prepE e) = topFree e := by
  induction e <;> simp only [prepE, topFree, *]

/-- prepareTernaryOpForAST on a printed tree parenthesises the non-`topFree` middle operands -/
theorem prep_print : ∀ (e : PExpr), plain e = true → ∀ (r : List Tok),
    prep (print e ++ r) = print (prepE e) ++ prep r := by
  intro e
  induction e with
  | var s | num s => intro _ r; simp [print, prepE, prep_cons_ne]
  | paren e ih =>
    intro hp r
    simp only [plain] at hp
    simp only [print, prepE, List.cons_append, List.append_assoc]
    rw [prep_cons_ne _ (by simp), ih hp, prep_cons_ne _ (by simp)]
    simp
  | bin op l r ihl ihr =>
    intro hp rest
    simp only [plain, Bool.and_eq_true] at hp
    simp only [print, prepE, List.append_assoc, List.cons_append]
    rw [ihl hp.1.2, prep_cons_ne _ (by simp [okOpStr_ne_quest hp.1.1]), ihr hp.2]
  | tern c t e ihc iht ihe =>
    intro hp rest
    simp only [plain, Bool.and_eq_true] at hp
    simp only [print, prepE, List.append_assoc, List.cons_append]
    rw [ihc hp.1.1, prep.eq_2]
    simp only [if_true]
    rw [scanQ_print t hp.1.2]
    simp only [scanQ, Tok.isOpener, Bool.false_eq_true, if_false, if_true, Bool.false_or, Nat.zero_add]
    cases htf : topFree t with
    | true =>
      simp only [Bool.not_true, if_true]
      rw [iht hp.1.2, prep_cons_ne _ (by simp), ihe hp.2]
    | false =>
      simp only [Bool.not_false, Bool.false_eq_true, if_false]
      rw [insertAt_append, prep_cons_ne _ (by simp), iht hp.1.2, prep_cons_ne _ (by simp), prep_cons_ne _ (by simp), ihe hp.2]
      simp [print]
  | pre op e ih =>
    intro hp rest
    simp only [plain, Bool.and_eq_true] at hp
    simp only [print, prepE, List.cons_append]
    rw [prep_cons_ne _ (by simp [okOpStr_ne_quest hp.1]), ih hp.2]
  | post op e ih =>
    intro hp rest
    simp only [plain, Bool.and_eq_true] at hp
    simp only [print, prepE, List.append_assoc, List.singleton_append]
    rw [ih hp.2, prep_cons_ne _ (by simp [okOpStr_ne_quest hp.1])]
  | cast ty k e ih =>
    intro hp rest
    simp only [plain] at hp
    simp only [print, prepE, List.cons_append, List.append_assoc]
    rw [prep_cons_ne _ (by simp)]
    rw [prep_flat_append _ (by
      intro t ht
      simp only [List.mem_map] at ht
      obtain ⟨s, _, rfl⟩ := ht
      simp)]
    rw [prep_flat_append _ (by
      intro t ht
      simp only [List.mem_replicate] at ht
      rw [ht.2]
      simp)]
    rw [prep_cons_ne _ (by simp), ih hp]
  | index a i iha ihi =>
    intro hp rest
    simp only [plain, Bool.and_eq_true] at hp
    simp only [print, prepE, List.append_assoc, List.cons_append]
    rw [iha hp.1, prep_cons_ne _ (by simp), ihi hp.2, prep_cons_ne _ (by simp)]
    simp
  | member a m ih =>
    intro hp rest
    simp only [plain] at hp
    simp only [print, prepE, List.append_assoc, List.cons_append, List.nil_append]
    rw [ih hp, prep_cons_ne _ (by simp), prep_cons_ne _ (by simp)]
  | call0 f v =>
    intro _ rest
    simp only [print, prepE, List.cons_append, List.nil_append]
    rw [prep_cons_ne _ ((fname_flat f v).2.2 _), prep_cons_ne _ (by simp), prep_cons_ne _ (by simp)]
  | call f v a ih =>
    intro hp rest
    simp only [plain] at hp
    simp only [print, prepE, List.cons_append, List.append_assoc]
    rw [prep_cons_ne _ ((fname_flat f v).2.2 _), prep_cons_ne _ (by simp), ih hp, prep_cons_ne _ (by simp)]
    simp

theorem prep_flat (rest : List Tok) (h : ∀ t ∈ rest, t ≠ Tok.op ['?']) : prep rest = rest := by
  simpa [prep.eq_1] using prep_flat_append rest h []

theorem plain_prepE (e : PExpr) : plain (prepE e) = plain e := by
  induction e with
  | tern c t e ihc iht ihe => simp only [prepE]; split <;> simp only [plain, ihc, iht, ihe]
  | _ => simp only [prepE, plain, *]

theorem prepE_idem (e : PExpr) : prepE (prepE e) = prepE e := by
  induction e with
  | tern c t e ihc iht ihe =>
    cases h : topFree t with
    | true => simp [prepE, h, topFree_prepE, ihc, iht, ihe]
    | false => simp [prepE, h, topFree, ihc, iht, ihe]
  | _ => simp only [prepE, *]

/-- the pass runs twice in simplifyTokenList1; the second run changes nothing -/
theorem prep_prep_append (e : PExpr) (h : plain e = true) (rest : List Tok) (hq : ∀ t ∈ rest, t ≠ Tok.op ['?']) :
    prep (prep (print e ++ rest)) = print (prepE e) ++ rest := by
  rw [prep_print e h, prep_flat rest hq, prep_print (prepE e) (by rw [plain_prepE]; exact h), prep_flat rest hq, prepE_idem]

theorem prep_prep_print (e : PExpr) (h : plain e = true) : prep (prep (print e)) = print (prepE e) := by
  simpa using prep_prep_append e h [] (fun _ h => nomatch h)

/-- level `lv` does not continue at `rest` when `state.assign = a` -/
def LvStop (cpp : Bool) (lv : Level) (a : Nat) (rest : List Tok) : Prop :=
  lv.step cpp rest = .stop ∧
  (lv.kind = .assignTernary → rest.head? ≠ some (.op ['?']) ∧ (rest.head? = some (.op [':']) → a > 0))

/-- compileAssignTernary would not continue with an assignment operator or `?` -/
def NoRA (cpp : Bool) (lv : Level) (rest : List Tok) : Prop :=
  lv.step cpp rest = .stop ∧ rest.head? ≠ some (Tok.op ['?'])

theorem LvStop.weaken {cpp : Bool} {lv : Level} {rest : List Tok} (h : LvStop cpp lv 0 rest) (a : Nat) : LvStop cpp lv a rest := by
  refine ⟨h.1, fun hk => ⟨(h.2 hk).1, fun hc => ?_⟩⟩
  exact absurd ((h.2 hk).2 hc) (by omega)

theorem LvStop.noRA {cpp : Bool} {lv : Level} {rest : List Tok} {a : Nat} (h : LvStop cpp lv a rest) (hk : lv.kind = .assignTernary) :
    NoRA cpp lv rest := ⟨h.1, (h.2 hk).1⟩

theorem lvstop_nonop (cpp : Bool) (lv : Level) (a : Nat) (t : Tok) (r : List Tok) (h : ∀ s, t ≠ Tok.op s) : LvStop cpp lv a (t :: r) := by
  constructor
  · unfold Level.step; cases t <;> simp_all
  · intro _; constructor
    · simp only [List.head?_cons, ne_eq, Option.some.injEq]; exact h _
    · intro hc; simp only [List.head?_cons, Option.some.injEq] at hc; exact absurd hc (h _)

theorem lvstop_other_op (cpp : Bool) (lv' : Level) (op : Wire.Str) (r : List Tok) (hnone : lookupOp op lv'.ops = none)
    (h1 : op ≠ ['?']) (h2 : op ≠ [':']) (a : Nat) : LvStop cpp lv' a (Tok.op op :: r) := by
  constructor
  · simp [Level.step, hnone]
  · intro _
    constructor
    · simp [h1]
    · intro hc; simp at hc; exact absurd hc h2

theorem next_inp {st : St} {t : Tok} {r : List Tok} (h : st.inp = t :: r) : st.next.inp = r := by
  simp [St.next, h]

theorem next_pre {st : St} {t : Tok} {r : List Tok} (h : st.inp = t :: r) : st.next.pre = t :: st.pre := by
  simp [St.next, h]

theorem next_stk (st : St) : st.next.stk = st.stk := by
  unfold St.next; split <;> rfl

theorem next_assign (st : St) : st.next.assign = st.assign := by
  unfold St.next; split <;> rfl

/-- the state after `e` has been parsed -/
def done (e : PExpr) (pre rest : List Tok) (stk : List Entry) (a : Nat) : St :=
  ⟨(print e).reverse ++ pre, rest, ⟨pre.length + rootOff e, toAst e⟩ :: stk, a⟩

theorem len_le_append (a b : List Tok) : b.length ≤ (a ++ b).length := by
  rw [List.length_append]; omega

theorem print_isEmpty (e : PExpr) (rest : List Tok) : (print e ++ rest).isEmpty = false := by
  cases e <;> simp [print]

section Generic
/- `prim`: the parser of the operand level below the ladder (compilePrecedence3, `p3`), arbitrary here -/
variable (M : Nat) (cpp : Bool) (prim : Nat → St → R)

/-- the loop of the topmost level of `ls`, entered once an operand is on the stack -/
def K : List Level → Nat → St → R
  | [], _, st => .ok st
  | lv :: below, d, st =>
    match lv.kind with
    | .left => loopLeft M cpp lv (ladder M cpp prim below) d st
    | .assignTernary => assignTern M cpp lv (ladder M cpp prim below) false d st

theorem ladder_nil (d : Nat) (st : St) : ladder M cpp prim [] d st = prim d st := by
  rw [ladder]

theorem ladder_cons_left {lv : Level} (ls : List Level) (h : lv.kind = .left) (d : Nat) (st : St) :
    ladder M cpp prim (lv :: ls) d st =
      match ladder M cpp prim ls d st with
      | .error e => .error e
      | .ok st1 => loopLeft M cpp lv (ladder M cpp prim ls) d st1 := by
  rw [ladder]; simp only [h]
  cases ladder M cpp prim ls d st <;> rfl

theorem ladder_cons_at {lv : Level} (ls : List Level) (h : lv.kind = .assignTernary) (d : Nat) (st : St) :
    ladder M cpp prim (lv :: ls) d st = assignTern M cpp lv (ladder M cpp prim ls) true d st := by
  rw [ladder]; simp only [h]

theorem K_stop {lv : Level} (below : List Level) (d : Nat) (st : St) (h : LvStop cpp lv st.assign st.inp) :
    K M cpp prim (lv :: below) d st = .ok st := by
  cases hk : lv.kind with
  | left => simp only [K, hk]; rw [loopLeft.eq_1, h.1]
  | assignTernary =>
    simp only [K, hk]
    rw [assignTern.eq_1]
    simp only [Bool.false_eq_true, if_false]
    have h2 := h.2 hk
    cases hi : st.inp with
    | nil => rfl
    | cons t rest =>
      simp only
      rw [← hi, h.1]
      simp only
      rw [hi] at h2
      simp only [List.head?_cons, ne_eq, Option.some.injEq] at h2
      simp only [h2.1, if_false]
      by_cases hc : t = Tok.op [':']
      · simp only [hc, if_true]
        have := h2.2 hc
        simp [this]
      · simp [hc]

theorem K_done (ls : List Level) (d : Nat) (st : St) (h : ∀ lv ∈ ls.head?, LvStop cpp lv st.assign st.inp) :
    K M cpp prim ls d st = .ok st := by
  cases ls with
  | nil => rfl
  | cons lv below => exact K_stop _ _ _ below d st (h lv rfl)

theorem descend {a0 : Level} (more : List Level) (d : Nat) (st0 st' : St)
    (hsub : ladder M cpp prim more d st0 = .ok st') (hlen : st'.inp.length ≤ st0.inp.length) :
    ladder M cpp prim (a0 :: more) d st0 = K M cpp prim (a0 :: more) d st' := by
  cases hk : a0.kind with
  | left => simp only [K, hk]; rw [ladder_cons_left M cpp prim more hk, hsub]
  | assignTernary =>
    simp only [K, hk]
    rw [ladder_cons_at M cpp prim more hk, assignTern.eq_1]
    simp only [if_true, hsub, hlen]

/-- the loop of `lv`, entered with `state.assign = a`, takes `s` in front of `r`; the right operand is parsed at `rs` with `state.assign = a'` -/
inductive Takes (lv : Level) (below : List Level) (a : Nat) (r : List Tok) : Wire.Str → List Level → Nat → Prop
  | left {s} : lv.kind = .left → lv.step cpp (.op s :: r) = .take s → Takes lv below a r s below a
  | assign {s} : lv.kind = .assignTernary → lv.step cpp (.op s :: r) = .take s → Takes lv below a r s (lv :: below) (a + 1)
  | quest : lv.kind = .assignTernary → lv.step cpp (.op ['?'] :: r) = .stop → r.head? ≠ some (.op [':']) →
      Takes lv below a r ['?'] (lv :: below) 0
  | colon : lv.kind = .assignTernary → lv.step cpp (.op [':'] :: r) = .stop → a = 0 → Takes lv below a r [':'] (lv :: below) 0

theorem K_take {lv : Level} {below rs : List Level} {s : Wire.Str} {r : List Tok} {a a' : Nat} (d : Nat) (pre : List Tok)
    (stk : List Entry) (st2 : St) (ht : Takes cpp lv below a r s rs a') (hd : d + 1 ≤ M) (hne : r.isEmpty = false)
    (h2 : ladder M cpp prim rs (d + 1) ⟨.op s :: pre, r, stk, a'⟩ = .ok st2)
    (hlen : st2.inp.length < r.length + 1) (ha : st2.assign = a') :
    K M cpp prim (lv :: below) d ⟨pre, .op s :: r, stk, a⟩ =
      K M cpp prim (lv :: below) d { st2 with stk := combine2 s pre.length st2.stk, assign := a } := by
  -- one round of the loop in each case: `binopWith` runs the right operand (`h2`), the progress test is `hlen`, `ha` restores `assign`
  cases ht with
  | left hk hstep =>
    simp only [K, hk]
    conv => lhs; rw [loopLeft.eq_1]
    simp only [hstep, binopWith, St.next, St.pos, Nat.not_lt.mpr hd, if_false, hne, Bool.false_eq_true, h2, List.length_cons,
      hlen, if_true, ha]
  | assign hk hstep =>
    rw [ladder_cons_at M cpp prim below hk] at h2
    simp only [K, hk]
    conv => lhs; rw [assignTern.eq_1]
    simp only [Bool.false_eq_true, if_false, hstep, binopWith, St.next, St.pos, Nat.not_lt.mpr hd, hne, List.length_cons, Nat.lt_succ_self,
      if_true, h2, hlen, ha, Nat.add_sub_cancel]
  | quest hk hstep hcolon =>
    rw [ladder_cons_at M cpp prim below hk] at h2
    simp only [K, hk]
    conv => lhs; rw [assignTern.eq_1]
    simp only [Bool.false_eq_true, if_false, hstep, hcolon, binopWith, St.next, St.pos, Nat.not_lt.mpr hd, hne, List.length_cons, Nat.lt_succ_self,
      if_true, h2, hlen]
  | colon hk hstep ha0 =>
    subst ha0
    rw [ladder_cons_at M cpp prim below hk] at h2
    simp only [K, hk]
    conv => lhs; rw [assignTern.eq_1]
    simp only [Bool.false_eq_true, if_false, hstep, binopWith, St.next, St.pos, Nat.not_lt.mpr hd, hne, List.length_cons, Nat.lt_succ_self,
      if_true, h2, hlen, Tok.op.injEq, List.cons.injEq, Char.reduceEq, and_true, Nat.lt_irrefl, gt_iff_lt, id, ha]

theorem K_bin {lv : Level} {below rs : List Level} (l r : PExpr) (s : Wire.Str) (a a' d : Nat)
    (pre rest : List Tok) (stk : List Entry)
    (ht : Takes cpp lv below a (print r ++ rest) s rs a') (hd : d + 1 ≤ M)
    (hR : ladder M cpp prim rs (d + 1)
        ⟨Tok.op s :: ((print l).reverse ++ pre), print r ++ rest, ⟨pre.length + rootOff l, toAst l⟩ :: stk, a'⟩ =
      .ok (done r (Tok.op s :: ((print l).reverse ++ pre)) rest (⟨pre.length + rootOff l, toAst l⟩ :: stk) a')) :
    K M cpp prim (lv :: below) d (done l pre (Tok.op s :: (print r ++ rest)) stk a) =
      K M cpp prim (lv :: below) d (done (bin s l r) pre rest stk a) := by
  unfold done
  rw [K_take M cpp prim d _ _ _ ht hd (print_isEmpty r rest) hR (Nat.lt_succ_of_le (len_le_append (print r) rest)) rfl]
  simp only [done, combine2, print, rootOff, toAst, List.reverse_append, List.reverse_cons, List.append_assoc,
    List.cons_append, List.nil_append, List.length_append, List.length_reverse]
  rw [Nat.add_comm (print l).length]

/-- above an operand behind which every level stops the ladder does nothing -/
theorem ladder_of_prim (d : Nat) (st st1 : St) (hp : prim d st = .ok st1) (hl : st1.inp.length ≤ st.inp.length) :
    ∀ ls : List Level, (∀ lv ∈ ls, LvStop cpp lv st1.assign st1.inp) → ladder M cpp prim ls d st = .ok st1 := by
  intro ls
  induction ls with
  | nil => intro _; rw [ladder_nil]; exact hp
  | cons lv below ih =>
    intro h
    rw [descend _ _ _ below d st st1 (ih (fun x hx => h x (List.mem_cons_of_mem _ hx))) hl]
    exact K_stop _ _ _ below d st1 (h lv (by simp))

/-- the ladder sees its first state only through `prim` and the progress test -/
theorem ladder_congr_first (d : Nat) (st st' : St)
    (hp : ∀ r, prim d st' = .ok r → prim d st = .ok r) (hl : st'.inp.length ≤ st.inp.length) :
    ∀ (ls : List Level) (r : St), ladder M cpp prim ls d st' = .ok r → ladder M cpp prim ls d st = .ok r := by
  intro ls
  induction ls with
  | nil => intro r h; rw [ladder_nil] at h ⊢; exact hp r h
  | cons lv below ih =>
    intro r h
    cases hk : lv.kind with
    | left =>
      rw [ladder_cons_left M cpp prim below hk] at h ⊢
      cases hb : ladder M cpp prim below d st' with
      | error e => rw [hb] at h; simp at h
      | ok r1 => rw [hb] at h; rw [ih r1 hb]; exact h
    | assignTernary =>
      rw [ladder_cons_at M cpp prim below hk, assignTern.eq_1] at h ⊢
      simp only [if_true] at h ⊢
      cases hb : ladder M cpp prim below d st' with
      | error e => rw [hb] at h; simp at h
      | ok r1 =>
        rw [hb] at h
        rw [ih r1 hb]
        simp only at h ⊢
        by_cases hc : r1.inp.length ≤ st'.inp.length
        · simp only [hc, if_true] at h
          simp only [show r1.inp.length ≤ st.inp.length by omega, if_true]
          exact h
        · simp [hc] at h

end Generic

end Cppcheck.AstLadder
