import Cppcheck.Proofs.CtuRoundtrip
/-
C22 — the cache file around the summaries, the handler of `analyseWholeProgram(buildDir)` on what is read from it, and
the whole-program input of the two modes.
-/
namespace Cppcheck.Ctu
open Cppcheck.Wire

def infoElem (check : Str) (es : List Elem) : Elem := .mk "FileInfo".toList [("check".toList, check)] es

/-- a summary as `setFileInfo` gets it (check name and text), together with the elements its text stands for -/
structure Info where
  check : Str
  text : Str
  elems : List Elem

namespace Info

abbrev Ok (h : Nat) (x : Info) : Prop := RawSafe x.check = true ∧ Renders h x.text x.elems

def pair (x : Info) : Str × Str := (x.check, x.text)

def entry (x : Info) : Str × Elem := (x.check, infoElem x.check x.elems)

/-- what is in the file: `setFileInfo` writes no element for an empty text -/
def kids (x : Info) : List (Str × Elem) := if x.text = [] then [] else [x.entry]

end Info

def infoElems (infos : List Info) : List Elem := infos.flatMap fun x => x.kids.map (·.2)

theorem attrsOK_single (n : Str) (v : Str) (hn : NamesOK [n] = true) (hv : Clean v) : AttrsOK [(n, v)] = true :=
  attrsOK_zip [n] [v] hn (by simpa using hv)

theorem fileInfoElem_renders {h : Nat} (x : Info) (hx : x.Ok h) :
    Renders (h + 1) (fileInfoElem x.check x.text) (x.kids.map (·.2)) := by
  unfold fileInfoElem Info.kids
  split
  · exact renders_nil _
  · have := renders_wrap (ws := "  ".toList) (name := "FileInfo".toList) (ws1 := "\n".toList) (ws2 := "  ".toList) (ws3 := "\n".toList)
      [("check".toList, x.check)] (by decide +kernel) (by decide) (by decide) (by decide)
      (attrsOK_single _ _ (by decide +kernel) (clean_raw _ hx.1)) hx.2
    rw [show "  <FileInfo check=\"".toList = "  ".toList ++ '<' :: ("FileInfo".toList ++ ' ' :: ("check".toList ++ ['=', '"'])) by simp,
      show "\">\n".toList = '"' :: '>' :: "\n".toList by simp,
      show "  </FileInfo>\n".toList = "  ".toList ++ '<' :: '/' :: ("FileInfo".toList ++ '>' :: "\n".toList) by simp]
    simpa [headText, renderAttrs, infoElem, Info.entry] using this

theorem fileInfoElems_renders {h : Nat} (infos : List Info) (hi : ∀ x ∈ infos, x.Ok h) :
    Renders (h + 1) (fileInfoElems (infos.map Info.pair)) (infoElems infos) :=
  renders_flatMap (str := fun l => fileInfoElems (l.map Info.pair)) rfl (fun _ _ => rfl) infos fun x hx =>
    fileInfoElem_renders x (hi x hx)

theorem splitDeclEnd_append (pre rest : Str) (h : '?' ∉ pre) : splitDeclEnd (pre ++ '?' :: '>' :: rest) = some rest := by
  induction pre with
  | nil => simp [splitDeclEnd]
  | cons a t ih =>
    have ha : a ≠ '?' := fun e => h (by simp [e])
    have ht : '?' ∉ t := fun e => h (by simp [e])
    simp [splitDeclEnd, ha, ih ht]

-- `h + 4`: the `<analyzerinfo>` root and the `<FileInfo>` elements lie above forests of height `h`; `parseDoc_root` wants `h + 2 < 500`
theorem storeFile_parse {h : Nat} (hash : Nat) (infos : List Info) (hi : ∀ x ∈ infos, x.Ok h) (hh : h + 4 < 500) :
    parseDoc (storeFile hash (infos.map Info.pair))
      = .ok [Elem.mk "analyzerinfo".toList [("hash".toList, showNat hash)] (infoElems infos)] := by
  have hroot := renders_wrap (ws := []) (name := "analyzerinfo".toList) (ws1 := "\n".toList) (ws2 := []) (ws3 := [])
    [("hash".toList, showNat hash)] (by decide +kernel) (by decide) (by decide) (by decide)
    (attrsOK_single _ _ (by decide +kernel) (clean_nat _)) (fileInfoElems_renders infos hi)
  have e : storeFile hash (infos.map Info.pair)
      = '<' :: '?' :: ("xml version=\"1.0\"".toList ++ '?' :: '>' :: ("\n".toList ++
          ([] ++ headText "analyzerinfo".toList [("hash".toList, showNat hash)]
              ++ '>' :: ("\n".toList ++ fileInfoElems (infos.map Info.pair) ++ []
                ++ '<' :: '/' :: ("analyzerinfo".toList ++ '>' :: [])))
            ++ "\n".toList)) := by
    unfold storeFile headText
    rw [show "<?xml version=\"1.0\"?>\n".toList = '<' :: '?' :: ("xml version=\"1.0\"".toList ++ '?' :: '>' :: "\n".toList) by simp,
      show "<analyzerinfo hash=\"".toList = '<' :: ("analyzerinfo".toList ++ ' ' :: ("hash".toList ++ ['=', '"'])) by simp,
      show "\">\n".toList = '"' :: '>' :: "\n".toList by simp,
      show "</analyzerinfo>\n".toList = '<' :: '/' :: ("analyzerinfo".toList ++ '>' :: "\n".toList) by simp]
    simp only [renderAttrs, List.append_assoc, List.cons_append, List.nil_append, List.append_nil]
  rw [e]
  have nonul : ∀ root : Str, NUL ∉ root →
      NUL ∉ "xml version=\"1.0\"".toList ++ '?' :: '>' :: ("\n".toList ++ (root ++ "\n".toList)) := by
    intro root hr
    simp only [List.mem_append, List.mem_cons, not_or]
    exact ⟨by decide +kernel, by decide, by decide, by decide, hr, by decide⟩
  exact parseDoc_root _ "\n".toList _ "\n".toList _ (splitDeclEnd_append _ _ (by decide +kernel)) (nonul _ hroot.nonul)
    (by decide) (by decide) hroot (by omega)

theorem fileInfoKids_infoElems : ∀ (infos : List Info), (∀ x ∈ infos, RawSafe x.check = true) →
    fileInfoKids (infoElems infos) = infos.flatMap Info.kids := by
  intro infos
  induction infos with
  | nil => intro _; rfl
  | cons x r ih =>
    intro h
    have hx := h x (by simp)
    have hr := ih (fun y hy => h y (by simp [hy]))
    show fileInfoKids (x.kids.map (·.2) ++ infoElems r) = x.kids ++ r.flatMap Info.kids
    by_cases he : x.text = []
    · rw [Info.kids, if_pos he]
      exact hr
    · have hn : (infoElem x.check x.elems).name = "FileInfo".toList := rfl
      have ha : attrStr (infoElem x.check x.elems) "check" = some x.check := by
        rw [show attrStr (infoElem x.check x.elems) "check" = some (attrDecode x.check) from
          attrStr_zip (names := ["check".toList]) (vals := [x.check]) (by decide +kernel) _ _ 0 rfl rfl, attrDecode_rawSafe _ hx]
      rw [Info.kids, if_neg he]
      simp only [List.map_cons, List.map_nil, List.singleton_append, fileInfoKids, Info.entry, hn, ne_eq, not_true_eq_false,
        if_false, ha, hr]

theorem loadFile_storeFile (hash : Nat) (infos : List Info) (hi : ∀ x ∈ infos, x.Ok 1) :
    loadFile (storeFile hash (infos.map Info.pair)) = .ok (infos.flatMap Info.kids) := by
  unfold loadFile
  rw [storeFile_parse (h := 1) hash infos hi (by decide)]
  have hn : (Elem.mk "analyzerinfo".toList [("hash".toList, showNat hash)] (infoElems infos)).name = "analyzerinfo".toList := rfl
  simp only [hn, ne_eq, not_true_eq_false, if_false, Elem.kids]
  rw [fileInfoKids_infoElems _ (fun x hx => (hi x hx).1)]

theorem handleInfos_append (a b : List (Str × Elem)) (wp : WholeProgram) :
    handleInfos (a ++ b) wp = (handleInfos a wp).bind (handleInfos b) := by
  induction a generalizing wp with
  | nil => rfl
  | cons x r ih =>
    simp only [List.cons_append, handleInfos]
    cases handleInfo wp x with
    | none => rfl
    | some wp' => exact ih wp'

theorem checkKind_ctu : checkKind "ctu".toList = 0 := by decide +kernel
theorem checkKind_buffer : checkKind "Bounds checking".toList = 1 := by decide +kernel
theorem checkKind_class : checkKind "Class".toList = 2 := by decide +kernel
theorem checkKind_nullPointer : checkKind "Null pointer".toList = 3 := by decide +kernel
theorem checkKind_uninit : checkKind "Uninitialized variables".toList = 4 := by decide +kernel

theorem handleInfo_ctu (wp : WholeProgram) (e : Elem) :
    handleInfo wp ("ctu".toList, e) = some { wp with ctu := FileInfo.loadFromXml e wp.ctu } := by
  simp only [handleInfo, checkKind_ctu]

theorem handleInfo_buffer (wp : WholeProgram) (e : Elem) :
    handleInfo wp ("Bounds checking".toList, e) = (match BufferInfo.load e with
      | some b => some { wp with buffer := wp.buffer ++ [b] }
      | none => some wp) := by
  simp only [handleInfo, checkKind_buffer]
  cases BufferInfo.load e <;> rfl

theorem handleInfo_class (wp : WholeProgram) (e : Elem) :
    handleInfo wp ("Class".toList, e) = (match loadClassInfo e with
      | .value l => some { wp with classes := wp.classes ++ [l] }
      | .null => some wp
      | .threw => none) := by
  simp only [handleInfo, checkKind_class]
  cases loadClassInfo e <;> rfl

theorem handleInfo_nullPointer (wp : WholeProgram) (e : Elem) :
    handleInfo wp ("Null pointer".toList, e) = (match loadUnsafeInfo e with
      | some l => some { wp with nullPointer := wp.nullPointer ++ [l] }
      | none => some wp) := by
  simp only [handleInfo, checkKind_nullPointer]
  cases loadUnsafeInfo e <;> rfl

theorem handleInfo_uninit (wp : WholeProgram) (e : Elem) :
    handleInfo wp ("Uninitialized variables".toList, e) = (match loadUnsafeInfo e with
      | some l => some { wp with uninitVar := wp.uninitVar ++ [l] }
      | none => some wp) := by
  simp only [handleInfo, checkKind_uninit]
  cases loadUnsafeInfo e <;> rfl

theorem handleInfos_one (x : Str × Elem) (wp : WholeProgram) : handleInfos [x] wp = handleInfo wp x := by
  simp only [handleInfos]
  cases handleInfo wp x <;> rfl

theorem handleInfo_nokids (wp : WholeProgram) (c n : Str) (as : List (Str × Str)) : handleInfo wp (c, .mk n as []) = some wp := by
  unfold handleInfo
  split <;> rfl

/-- the in-memory run has a null pointer for an empty summary; a `<FileInfo>` without children adds nothing when handled -/
theorem handleInfos_kids_one {h : Nat} (x : Info) (r : Renders h x.text x.elems) (hh : h + 2 < 500) (wp : WholeProgram) :
    handleInfos x.kids wp = handleInfo wp x.entry := by
  unfold Info.kids
  split
  · rename_i he
    rw [he] at r
    rw [Info.entry, renders_empty r hh, infoElem, handleInfo_nokids]
    rfl
  · exact handleInfos_one _ _

theorem handleInfos_kids {h : Nat} (infos : List Info) (hi : ∀ x ∈ infos, x.Ok h) (hh : h + 2 < 500) (wp : WholeProgram) :
    handleInfos (infos.flatMap Info.kids) wp = handleInfos (infos.map Info.entry) wp := by
  induction infos generalizing wp with
  | nil => rfl
  | cons x r ih =>
    rw [List.flatMap_cons, handleInfos_append, handleInfos_kids_one x (hi x List.mem_cons_self).2 hh, List.map_cons, handleInfos]
    cases handleInfo wp x.entry with
    | none => rfl
    | some wp' => exact ih (fun y hy => hi y (List.mem_cons_of_mem _ hy)) wp'

theorem fromBuildDir_storeFile (hash : Nat) (infos : List Info) (hi : ∀ x ∈ infos, x.Ok 1) (r : List Str) (wp : WholeProgram) :
    fromBuildDir (storeFile hash (infos.map Info.pair) :: r) wp = (handleInfos (infos.map Info.entry) wp).bind (fromBuildDir r) := by
  simp only [fromBuildDir, loadFile_storeFile hash infos hi, handleInfos_kids infos hi (by decide)]
  cases handleInfos (infos.map Info.entry) wp <;> rfl

def TUSummary.Ok (simp : Str → Str) (t : TUSummary) : Bool :=
  t.ctu.Ok simp && t.buffer.Ok && t.classes.all ClassDef.Ok && t.nullPointer.all UnsafeUsage.Ok && t.uninitVar.all UnsafeUsage.Ok

def TUSummary.fiveInfos (simp : Str → Str) (t : TUSummary) : List Info :=
  [⟨"ctu".toList, t.ctu.toStr simp, t.ctu.functionCalls.map (fcElem simp) ++ t.ctu.nestedCalls.map (ncElem "nested-call")⟩,
   ⟨"Bounds checking".toList, t.buffer.toStr, bufferElems t.buffer⟩,
   ⟨"Class".toList, classListStr t.classes, t.classes.map cdElem⟩,
   ⟨"Null pointer".toList, unsafeListStr t.nullPointer, t.nullPointer.map uuElem⟩,
   ⟨"Uninitialized variables".toList, unsafeListStr t.uninitVar, t.uninitVar.map uuElem⟩]

theorem fiveInfos_renders (simp : Str → Str) (t : TUSummary) (h : t.Ok simp = true) : ∀ x ∈ t.fiveInfos simp, x.Ok 1 := by
  simp only [TUSummary.Ok, Bool.and_eq_true] at h
  obtain ⟨⟨⟨⟨hctu, hbuf⟩, hcls⟩, hnp⟩, hun⟩ := h
  simp only [Info.Ok, TUSummary.fiveInfos, List.forall_mem_cons, List.not_mem_nil, false_imp_iff, implies_true, and_true]
  exact ⟨⟨by decide +kernel, fileInfo_renders simp "nested-call" (by decide +kernel) t.ctu hctu⟩,
    ⟨by decide +kernel, buffer_renders t.buffer hbuf⟩,
    ⟨by decide +kernel, renders_mono (by decide) (classList_renders t.classes)⟩,
    ⟨by decide +kernel, renders_mono (by decide) (unsafeList_renders _ hnp)⟩,
    ⟨by decide +kernel, renders_mono (by decide) (unsafeList_renders _ hun)⟩⟩

theorem handle_ctu (simp : Str → Str) (fi : FileInfo) (h : fi.Ok simp = true) (wp : WholeProgram) :
    handleInfo wp ("ctu".toList, infoElem "ctu".toList (fi.functionCalls.map (fcElem simp) ++ fi.nestedCalls.map (ncElem "nested-call")))
      = some { wp with ctu := ⟨wp.ctu.functionCalls ++ fi.functionCalls, wp.ctu.nestedCalls ++ fi.nestedCalls⟩ } := by
  simp only [FileInfo.Ok, Bool.and_eq_true] at h
  simp only [handleInfo_ctu, FileInfo.loadFromXml, infoElem, Elem.kids, loadCalls_append, loadCalls_fcs simp _ _ h.1, loadCalls_ncs _ _ h.2]

theorem handle_buffer (b : BufferInfo) (h : b.Ok = true) (wp : WholeProgram) :
    handleInfo wp ("Bounds checking".toList, infoElem "Bounds checking".toList (bufferElems b))
      = some { wp with buffer := if b.arrayIndex = [] ∧ b.pointerArith = [] then wp.buffer else wp.buffer ++ [b] } := by
  rw [infoElem, handleInfo_buffer, buffer_load b h]
  by_cases hb : b.arrayIndex = [] ∧ b.pointerArith = [] <;> simp [hb]

theorem handle_class (l : List ClassDef) (h : l.all ClassDef.Ok = true) (wp : WholeProgram) :
    handleInfo wp ("Class".toList, infoElem "Class".toList (l.map cdElem))
      = some { wp with classes := if l = [] then wp.classes else wp.classes ++ [l] } := by
  rw [infoElem, handleInfo_class, classInfo_load l h]
  by_cases hl : l = [] <;> simp [hl]

theorem handle_nullPointer (l : List UnsafeUsage) (h : l.all UnsafeUsage.Ok = true) (wp : WholeProgram) :
    handleInfo wp ("Null pointer".toList, infoElem "Null pointer".toList (l.map uuElem))
      = some { wp with nullPointer := if l = [] then wp.nullPointer else wp.nullPointer ++ [l] } := by
  rw [infoElem, handleInfo_nullPointer, unsafeInfo_load l h]
  by_cases hl : l = [] <;> simp [hl]

theorem handle_uninit (l : List UnsafeUsage) (h : l.all UnsafeUsage.Ok = true) (wp : WholeProgram) :
    handleInfo wp ("Uninitialized variables".toList, infoElem "Uninitialized variables".toList (l.map uuElem))
      = some { wp with uninitVar := if l = [] then wp.uninitVar else wp.uninitVar ++ [l] } := by
  rw [infoElem, handleInfo_uninit, unsafeInfo_load l h]
  by_cases hl : l = [] <;> simp [hl]

theorem handle_store (simp : Str → Str) (t : TUSummary) (h : t.Ok simp = true) (wp : WholeProgram) :
    handleInfos ((t.fiveInfos simp).map Info.entry) wp = some (addInMemory wp t) := by
  simp only [TUSummary.Ok, Bool.and_eq_true] at h
  obtain ⟨⟨⟨⟨hctu, hbuf⟩, hcls⟩, hnp⟩, hun⟩ := h
  simp only [TUSummary.fiveInfos, List.map_cons, List.map_nil, Info.entry, handleInfos, handle_ctu simp _ hctu, handle_buffer _ hbuf,
    handle_class _ hcls, handle_nullPointer _ hnp, handle_uninit _ hun]
  rfl

theorem store_eq (simp : Str → Str) (hash : Nat) (t : TUSummary) :
    t.store simp hash = storeFile hash ((t.fiveInfos simp).map Info.pair) := by
  simp only [TUSummary.store, TUSummary.infos, TUSummary.fiveInfos, List.map_cons, List.map_nil, Info.pair]

theorem fromBuildDir_stores (simp : Str → Str) : ∀ (tus : List (Nat × TUSummary)) (wp : WholeProgram),
    (∀ t ∈ tus, t.2.Ok simp = true) →
    fromBuildDir (tus.map fun t => t.2.store simp t.1) wp = some ((tus.map (·.2)).foldl addInMemory wp) := by
  intro tus
  induction tus with
  | nil => intro wp _; rfl
  | cons t r ih =>
    intro wp h
    have ht := h t (by simp)
    rw [List.map_cons, store_eq, fromBuildDir_storeFile _ _ (fiveInfos_renders simp t.2 ht), handle_store simp t.2 ht wp, Option.bind_some]
    exact ih _ (fun x hx => h x (by simp [hx]))

end Cppcheck.Ctu
