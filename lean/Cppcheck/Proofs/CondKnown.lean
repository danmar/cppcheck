import Cppcheck.Model.CondOpposite
import Cppcheck.Proofs.CondExpr
/-
C03 — what the checks read off a comparison token: its value is the mathematical comparison (`cmpZ`) of the converted
operands, and of the operands themselves when one is Known and `cmpSafe` holds (`cmp_exact`).
-/
namespace Cppcheck.CondExpr

theorem annOK_un {S a op e} (h : annOK S (.un a op e) = true) : annOK S e = true := by
  simp only [annOK, Bool.and_eq_true] at h
  exact h.1.1

theorem annOK_bin {S a op l r} (h : annOK S (.bin a op l r) = true) : annOK S l = true ∧ annOK S r = true := by
  simp only [annOK, Bool.and_eq_true] at h
  exact ⟨h.1.1.1, h.1.1.2⟩

theorem cmpSafe_bin {S a op l r} (h : cmpSafe S (.bin a op l r) = true) : cmpSafe S l = true ∧ cmpSafe S r = true := by
  simp only [cmpSafe, Bool.and_eq_true] at h
  exact h.1

def cmpZ : BinOp → Int → Int → Bool
  | .lt, a, b => decide (a < b)
  | .le, a, b => decide (a ≤ b)
  | .gt, a, b => decide (a > b)
  | .ge, a, b => decide (a ≥ b)
  | .eq, a, b => decide (a = b)
  | .ne, a, b => decide (a ≠ b)
  | _, _, _ => false

theorem isCmp_spec {op : BinOp} (h : op.isCmp = true) :
    op = .lt ∨ op = .le ∨ op = .gt ∨ op = .ge ∨ op = .eq ∨ op = .ne := by
  cases op <;> simp [BinOp.isCmp] at h ⊢

theorem isCmp_not_logic {op : BinOp} (h : op.isCmp = true) : op.isLogic = false := by
  rcases isCmp_spec h with rfl | rfl | rfl | rfl | rfl | rfl <;> rfl

theorem binTy_cmp {op : BinOp} (h : op.isCmp = true) (ta tb : Ty) : binTy op ta tb = tInt := by
  simp [binTy, h]

theorem evalBin_cmp {op : BinOp} (hc : op.isCmp = true) (ta tb : Ty) (x y : Int) :
    evalBin op ta tb x y = some (b2i (cmpZ op (wrap (uac ta tb) x) (wrap (uac ta tb) y))) := by
  rcases isCmp_spec hc with rfl | rfl | rfl | rfl | rfl | rfl <;> rfl

theorem eval_cmp {S ρ a op l r v} (hc : op.isCmp = true) (h : eval S ρ (.bin a op l r) = some v) :
    ∃ x y, eval S ρ l = some x ∧ eval S ρ r = some y ∧
      v = b2i (cmpZ op (wrap (uac (tyOf S l) (tyOf S r)) x) (wrap (uac (tyOf S l) (tyOf S r)) y)) := by
  obtain ⟨x, y, hx, hy, hv⟩ := eval_bin_cop (isCmp_not_logic hc) h
  rw [evalBin_cmp hc] at hv
  exact ⟨x, y, hx, hy, (Option.some.inj hv).symm⟩

theorem cmpZ_flip (o : BinOp) (a b : Int) : cmpZ (flipOp o) a b = cmpZ o b a := by
  cases o <;> simp [flipOp, cmpZ, eq_comm]

theorem flipOp_isCmp (o : BinOp) : (flipOp o).isCmp = o.isCmp := by
  cases o <;> rfl

theorem evalBin_flip {o : BinOp} (hc : o.isCmp = true) (ta tb : Ty) (x y : Int) :
    evalBin (flipOp o) tb ta y x = evalBin o ta tb x y := by
  rw [evalBin_cmp hc, evalBin_cmp ((flipOp_isCmp o).trans hc), cmpZ_flip, uac_comm]

theorem evalBin_comm {op : BinOp} (hc : op.commutative = true) (hl : op.isLogic = false) (ta tb : Ty) (a b : Int) :
    evalBin op ta tb a b = evalBin op tb ta b a := by
  cases op <;> simp [BinOp.commutative, BinOp.isLogic] at hc hl <;> simp [evalBin, BinOp.isShift, uac_comm tb ta]
  -- left, in this order: `+ * & | ^ == !=`
  · rw [Int.add_comm]
  · rw [Int.mul_comm]
  · rw [Nat.and_comm]
  · rw [Nat.or_comm]
  · rw [Nat.xor_comm]
  · congr 1; simp [eq_comm]
  · congr 1; simp [eq_comm]

theorem binTy_comm {op : BinOp} (h : op.commutative = true) (ta tb : Ty) : binTy op ta tb = binTy op tb ta := by
  cases op <;> simp [BinOp.commutative] at h <;> simp [binTy, BinOp.isCmp, BinOp.isLogic, BinOp.isShift, uac_comm ta tb]

theorem eval_mirror {S ρ a o l r} (hc : o.isCmp = true) :
    eval S ρ (.bin a (flipOp o) r l) = eval S ρ (.bin a o l r) := by
  rw [eval_bin (isCmp_not_logic ((flipOp_isCmp o).trans hc)), eval_bin (isCmp_not_logic hc)]
  cases eval S ρ l <;> cases eval S ρ r <;> first | rfl | exact evalBin_flip hc _ _ _ _

theorem isBoolVal_eval {S ρ e v} (hb : e.isBoolVal = true) (h : eval S ρ e = some v) :
    (v = 0 ∨ v = 1) ∧ tyOf S e = tInt := by
  cases e with
  | un a op e =>
    cases op <;> simp [Expr.isBoolVal] at hb
    obtain ⟨w, _, h2⟩ := eval_lnot h
    subst h2
    exact ⟨b2i_01 _, by simp [tyOf]⟩
  | bin a op l r =>
    simp only [Expr.isBoolVal, Bool.or_eq_true] at hb
    refine ⟨?_, by simp [tyOf, hb]⟩
    rcases hb with hc | hl
    · obtain ⟨x, y, _, _, rfl⟩ := eval_cmp hc h
      exact b2i_01 _
    · obtain ⟨x, _, ⟨_, rfl⟩ | ⟨_, y, _, rfl⟩⟩ := eval_logic hl h <;> exact b2i_01 _
  | _ => simp [Expr.isBoolVal] at hb

theorem annOK_knownOK {S e} (g : annOK S e = true) : knownOK S e = true := by
  cases e with
  | lit a sp =>
    simp only [annOK, Bool.and_eq_true, beq_iff_eq, decide_eq_true_eq] at g
    obtain ⟨⟨⟨⟨⟨r, _⟩, k⟩, f⟩, fr⟩, _⟩ := g
    simp [knownOK, Expr.ann, Expr.closed, eval, fr, f, k, wrap_of_inRange _ _ r]
  | var a x =>
    simp only [annOK, Bool.and_eq_true, beq_iff_eq] at g
    simp [knownOK, Expr.ann, g.1.2, g.2]
  | un a op e => simp only [annOK, Bool.and_eq_true] at g; exact g.1.2
  | bin a op l r => simp only [annOK, Bool.and_eq_true] at g; exact g.1.2

theorem known_spec {S e k} (g : annOK S e = true) (hk : e.ann.known = some k) :
    e.closed = true ∧ e.ann.front = some k ∧ ∀ ρ v, eval S ρ e = some v → k = toI64 v := by
  have h := annOK_knownOK g
  simp only [knownOK, hk, Bool.and_eq_true, beq_iff_eq] at h
  obtain ⟨⟨⟨hc, hv⟩, _⟩, hfr⟩ := h
  refine ⟨hc, hfr, fun ρ v he => ?_⟩
  rw [eval_closed S ρ (fun _ => 0) e hc] at he
  rw [he] at hv
  simpa using hv

/-- what `isEqualKnownValue` / `isDifferentKnownValues` look at (`first`) is the Known value -/
theorem annOK_first {S e} (g : annOK S e = true) : e.ann.first = e.ann.known := by
  have h := annOK_knownOK g
  unfold knownOK at h
  split at h
  · rename_i hk
    rw [hk, beq_iff_eq.mp h]
  · rename_i k hk
    simp only [Bool.and_eq_true, beq_iff_eq] at h
    rw [hk, h.1.2]

theorem fits_val {S ρ T e v} (h : fits S T e = true) (he : eval S ρ e = some v) :
    inRange T v ∧ (e.closed = true → toI64 v = v) := by
  unfold fits at h
  split at h
  · rename_i hc
    rw [eval_closed S ρ (fun _ => 0) e hc] at he
    rw [he] at h
    simp only [Bool.and_eq_true, decide_eq_true_eq] at h
    exact ⟨h.1, fun _ => h.2⟩
  · rename_i hc
    have r := eval_inRange S ρ e v he
    simp only [subRange, Bool.and_eq_true, decide_eq_true_eq] at h
    refine ⟨⟨by unfold inRange at r; omega, by unfold inRange at r; omega⟩, fun q => absurd q hc⟩

/-- both operands fit the common type, so `wrap` is the identity -/
theorem cmp_exact {S ρ a o l r v} (hs : cmpSafe S (.bin a o l r) = true) (hc : o.isCmp = true)
    (hk : (l.ann.known.isSome || r.ann.known.isSome) = true) (h : eval S ρ (.bin a o l r) = some v) :
    ∃ X Y, eval S ρ l = some X ∧ eval S ρ r = some Y ∧ v = b2i (cmpZ o X Y) ∧
      (l.closed = true → toI64 X = X) ∧ (r.closed = true → toI64 Y = Y) := by
  have hfit := hs
  simp only [cmpSafe, hc, hk, Bool.and_self, Bool.not_true, Bool.false_or, Bool.and_eq_true] at hfit
  replace hfit := hfit.2
  obtain ⟨X, Y, hX, hY, hv⟩ := eval_cmp hc h
  obtain ⟨rX, cX⟩ := fits_val hfit.1 hX
  obtain ⟨rY, cY⟩ := fits_val hfit.2 hY
  rw [wrap_of_inRange _ _ rX, wrap_of_inRange _ _ rY] at hv
  exact ⟨X, Y, hX, hY, hv, cX, cY⟩

theorem known_eq {S ρ e k K} (g : annOK S e = true) (hk : e.ann.known = some k) (h : eval S ρ e = some K)
    (hc : e.closed = true → toI64 K = K) : k = K := by
  obtain ⟨hcl, _, hv⟩ := known_spec g hk
  rw [hv ρ K h, hc hcl]

theorem cmp_known_right {S ρ a o l r v k} (hs : cmpSafe S (.bin a o l r) = true) (hc : o.isCmp = true)
    (gr : annOK S r = true) (hk : r.ann.known = some k) (h : eval S ρ (.bin a o l r) = some v) :
    ∃ X, eval S ρ l = some X ∧ v = b2i (cmpZ o X k) := by
  obtain ⟨X, Y, hX, hY, e, _, cY⟩ := cmp_exact hs hc (by simp [hk]) h
  exact ⟨X, hX, by rw [e, known_eq gr hk hY cY]⟩

theorem cmp_known_left {S ρ a o l r v k} (hs : cmpSafe S (.bin a o l r) = true) (hc : o.isCmp = true)
    (gl : annOK S l = true) (hk : l.ann.known = some k) (h : eval S ρ (.bin a o l r) = some v) :
    ∃ Y, eval S ρ r = some Y ∧ v = b2i (cmpZ (flipOp o) Y k) := by
  obtain ⟨X, Y, hX, hY, e, cX, _⟩ := cmp_exact hs hc (by simp [hk]) h
  exact ⟨Y, hY, by rw [e, known_eq gl hk hX cX, cmpZ_flip]⟩

end Cppcheck.CondExpr
