import Cppcheck.Model.CondOpposite
import Cppcheck.Proofs.CondKnown
/-
C03 — soundness of the model of `isSameExpression` / `isOppositeCond` (the property theorems are restated in
Props/C03.lean).

`Sim` is what `isSameExpression` really establishes about two occurrences: equal value and type, or - when both
occurrences are "used as bool" - equal truth value (`!!x` against `x`, `x != 0` against `x`).
-/
namespace Cppcheck.CondExpr

def Sim (S : Sem) (c1 : Ctx) (e1 : Expr) (v1 : Int) (c2 : Ctx) (e2 : Expr) (v2 : Int) : Prop :=
  (v1 = v2 ∧ tyOf S e1 = tyOf S e2) ∨ (boolLike c1 e1 = true ∧ boolLike c2 e2 = true ∧ (v1 ≠ 0 ↔ v2 ≠ 0))

theorem Sim.symm {S c1 e1 v1 c2 e2 v2} (h : Sim S c1 e1 v1 c2 e2 v2) : Sim S c2 e2 v2 c1 e1 v1 := by
  rcases h with ⟨h1, h2⟩ | ⟨h1, h2, h3⟩
  · exact Or.inl ⟨h1.symm, h2.symm⟩
  · exact Or.inr ⟨h2, h1, h3.symm⟩

theorem Sim.truthy {S c1 e1 v1 c2 e2 v2} (h : Sim S c1 e1 v1 c2 e2 v2) : (v1 ≠ 0 ↔ v2 ≠ 0) := by
  rcases h with ⟨h1, _⟩ | ⟨_, _, h3⟩
  · subst h1; exact Iff.rfl
  · exact h3

/-- the side condition under which the soundness of `isSame` is proved -/
structure Good (S : Sem) (e : Expr) : Prop where
  ann : annOK S e = true

theorem Good.un {S a op e} (h : Good S (.un a op e)) : Good S e := ⟨annOK_un h.1⟩

theorem Good.bin {S a op l r} (h : Good S (.bin a op l r)) : Good S l ∧ Good S r :=
  ⟨⟨(annOK_bin h.1).1⟩, ⟨(annOK_bin h.1).2⟩⟩

theorem annOK_boolLike_cop {S e} (h : annOK S e = true) (hb : boolLike .cop e = true) : e.isBoolVal = true := by
  cases e with
  | lit a sp =>
    simp only [annOK, Bool.and_eq_true, beq_iff_eq] at h
    simp [boolLike, astIsBool, Expr.ann, h.1.1.1.1.2, toVT, Expr.isBoolVal, Ctx.isBool] at hb
  | var a x =>
    simp only [annOK, Bool.and_eq_true, beq_iff_eq] at h
    simp [boolLike, astIsBool, Expr.ann, h.1.1, toVT, Expr.isBoolVal, Ctx.isBool] at hb
  | un a op e =>
    simp only [annOK, Bool.and_eq_true, Bool.or_eq_true, Bool.not_eq_true', beq_iff_eq] at h
    simp only [boolLike, Ctx.isBool, Bool.or_false, Bool.or_eq_true] at hb
    rcases hb with hb | hb
    · rcases h.2 with h2 | h2
      · rw [h2] at hb; simp at hb
      · subst h2; simp [Expr.isBoolVal]
    · exact hb
  | bin a op l r =>
    simp only [annOK, Bool.and_eq_true, Bool.or_eq_true, Bool.not_eq_true'] at h
    simp only [boolLike, Ctx.isBool, Bool.or_false, Bool.or_eq_true] at hb
    rcases hb with hb | hb
    · rcases h.2 with (h2 | h2) | h2
      · rw [h2] at hb; simp at hb
      · simp [Expr.isBoolVal, h2]
      · simp [Expr.isBoolVal, h2]
    · exact hb

def Same (S : Sem) (ρ : Env) (c1 : Ctx) (e1 : Expr) (c2 : Ctx) (e2 : Expr) : Prop :=
  ∀ v1 v2, eval S ρ e1 = some v1 → eval S ρ e2 = some v2 → Sim S c1 e1 v1 c2 e2 v2

theorem Same.symm {S ρ c1 e1 c2 e2} (h : Same S ρ c1 e1 c2 e2) : Same S ρ c2 e2 c1 e1 :=
  fun v2 v1 h2 h1 => (h v1 v2 h1 h2).symm

/-- in an operand position (`%cop%` parent) `Same` means: same value, same type -/
theorem Same.cop {S ρ e1 v1 e2 v2} (h : Same S ρ .cop e1 .cop e2) (g1 : Good S e1) (g2 : Good S e2)
    (h1 : eval S ρ e1 = some v1) (h2 : eval S ρ e2 = some v2) : v1 = v2 ∧ tyOf S e1 = tyOf S e2 := by
  rcases h v1 v2 h1 h2 with h | ⟨b1, b2, h3⟩
  · exact h
  · obtain ⟨r1, t1⟩ := isBoolVal_eval (annOK_boolLike_cop g1.1 b1) h1
    obtain ⟨r2, t2⟩ := isBoolVal_eval (annOK_boolLike_cop g2.1 b2) h2
    refine ⟨?_, by rw [t1, t2]⟩
    rcases r1 with rfl | rfl <;> rcases r2 with rfl | rfl <;> simp at h3 ⊢

theorem dblNot_spec {e x : Expr} (h : e.dblNot = some x) : ∃ a a', e = .un a .lnot (.un a' .lnot x) := by
  unfold Expr.dblNot at h
  split at h
  · simp at h; subst h; exact ⟨_, _, rfl⟩
  · simp at h

/-- "Skip double not": `!!x` is `x` used as bool -/
theorem Same.dblNot {S ρ c1 a a' x c2 e2} (hb : boolLike c2 e2 = true) (h : Same S ρ .lnot x c2 e2) :
    Same S ρ c1 (.un a .lnot (.un a' .lnot x)) c2 e2 := by
  intro v1 v2 h1 h2
  obtain ⟨w1, hw1, rfl⟩ := eval_lnot h1
  obtain ⟨w, hw, rfl⟩ := eval_lnot hw1
  refine Or.inr ⟨by simp [boolLike, Expr.isBoolVal], hb, Iff.trans ?_ (h w v2 hw h2).truthy⟩
  by_cases hw0 : w = 0 <;> simp [b2i, hw0]

theorem strEq_bin {a1 o1 l1 r1 a2 o2 l2 r2} : (Expr.bin a1 o1 l1 r1).strEq (.bin a2 o2 l2 r2) = true ↔ o1 = o2 := by
  simp [Expr.strEq]

theorem notArg_spec {e x : Expr} (h : e.notArg = some x) : ∃ a, e = .un a .lnot x := by
  unfold Expr.notArg at h
  split at h
  · simp at h; subst h; exact ⟨_, rfl⟩
  · simp at h

theorem eqNeKnown_spec {l r vt : Expr} {k : Int} (h : eqNeKnown l r = some (k, vt)) :
    ∃ kt, kt.ann.known = some k ∧ ((kt = l ∧ vt = r) ∨ (kt = r ∧ vt = l)) := by
  unfold eqNeKnown at h
  split at h
  · rename_i k' hk
    simp at h; obtain ⟨rfl, rfl⟩ := h
    exact ⟨l, hk, Or.inl ⟨rfl, rfl⟩⟩
  · split at h
    · rename_i k' hk
      simp at h; obtain ⟨rfl, rfl⟩ := h
      exact ⟨r, hk, Or.inr ⟨rfl, rfl⟩⟩
    · simp at h

/-- astutils.cpp:1696-1705: `u op k`, in either order, on a 0/1 value `u` is `u` itself, negated iff `exprIsNot` -/
theorem eqNeCompare_spec {k : Int} {n : Bool} {op : BinOp} (h : eqNeCompare k n op = true) :
    (k = 0 ∨ k = 1) ∧ op.isCmp = true ∧
    ∀ u : Int, u = 0 ∨ u = 1 → cmpZ op u k = (decide (u ≠ 0) != n) ∧ cmpZ op k u = (decide (u ≠ 0) != n) := by
  simp only [eqNeCompare, Bool.or_eq_true, Bool.and_eq_true, beq_iff_eq, Bool.not_eq_true'] at h
  rcases h with ((⟨⟨rfl, rfl⟩, rfl⟩ | ⟨⟨rfl, rfl⟩, rfl⟩) | ⟨⟨rfl, rfl⟩, rfl⟩) | ⟨⟨rfl, rfl⟩, rfl⟩ <;>
    exact ⟨by decide, rfl, fun u hu => by rcases hu with rfl | rfl <;> decide⟩

/-- the `==|!=` rule (astutils.cpp:1672-1709) on admissible inputs: when the pair it recurses on is the same, so is the
    original pair -/
theorem Same.eqNe {S ρ cond ce expr ca a cb b}
    (hp : eqNeCond cond ce expr = some (ca, a, cb, b)) (gc : Good S cond) (ge : Good S expr) :
    Good S a ∧ Good S b ∧ (Same S ρ ca a cb b → ∀ cc, Same S ρ cc cond ce expr) := by
  cases cond with
  | bin ac op l r =>
    simp only [eqNeCond] at hp
    split at hp
    · simp at hp
    · cases hkn : eqNeKnown l r with
      | none => rw [hkn] at hp; simp at hp
      | some p =>
        obtain ⟨k, vt⟩ := p
        rw [hkn] at hp
        simp only at hp
        obtain ⟨kt, hkt, hside⟩ := eqNeKnown_spec hkn
        obtain ⟨gl, gr⟩ := gc.bin
        have gkt : Good S kt := by rcases hside with ⟨rfl, _⟩ | ⟨rfl, _⟩ <;> assumption
        have gvt : Good S vt := by rcases hside with ⟨_, rfl⟩ | ⟨_, rfl⟩ <;> assumption
        -- once `compare` and the bool-like test of `varTok1` pass, the condition is `varTok1`, negated iff `exprIsNot`
        have core : ∀ (n : Bool), eqNeCompare k n op = true → boolLike .cop vt = true →
            op.isCmp = true ∧ ∀ vc, eval S ρ (.bin ac op l r) = some vc →
              ∃ u, eval S ρ vt = some u ∧ vc = b2i (decide (u ≠ 0) != n) := by
          intro n hcmp hbl
          obtain ⟨hk01, hop, hval⟩ := eqNeCompare_spec hcmp
          refine ⟨hop, fun vc hc => ?_⟩
          obtain ⟨x, y, hx, hy, rfl⟩ := eval_cmp hop hc
          have hbv := annOK_boolLike_cop gvt.1 hbl
          rcases hside with ⟨rfl, rfl⟩ | ⟨rfl, rfl⟩
          · obtain rfl : x = k := toI64_eq_01 _ _ _ (eval_inRange S ρ _ _ hx) hk01 ((known_spec gkt.1 hkt).2.2 _ _ hx)
            have hu := (isBoolVal_eval hbv hy).1
            exact ⟨y, hy, by rw [wrap_01 _ _ hk01, wrap_01 _ _ hu, (hval y hu).2]⟩
          · obtain rfl : y = k := toI64_eq_01 _ _ _ (eval_inRange S ρ _ _ hy) hk01 ((known_spec gkt.1 hkt).2.2 _ _ hy)
            have hu := (isBoolVal_eval hbv hx).1
            exact ⟨x, hx, by rw [wrap_01 _ _ hu, wrap_01 _ _ hk01, (hval x hu).1]⟩
        cases hn : expr.notArg with
        | some x =>
          rw [hn] at hp
          simp only [Option.ite_some_none_eq_some, Prod.mk.injEq, Bool.and_eq_true] at hp
          obtain ⟨hcond, rfl, rfl, rfl, rfl⟩ := hp
          obtain ⟨hop, hcore⟩ := core true hcond.1.1 hcond.1.2
          obtain ⟨ae, rfl⟩ := notArg_spec hn
          refine ⟨gvt, ge.un, fun hs cc vc ve hc he => Or.inl ⟨?_, by rw [tyOf_bin, binTy_cmp hop]; rfl⟩⟩
          obtain ⟨u, hu, rfl⟩ := hcore vc hc
          obtain ⟨w, hw, rfl⟩ := eval_lnot he
          have := (hs u w hu hw).truthy
          by_cases hw0 : w = 0 <;> simp_all
        | none =>
          rw [hn] at hp
          simp only [Option.ite_some_none_eq_some, Prod.mk.injEq, Bool.and_eq_true] at hp
          obtain ⟨hcond, rfl, rfl, rfl, rfl⟩ := hp
          obtain ⟨hop, hcore⟩ := core false hcond.1.1 hcond.1.2
          refine ⟨gvt, ge, fun hs cc vc ve hc he =>
            Or.inr ⟨by simp [boolLike, Expr.isBoolVal, hop], hcond.2, ?_⟩⟩
          obtain ⟨u, hu, rfl⟩ := hcore vc hc
          rw [b2i_ne_zero, ← (hs u ve hu he).truthy]
          simp
  | _ => simp [eqNeCond] at hp

theorem Same.const {S ρ c1 e1 c2 e2} (h : sameConst e1 e2 = true) (g1 : annOK S e1 = true) (g2 : annOK S e2 = true) :
    Same S ρ c1 e1 c2 e2 := by
  intro v1 v2 h1 h2
  left
  unfold sameConst at h
  split at h
  · rename_i a1 s1 a2 s2
    simp only [Bool.and_eq_true] at h
    obtain ⟨hvt, hk⟩ := h
    simp only [annOK, Bool.and_eq_true, beq_iff_eq, decide_eq_true_eq] at g1 g2
    obtain ⟨⟨⟨⟨⟨r1, vt1⟩, k1⟩, f1⟩, _⟩, _⟩ := g1
    obtain ⟨⟨⟨⟨⟨r2, vt2⟩, k2⟩, f2⟩, _⟩, _⟩ := g2
    rw [vt1, vt2] at hvt
    simp only [Bool.and_eq_true, beq_iff_eq] at hvt
    have hty : S.lty s1 = S.lty s2 := toVT_inj hvt.1 hvt.2
    simp only [equalKnown, Expr.ann, f1, f2, k1, k2, beq_iff_eq] at hk
    simp only [eval, Option.some.injEq] at h1 h2
    rw [wrap_of_inRange _ _ r1] at h1
    rw [wrap_of_inRange _ _ r2] at h2
    subst h1; subst h2
    refine ⟨?_, by simp [tyOf, hty]⟩
    exact toI64_inj (S.lty s2) _ _ (hty ▸ r1) r2 hk
  · simp at h

theorem flipPick_spec {e1 e2 a b c d} (h : flipPick e1 e2 = some (a, b, c, d)) :
    ∃ a1 o1 a2 o2, e1 = .bin a1 o1 a c ∧ e2 = .bin a2 o2 d b ∧ flipPair o1 o2 = true := by
  unfold flipPick at h
  split at h
  · split at h
    · simp at h; obtain ⟨rfl, rfl, rfl, rfl⟩ := h; exact ⟨_, _, _, _, rfl, rfl, by assumption⟩
    · simp at h
  · simp at h

theorem flipPair_spec {o1 o2 : BinOp} (hf : flipPair o1 o2 = true) (hne : o1 ≠ o2) : o1.isCmp = true ∧ o2 = flipOp o1 := by
  simp only [flipPair, Bool.or_eq_true, Bool.and_eq_true, beq_iff_eq] at hf
  rcases hf with ⟨h1 | h1, h2 | h2⟩ | ⟨h1 | h1, h2 | h2⟩ <;> subst h1 <;> subst h2 <;>
    first | exact ⟨rfl, rfl⟩ | exact absurd rfl hne

theorem childCtxB_cop {o : BinOp} (h : o.isLogic = false) : childCtxB o = .cop := by
  cases o <;> first | rfl | cases h

theorem Same.bin {S ρ c1 c2 o a1 l1 r1 a2 l2 r2}
    (gl1 : Good S l1) (gr1 : Good S r1) (gl2 : Good S l2) (gr2 : Good S r2)
    (h : (Same S ρ (childCtxB o) l1 (childCtxB o) l2 ∧ Same S ρ (childCtxB o) r1 (childCtxB o) r2) ∨
         (o.commutative = true ∧ Same S ρ (childCtxB o) r1 (childCtxB o) l2 ∧ Same S ρ (childCtxB o) l1 (childCtxB o) r2)) :
    Same S ρ c1 (.bin a1 o l1 r1) c2 (.bin a2 o l2 r2) := by
  intro v1 v2 h1 h2
  left
  by_cases hlog : o.isLogic = true
  · refine ⟨?_, by simp [tyOf, hlog]⟩
    obtain ⟨x1, hx1, c1⟩ := eval_logic hlog h1
    obtain ⟨x2, hx2, c2⟩ := eval_logic hlog h2
    have tr : ∀ {a b va vb}, Same S ρ (childCtxB o) a (childCtxB o) b → eval S ρ a = some va → eval S ρ b = some vb →
        decide (va ≠ 0) = decide (vb ≠ 0) :=
      fun hr ha hb => decide_eq_decide.mpr (hr _ _ ha hb).truthy
    rcases h with ⟨hl, hr⟩ | ⟨_, hrl, hlr⟩
    · have t := tr hl hx1 hx2
      rcases c1 with ⟨s1, rfl⟩ | ⟨n1, y1, hy1, rfl⟩ <;> rcases c2 with ⟨s2, rfl⟩ | ⟨n2, y2, hy2, rfl⟩
      · rfl
      · exact absurd (t ▸ s1) n2
      · exact absurd (t ▸ s2) n1
      · rw [tr hr hy1 hy2]
    · -- operands crosswise: the operand that decides on one side is the right operand on the other
      rcases c1 with ⟨s1, rfl⟩ | ⟨n1, y1, hy1, rfl⟩ <;> rcases c2 with ⟨s2, rfl⟩ | ⟨n2, y2, hy2, rfl⟩
      · rfl
      · rw [← tr hlr hx1 hy2, s1]
      · rw [tr hrl hy1 hx2, s2]
      · rw [tr hrl hy1 hx2, ← tr hlr hx1 hy2]
        -- two Booleans other than `o == .lor`
        revert n1 n2
        cases decide (x1 ≠ 0) <;> cases decide (x2 ≠ 0) <;> cases (o == BinOp.lor) <;> simp
  · have hlog' : o.isLogic = false := by simpa using hlog
    rw [childCtxB_cop hlog'] at h
    obtain ⟨x1, y1, hx1, hy1, e1⟩ := eval_bin_cop hlog' h1
    obtain ⟨x2, y2, hx2, hy2, e2⟩ := eval_bin_cop hlog' h2
    rw [tyOf_bin, tyOf_bin]
    rcases h with ⟨hl, hr⟩ | ⟨hc, hrl, hlr⟩
    · obtain ⟨rfl, tl⟩ := hl.cop gl1 gl2 hx1 hx2
      obtain ⟨rfl, tr⟩ := hr.cop gr1 gr2 hy1 hy2
      rw [tl, tr] at e1
      rw [e1] at e2
      exact ⟨by simpa using e2, by rw [tl, tr]⟩
    · obtain ⟨rfl, t1⟩ := hrl.cop gr1 gl2 hy1 hx2
      obtain ⟨rfl, t2⟩ := hlr.cop gl1 gr2 hx1 hy2
      rw [← t1, ← t2, ← evalBin_comm hc hlog', e1] at e2
      exact ⟨by simpa using e2, by rw [← t1, ← t2, binTy_comm hc]⟩

theorem Same.un {S ρ c1 a1 o x1 c2 a2 x2} (g1 : Good S x1) (g2 : Good S x2)
    (h : Same S ρ (childCtxU o) x1 (childCtxU o) x2) : Same S ρ c1 (.un a1 o x1) c2 (.un a2 o x2) := by
  intro v1 v2 h1 h2
  obtain ⟨w1, hw1, r1⟩ := eval_un h1
  obtain ⟨w2, hw2, r2⟩ := eval_un h2
  left
  rw [tyOf_un, tyOf_un]
  cases o
  case lnot =>
    have t := (h w1 w2 hw1 hw2).truthy
    simp [evalUn] at r1 r2
    subst r1; subst r2
    refine ⟨?_, by simp [unTy]⟩
    by_cases hw : w1 = 0 <;> simp_all [b2i]
  all_goals
    obtain ⟨rfl, t⟩ := Same.cop h g1 g2 hw1 hw2
    rw [t, r2] at r1
    exact ⟨by simpa using r1.symm, by rw [t]⟩

theorem Same.mirror {S ρ c1 e1 c2 a o l r} (hc : o.isCmp = true) (h : Same S ρ c1 e1 c2 (.bin a o l r)) :
    Same S ρ c1 e1 c2 (.bin a (flipOp o) r l) := by
  intro v1 v2 h1 h2
  rw [eval_mirror hc] at h2
  simpa [Sim, boolLike, Expr.isBoolVal, tyOf, hc, (flipOp_isCmp o).trans hc] using h v1 v2 h1 h2

theorem isSameF_sound (S : Sem) (cpp : Bool) (ρ : Env) (n : Nat) (c1 : Ctx) (e1 : Expr) (c2 : Ctx) (e2 : Expr)
    (g1 : Good S e1) (g2 : Good S e2) (h : isSameF cpp n c1 e1 c2 e2 = true) : Same S ρ c1 e1 c2 e2 := by
  fun_induction isSameF cpp n c1 e1 c2 e2 with
  -- no fuel, different Known values, no rule for the two tokens: the answer is `false`
  | case1 | case4 | case8 | case13 => cases h
  | case2 n c1 e1 c2 e2 x hx ih =>
    -- `!!x` on the left
    obtain ⟨hb, hx⟩ := Option.ite_none_right_eq_some.mp hx
    obtain ⟨a, a', rfl⟩ := dblNot_spec hx
    exact .dblNot hb (ih g1.un.un g2 h)
  | case3 n c1 e1 c2 e2 _ y hy ih =>
    -- `!!y` on the right
    obtain ⟨hb, hy⟩ := Option.ite_none_right_eq_some.mp hy
    obtain ⟨a, a', rfl⟩ := dblNot_spec hy
    exact (Same.dblNot hb (ih g1 g2.un.un h).symm).symm
  | case5 _ _ _ _ _ _ _ _ hsc => exact .const hsc g1.1 g2.1
  | case6 n c1 e1 c2 e2 _ _ _ _ hne a b c d hfp ih1 ih2 =>
    -- `<` against `>`: `b > a` is read as `a < b`
    obtain ⟨a1, o1, a2, o2, rfl, rfl, hf⟩ := flipPick_spec hfp
    obtain ⟨hc, rfl⟩ := flipPair_spec hf (fun e => by subst e; simp [Expr.strEq] at hne)
    obtain ⟨gl1, gr1⟩ := g1.bin
    obtain ⟨gl2, gr2⟩ := g2.bin
    simp only [Bool.and_eq_true] at h
    refine .mirror hc (.bin gl1 gr1 gr2 gl2 (Or.inl ?_))
    rw [childCtxB_cop (isCmp_not_logic hc)]
    exact ⟨ih1 gl1 gr2 h.1, ih2 gr1 gl2 h.2⟩
  | case7 n c1 e1 c2 e2 _ _ _ _ _ _ ca a cb b hpick ih =>
    -- `==|!=` against a boolean expression
    unfold eqNePick at hpick
    split at hpick
    · obtain ⟨ga, gb, hs⟩ := Same.eqNe hpick g1 g2
      exact hs (ih ga gb h) c1
    · split at hpick
      · obtain ⟨ga, gb, hs⟩ := Same.eqNe hpick g2 g1
        exact (hs (ih ga gb h) c2).symm
      · cases hpick
  -- from here on the same token string
  | case9 _ _ _ _ _ _ _ _ _ _ _ hse | case10 _ _ _ _ _ _ _ _ _ _ _ hse =>
    obtain rfl : _ = _ := by simpa [Expr.strEq] using hse
    exact fun _ _ h1 h2 => Or.inl ⟨Option.some.inj (h1.symm.trans h2), rfl⟩
  | case11 n c1 c2 a1 o1 x1 a2 o2 x2 _ _ _ _ hse ih =>
    obtain rfl : o1 = o2 := by simpa [Expr.strEq] using hse
    exact .un g1.un g2.un (ih g1.un g2.un h)
  | case12 n c1 c2 a1 o1 l1 r1 a2 o2 l2 r2 cc _ _ _ _ hse ih1 ih2 ih3 ih4 =>
    obtain rfl : o1 = o2 := by simpa [Expr.strEq] using hse
    obtain ⟨gl1, gr1⟩ := g1.bin
    obtain ⟨gl2, gr2⟩ := g2.bin
    simp only [Bool.or_eq_true, Bool.and_eq_true] at h
    refine .bin gl1 gr1 gl2 gr2 ?_
    rcases h with ⟨ha, hb⟩ | ⟨⟨⟨_, hc⟩, ha⟩, hb⟩
    · exact Or.inl ⟨ih1 gl1 gl2 ha, ih2 gr1 gr2 hb⟩
    · exact Or.inr ⟨hc, ih3 gr1 gl2 ha, ih4 gl1 gr2 hb⟩

theorem isSame_sound {S cpp ρ c1 e1 c2 e2} (h : isSame cpp c1 e1 c2 e2 = true) (g1 : Good S e1) (g2 : Good S e2) :
    Same S ρ c1 e1 c2 e2 :=
  isSameF_sound S cpp ρ _ c1 e1 c2 e2 g1 g2 h

/-- the relation `isOppositeCond` claims: `isNot = true`: exactly one of the two holds; `false`: not both -/
def Opp : Bool → Int → Int → Prop
  | true, v1, v2 => (v1 ≠ 0 ↔ ¬ v2 ≠ 0)
  | false, v1, v2 => ¬(v1 ≠ 0 ∧ v2 ≠ 0)

theorem Opp.of_strict {isNot v1 v2} (h : v1 ≠ 0 ↔ ¬ v2 ≠ 0) : Opp isNot v1 v2 := by
  cases isNot <;> simp only [Opp] <;> simp_all

theorem Opp.symm {isNot v1 v2} (h : Opp isNot v1 v2) : Opp isNot v2 v1 := by
  cases isNot <;> simp only [Opp] at * <;> simp_all <;> omega

theorem oppTable_sound {isNot : Bool} {c1 c2 : BinOp} (h : oppTable isNot c1 c2 = true) (a b : Int) :
    Opp isNot (b2i (cmpZ c1 a b)) (b2i (cmpZ c2 a b)) := by
  simp only [oppTable, Bool.or_eq_true, Bool.and_eq_true, beq_iff_eq, Bool.not_eq_true'] at h
  rcases h with h | ⟨rfl, h⟩
  · -- a comparator and its negation
    apply Opp.of_strict
    rcases h with ((((⟨rfl, rfl⟩ | ⟨rfl, rfl⟩) | ⟨rfl, rfl⟩) | ⟨rfl, rfl⟩) | ⟨rfl, rfl⟩) | ⟨rfl, rfl⟩ <;>
      simp only [cmpZ, b2i_ne_zero, decide_eq_true_eq] <;> omega
  · -- without `isNot` also two comparators that exclude each other
    rcases h with ((⟨rfl, rfl⟩ | ⟨rfl, rfl⟩) | ⟨rfl, (rfl | rfl) | rfl⟩) | ⟨(rfl | rfl) | rfl, rfl⟩ <;>
      simp only [Opp, cmpZ, b2i_ne_zero, decide_eq_true_eq] <;> omega

def Opposite (S : Sem) (ρ : Env) (isNot : Bool) (e1 e2 : Expr) : Prop :=
  ∀ v1 v2, eval S ρ e1 = some v1 → eval S ρ e2 = some v2 → Opp isNot v1 v2

theorem Opposite.symm {S ρ isNot e1 e2} (h : Opposite S ρ isNot e1 e2) : Opposite S ρ isNot e2 e1 :=
  fun v2 v1 h2 h1 => (h v1 v2 h1 h2).symm

theorem Opposite.not {S ρ isNot a c x c2 e2} (h : Same S ρ c x c2 e2) : Opposite S ρ isNot (.un a .lnot x) e2 := by
  intro v1 v2 h1 h2
  obtain ⟨w, hw, rfl⟩ := eval_lnot h1
  have t := (h w v2 hw h2).truthy
  apply Opp.of_strict
  by_cases hw0 : w = 0 <;> simp_all [b2i]

theorem Opposite.lor {S ρ isNot a l r e} (hl : Opposite S ρ isNot l e) (hr : Opposite S ρ isNot r e) :
    Opposite S ρ isNot (.bin a .lor l r) e := by
  intro v v' h h'
  obtain ⟨x, hx, c⟩ := eval_lor h
  have ol := hl x v' hx h'
  rcases c with ⟨n, rfl⟩ | ⟨z, y, hy, rfl⟩
  · cases isNot <;> simp only [Opp] at * <;> simp_all
  · have or' := hr y v' hy h'
    cases isNot <;> simp only [Opp] at * <;> by_cases hy0 : y = 0 <;> simp_all [b2i]

theorem isZeroStr_eval {S ρ e v} (hz : S.lval ['0'] = 0) (h : e.isZeroStr = true) (he : eval S ρ e = some v) : v = 0 := by
  cases e <;> simp [Expr.isZeroStr] at h
  subst h
  simp only [eval, hz, Option.some.injEq] at he
  subst he
  exact wrap_01 _ 0 (Or.inl rfl)

/-- astutils.cpp:1878-1888 (`cond1` = `!x`): `x` and `cond2` have the same truth value -/
theorem notBranch_sound {S cpp ρ x c2 cond2} (hz : S.lval ['0'] = 0)
    (h : notBranch cpp x c2 cond2 = true) (gx : Good S x) (g2 : Good S cond2) : Same S ρ .lnot x c2 cond2 := by
  have generic : notGeneric cpp x c2 cond2 = true → Same S ρ .lnot x c2 cond2 := by
    intro hg
    unfold notGeneric at hg
    split at hg
    · simp at hg
    · exact isSame_sound hg gx g2
  have neZero : ∀ {a l r}, r.isZeroStr = true → isSame cpp .lnot x .cop l = true → Good S l →
      Same S ρ .lnot x c2 (.bin a .ne l r) := by
    intro a l r hzr hs gl w v2 hx h2
    refine Or.inr ⟨by simp [boolLike, Ctx.isBool], by simp [boolLike, Expr.isBoolVal, BinOp.isCmp], ?_⟩
    obtain ⟨xl, yr, hl, hr, hv⟩ := eval_cmp rfl h2
    obtain rfl := isZeroStr_eval hz hzr hr
    rw [(isSame_sound hs gx gl w xl hx hl).truthy, hv, b2i_ne_zero]
    simp only [cmpZ, decide_eq_true_eq, wrap_01 _ 0 (Or.inl rfl)]
    rw [Ne, Ne, wrap_uac_eq_zero_left _ _ xl (eval_inRange S ρ _ _ hl)]
  unfold notBranch at h
  split at h
  · rename_i a l r
    obtain ⟨gl, gr⟩ := g2.bin
    split at h
    · -- `0 != x` is `x != 0`
      exact Same.mirror (o := .ne) rfl (neZero ‹_› h gr)
    · split at h
      · exact neZero ‹_› h gl
      · exact generic h
  · exact generic h

/-- side conditions of the soundness of `isOpp` -/
def OGood (S : Sem) (isNot : Bool) (e : Expr) : Prop := Good S e ∧ (isNot = false → cmpSafe S e = true)

theorem OGood.un {S isNot a op e} (h : OGood S isNot (.un a op e)) : OGood S isNot e :=
  ⟨h.1.un, h.2⟩

theorem OGood.bin {S isNot a op l r} (h : OGood S isNot (.bin a op l r)) : OGood S isNot l ∧ OGood S isNot r :=
  ⟨⟨h.1.bin.1, fun q => (cmpSafe_bin (h.2 q)).1⟩, ⟨h.1.bin.2, fun q => (cmpSafe_bin (h.2 q)).2⟩⟩

theorem diffKnown_spec {S e1 e2} (g1 : annOK S e1 = true) (g2 : annOK S e2 = true) (h : diffKnown e1 e2 = true) :
    ∃ a b, e1.ann.known = some a ∧ e2.ann.known = some b ∧ a ≠ b := by
  unfold diffKnown at h
  rw [annOK_first g1, annOK_first g2] at h
  split at h
  · rename_i a b ha hb
    exact ⟨a, b, ha, hb, by simpa using h⟩
  · simp at h

/-- astutils.cpp:1894-1899 -/
theorem eqEqRule_sound {S cpp ρ cond1 cond2} (h : eqEqRule cpp cond1 cond2 = some true)
    (g1 : OGood S false cond1) (g2 : OGood S false cond2) : Opposite S ρ false cond1 cond2 := by
  intro v1 v2 h1 h2
  unfold eqEqRule at h
  split at h
  · rename_i a1 l1 r1 a2 l2 r2
    obtain ⟨gl1, gr1⟩ := g1.bin
    obtain ⟨gl2, gr2⟩ := g2.bin
    split at h
    · rename_i hs
      obtain ⟨a, b', ka, kb, hab⟩ := diffKnown_spec gr1.1.1 gr2.1.1 (Option.some.inj h)
      obtain ⟨X1, hX1, rfl⟩ := cmp_known_right (g1.2 rfl) rfl gr1.1.1 ka h1
      obtain ⟨X2, hX2, rfl⟩ := cmp_known_right (g2.2 rfl) rfl gr2.1.1 kb h2
      obtain ⟨rfl, _⟩ := (isSame_sound hs gl1.1 gl2.1).cop gl1.1 gl2.1 hX1 hX2
      simp only [Opp, cmpZ, b2i_ne_zero, decide_eq_true_eq]
      omega
    · split at h
      · rename_i hs
        obtain ⟨a, b', ka, kb, hab⟩ := diffKnown_spec gl1.1.1 gl2.1.1 (Option.some.inj h)
        obtain ⟨Y1, hY1, rfl⟩ := cmp_known_left (g1.2 rfl) rfl gl1.1.1 ka h1
        obtain ⟨Y2, hY2, rfl⟩ := cmp_known_left (g2.2 rfl) rfl gl2.1.1 kb h2
        obtain ⟨rfl, _⟩ := (isSame_sound hs gr1.1 gr2.1).cop gr1.1 gr2.1 hY1 hY2
        simp only [Opp, flipOp, cmpZ, b2i_ne_zero, decide_eq_true_eq]
        omega
      · simp at h
  · simp at h

/-- astutils.cpp:1956-1968 + 2013-2023: same (or crosswise same) operands, comparator pair in the table -/
theorem comp2_sound {S cpp ρ isNot a1 o1 l1 r1 cond2 c2}
    (h : comp2 cpp (.bin a1 o1 l1 r1) cond2 = some c2) (ht : oppTable isNot o1 c2 = true)
    (g1 : Good S (.bin a1 o1 l1 r1)) (g2 : Good S cond2) (hc1 : o1.isCmp = true) (hc2 : cond2.isCmp = true) :
    Opposite S ρ isNot (.bin a1 o1 l1 r1) cond2 := by
  intro v1 v2 h1 h2
  obtain ⟨gl1, gr1⟩ := g1.bin
  obtain ⟨X1, Y1, hX1, hY1, e1⟩ := eval_cmp hc1 h1
  have straight : ∀ {a2 l2 r2}, isSame cpp .cop l1 .cop l2 = true → isSame cpp .cop r1 .cop r2 = true →
      Good S l2 → Good S r2 → c2.isCmp = true → eval S ρ (.bin a2 c2 l2 r2) = some v2 → Opp isNot v1 v2 := by
    intro a2 l2 r2 sl sr gl2 gr2 hc2 h2
    obtain ⟨X2, Y2, hX2, hY2, e2⟩ := eval_cmp hc2 h2
    obtain ⟨rfl, t1⟩ := (isSame_sound sl gl1 gl2).cop gl1 gl2 hX1 hX2
    obtain ⟨rfl, t2⟩ := (isSame_sound sr gr1 gr2).cop gr1 gr2 hY1 hY2
    rw [← t1, ← t2] at e2
    rw [e1, e2]
    exact oppTable_sound ht _ _
  unfold comp2 at h
  split at h
  · rename_i a1' o1' l1' r1' a2 o2 l2 r2 heq
    cases heq
    obtain ⟨gl2, gr2⟩ := g2.bin
    split at h
    · rename_i hs
      simp only [Bool.and_eq_true] at hs
      cases h
      exact straight hs.1 hs.2 gl2 gr2 hc2 h2
    · split at h
      · -- the operands crosswise: the second comparison read from the right
        rename_i hs
        simp only [Bool.and_eq_true] at hs
        cases h
        exact straight hs.1 hs.2 gr2 gl2 ((flipOp_isCmp o2).trans hc2) ((eval_mirror hc2).trans h2)
      · cases h
  · cases h

theorem valueSide_spec {o l r x kn op} (h : valueSide o l r = some (x, kn, op)) :
    kn.ann.known.isSome = true ∧ ((x = l ∧ kn = r ∧ op = o) ∨ (x = r ∧ kn = l ∧ op = flipOp o)) := by
  unfold valueSide at h
  split at h
  · simp at h; obtain ⟨rfl, rfl, rfl⟩ := h; exact ⟨by assumption, Or.inl ⟨rfl, rfl, rfl⟩⟩
  · split at h
    · simp at h; obtain ⟨rfl, rfl, rfl⟩ := h; exact ⟨by assumption, Or.inr ⟨rfl, rfl, rfl⟩⟩
    · simp at h

theorem valueSide_val {S ρ a o l r x kn op v} (h : valueSide o l r = some (x, kn, op)) (g : OGood S false (.bin a o l r))
    (hc : o.isCmp = true) (hv : eval S ρ (.bin a o l r) = some v) :
    ∃ X, eval S ρ x = some X ∧ Good S x ∧ v = b2i (cmpZ op X (kn.ann.front.getD 0)) := by
  obtain ⟨hk, hside⟩ := valueSide_spec h
  obtain ⟨gl, gr⟩ := g.bin
  obtain ⟨k, hk'⟩ := Option.isSome_iff_exists.mp hk
  rcases hside with ⟨rfl, rfl, rfl⟩ | ⟨rfl, rfl, rfl⟩
  · obtain ⟨X, hX, e⟩ := cmp_known_right (g.2 rfl) hc gr.1.1 hk' hv
    exact ⟨X, hX, gl.1, by rw [(known_spec gr.1.1 hk').2.1, e]; rfl⟩
  · obtain ⟨Y, hY, e⟩ := cmp_known_left (g.2 rfl) hc gl.1.1 hk' hv
    exact ⟨Y, hY, gr.1, by rw [(known_spec gl.1.1 hk').2.1, e]; rfl⟩

theorem cmpZ_upper {op : BinOp} {x a : Int} (ho : op = .eq ∨ op = .lt ∨ op = .le) (h : cmpZ op x a = true) : x ≤ a := by
  rcases ho with rfl | rfl | rfl <;> simp only [cmpZ, decide_eq_true_eq] at h <;> omega

theorem cmpZ_lower {op : BinOp} {x a : Int} (ho : op = .eq ∨ op = .gt ∨ op = .ge) (h : cmpZ op x a = true) : a ≤ x := by
  rcases ho with rfl | rfl | rfl <;> simp only [cmpZ, decide_eq_true_eq] at h <;> omega

/-- astutils.cpp:1970-2010: an upper bound below a lower bound (or the other way round) on the same expression -/
theorem knownRule_sound {S cpp ρ cond1 cond2} (h : knownRule cpp cond1 cond2 = true)
    (g1 : OGood S false cond1) (g2 : OGood S false cond2) (hc1 : cond1.isCmp = true) (hc2 : cond2.isCmp = true) :
    Opposite S ρ false cond1 cond2 := by
  intro v1 v2 h1 h2
  unfold knownRule at h
  split at h
  · rename_i a1 o1 l1 r1 a2 o2 l2 r2
    simp only [Expr.isCmp] at hc1 hc2
    split at h
    · rename_i x1 k1 op1 x2 k2 op2 hv1 hv2
      obtain ⟨X1, hX1, gx1, e1⟩ := valueSide_val hv1 g1 hc1 h1
      obtain ⟨X2, hX2, gx2, e2⟩ := valueSide_val hv2 g2 hc2 h2
      split at h
      · simp at h
      · rename_i hs
        simp at hs
        obtain ⟨rfl, _⟩ := (isSame_sound hs gx1 gx2).cop gx1 gx2 hX1 hX2
        subst e1; subst e2
        simp only [Opp, b2i_ne_zero]
        rintro ⟨n1, n2⟩
        split at h
        · rename_i ho1
          simp only [Bool.or_eq_true, Bool.and_eq_true, beq_iff_eq, decide_eq_true_eq, or_assoc] at ho1 h
          have := cmpZ_upper (Or.inr ho1) n1
          have := cmpZ_lower h.1 n2
          omega
        · split at h
          · rename_i ho1
            simp only [Bool.or_eq_true, Bool.and_eq_true, beq_iff_eq, decide_eq_true_eq, or_assoc] at ho1 h
            have := cmpZ_lower (Or.inr ho1.symm) n1
            have := cmpZ_upper h.1 n2
            omega
          · simp at h
    · simp at h
  · simp at h

/-- astutils.cpp:1893-2023 -/
theorem cmpPart_sound {S cpp ρ isNot cond1 cond2} (h : cmpPart cpp isNot cond1 cond2 = true)
    (g1 : OGood S isNot cond1) (g2 : OGood S isNot cond2) : Opposite S ρ isNot cond1 cond2 := by
  unfold cmpPart at h
  split at h
  · rename_i b hb
    split at hb
    · simp at hb
    · rename_i hn
      obtain rfl : isNot = false := by simpa using hn
      exact eqEqRule_sound (h ▸ hb) g1 g2
  · split at h
    · simp at h
    · rename_i hcmp
      simp only [Bool.or_eq_true, Bool.not_eq_true', not_or, Bool.not_eq_false] at hcmp
      split at h
      · split at h
        · simp at h
        · rename_i hn
          obtain rfl : isNot = false := by simpa using hn
          exact knownRule_sound h g1 g2 hcmp.1 hcmp.2
      · rename_i c2 hc2
        split at h
        · rename_i c1 hc1
          cases cond1 <;> simp [Expr.binOp?] at hc1
          subst hc1
          exact comp2_sound hc2 h g1.1 g2.1 (by simpa [Expr.isCmp] using hcmp.1) hcmp.2
        · simp at h

theorem andPair_spec {c1 c2 l1 r1 l2 r2} (h : andPair c1 c2 = some (l1, r1, l2, r2)) :
    ∃ a1 a2, c1 = .bin a1 .land l1 r1 ∧ c2 = .bin a2 .land l2 r2 := by
  unfold andPair at h
  split at h
  · simp at h; obtain ⟨rfl, rfl, rfl, rfl⟩ := h; exact ⟨_, _, rfl, rfl⟩
  · simp at h

theorem lorPick_spec {c1 cond1 c2 cond2 l r co other} (h : lorPick c1 cond1 c2 cond2 = some (l, r, co, other)) :
    (∃ a, cond2 = .bin a .lor l r ∧ co = c1 ∧ other = cond1) ∨ (∃ a, cond1 = .bin a .lor l r ∧ co = c2 ∧ other = cond2) := by
  unfold lorPick at h
  split at h
  · split at h
    · simp at h; obtain ⟨rfl, rfl, rfl, rfl⟩ := h; exact Or.inl ⟨_, rfl, rfl, rfl⟩
    · split at h
      · simp at h; obtain ⟨rfl, rfl, rfl, rfl⟩ := h; exact Or.inr ⟨_, rfl, rfl, rfl⟩
      · simp at h
  · simp at h

/-- By induction on the fuel and not `fun_induction`: in the `&&` branch the recursive call is the function argument
    `isOppF … n` of `andHit`. -/
theorem isOppF_sound (S : Sem) (cpp : Bool) (ρ : Env) (hz : S.lval ['0'] = 0) (isNot : Bool) :
    ∀ (n : Nat) (c1 : Ctx) (e1 : Expr) (c2 : Ctx) (e2 : Expr), OGood S isNot e1 → OGood S isNot e2 →
      isOppF cpp isNot n c1 e1 c2 e2 = true → Opposite S ρ isNot e1 e2 := by
  intro n
  induction n with
  | zero => intro _ _ _ _ _ _ h; simp [isOppF] at h
  | succ n ih =>
    intro c1 e1 c2 e2 g1 g2 h
    unfold isOppF at h
    split at h
    · simp at h
    · by_cases hand : (!isNot && andHit (isOppF cpp isNot n) cpp e1 e2) = true
      · -- `&&` against `&&` with a common operand
        simp only [Bool.and_eq_true, Bool.not_eq_true'] at hand
        obtain ⟨hn, hand⟩ := hand
        subst hn
        unfold andHit at hand
        split at hand
        · rename_i l1 r1 l2 r2 hp
          obtain ⟨a1, a2, rfl, rfl⟩ := andPair_spec hp
          obtain ⟨gl1, gr1⟩ := g1.bin
          obtain ⟨gl2, gr2⟩ := g2.bin
          intro v1 v2 h1 h2
          obtain ⟨x1, hx1, q1⟩ := eval_land h1
          obtain ⟨x2, hx2, q2⟩ := eval_land h2
          rintro ⟨n1, n2⟩
          rcases q1 with ⟨_, rfl⟩ | ⟨nx1, y1, hy1, rfl⟩
          · exact n1 rfl
          rcases q2 with ⟨_, rfl⟩ | ⟨nx2, y2, hy2, rfl⟩
          · exact n2 rfl
          rw [b2i_ne_zero, decide_eq_true_eq] at n1 n2
          simp only [Bool.or_eq_true, Bool.and_eq_true] at hand
          -- each alternative is `isSame` of the common operands and `o`, the other two opposite; only `o` is needed
          rcases hand with ((⟨_, o⟩ | ⟨_, o⟩) | ⟨_, o⟩) | ⟨_, o⟩
          · exact ih _ _ _ _ gr1 gr2 o y1 y2 hy1 hy2 ⟨n1, n2⟩
          · exact ih _ _ _ _ gr1 gl2 o y1 x2 hy1 hx2 ⟨n1, nx2⟩
          · exact ih _ _ _ _ gl1 gr2 o x1 y2 hx1 hy2 ⟨nx1, n2⟩
          · exact ih _ _ _ _ gl1 gl2 o x1 x2 hx1 hx2 ⟨nx1, nx2⟩
        · simp at hand
      · rw [if_neg hand] at h
        split at h
        · -- `||` on one side
          rename_i l r co other hp
          simp only [Bool.and_eq_true] at h
          rcases lorPick_spec hp with ⟨a, rfl, rfl, rfl⟩ | ⟨a, rfl, rfl, rfl⟩
          · exact (Opposite.lor (ih _ _ _ _ g2.bin.1 g1 h.1) (ih _ _ _ _ g2.bin.2 g1 h.2)).symm
          · exact .lor (ih _ _ _ _ g1.bin.1 g2 h.1) (ih _ _ _ _ g1.bin.2 g2 h.2)
        · split at h
          · -- cond1 = !x
            rename_i x hx
            obtain ⟨a, rfl⟩ := notArg_spec hx
            exact .not (notBranch_sound hz h g1.1.un g2.1)
          · split at h
            · -- cond2 = !y
              rename_i y hy
              obtain ⟨a, rfl⟩ := notArg_spec hy
              split at h
              · simp at h
              · exact (Opposite.not (notBranch_sound hz h g2.1.un g1.1)).symm
            · exact cmpPart_sound h g1 g2

end Cppcheck.CondExpr
