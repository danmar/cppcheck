import Cppcheck.Model.HtmlReport
/-
C36, cppcheck-htmlreport: sorting and grouping by file only permute the findings; `html_escape`, numbers and css classes
give `wellEscaped` text; on a source line whose only newline is the final one, `annotateLine` appends the annotations
in order.
-/
namespace Cppcheck.Html
open List

theorem insertFront_perm {α} (lt : α → α → Bool) (x : α) (l : List α) : insertFront lt x l ~ x :: l := by
  induction l with
  | nil => simp [insertFront]
  | cons y r ih =>
    simp only [insertFront]
    split
    · exact ((Perm.cons y ih).trans (Perm.swap x y r))
    · exact Perm.refl _

theorem stableSort_perm {α} (lt : α → α → Bool) (l : List α) : stableSort lt l ~ l := by
  induction l with
  | nil => simp [stableSort]
  | cons x r ih => exact (insertFront_perm lt x _).trans (Perm.cons x ih)

/-- the findings of the groups, each beside the file name of its group -/
def tagged (gs : List Group) : List (Str × Err) := gs.flatMap fun g => g.errs.map (g.file, ·)

theorem addErr_tagged (gs : List Group) (n : Nat) (e : Err) : tagged (addErr gs n e) ~ tagged gs ++ [(e.file, e)] := by
  induction gs with
  | nil => exact Perm.refl _
  | cons g r ih =>
    simp only [addErr]
    split
    · next hf =>
      simp only [tagged, List.flatMap_cons, List.map_append, List.map_cons, List.map_nil, ← hf, List.append_assoc]
      exact Perm.append_left _ perm_append_comm
    · simp only [tagged, List.flatMap_cons, List.append_assoc]
      exact Perm.append_left _ ih

theorem groupsAux_tagged (es : List Err) : ∀ gs : List Group,
    tagged (groupsAux es gs) ~ tagged gs ++ es.map fun e => (e.file, e) := by
  induction es with
  | nil => intro gs; simp [groupsAux]
  | cons e r ih =>
    intro gs
    refine (ih _).trans ?_
    rw [List.map_cons, ← List.singleton_append, ← List.append_assoc]
    exact Perm.append_right _ (addErr_tagged gs gs.length e)

theorem groups_perm (es : List Err) : (groups es).flatMap (·.errs) ~ es := by
  simpa [groups, tagged, List.map_flatMap, Function.comp_def] using (groupsAux_tagged es []).map Prod.snd

theorem flatMap_perm_congr {α β} (l : List α) (f h : α → List β) (hh : ∀ a ∈ l, f a ~ h a) :
    l.flatMap f ~ l.flatMap h := by
  induction l with
  | nil => simp
  | cons a r ih =>
    simp only [List.flatMap_cons]
    exact Perm.append (hh a (by simp)) (ih (fun b hb => hh b (by simp [hb])))

theorem sortedGroups_file (es : List Err) : ∀ g ∈ sortedGroups es, ∀ x ∈ g.errs, x.file = g.file := by
  intro g hg x hx
  have h : (g.file, x) ∈ tagged (groups es) :=
    List.mem_flatMap.mpr ⟨g, (stableSort_perm _ _).subset hg, List.mem_map.mpr ⟨x, hx, rfl⟩⟩
  obtain ⟨e, _, he⟩ := List.mem_map.mp ((groupsAux_tagged es []).subset h)
  obtain ⟨hf, rfl⟩ := Prod.mk.inj he
  exact hf

def special (c : Char) : Bool := c = '<' || c = '>' || c = '"' || c = '\''

def plain (c : Char) : Bool := !special c && c != '&'

/-- text in which `<`, `>`, `"`, `'` do not occur and every `&` starts one of the five entities `html_escape` emits -/
def wellEscaped : Str → Bool
  | '&' :: 'a' :: 'm' :: 'p' :: ';' :: r => wellEscaped r
  | '&' :: 'l' :: 't' :: ';' :: r => wellEscaped r
  | '&' :: 'g' :: 't' :: ';' :: r => wellEscaped r
  | '&' :: 'q' :: 'u' :: 'o' :: 't' :: ';' :: r => wellEscaped r
  | '&' :: 'a' :: 'p' :: 'o' :: 's' :: ';' :: r => wellEscaped r
  | c :: r => plain c && wellEscaped r
  | [] => true

theorem wellEscaped_cons {c : Char} (h : c ≠ '&') (r : Str) : wellEscaped (c :: r) = (plain c && wellEscaped r) := by
  apply wellEscaped.eq_6 <;> intro _ hc <;> exact absurd hc h

theorem special_of_plain {c : Char} (h : plain c = true) : special c = false := by
  simp only [plain, Bool.and_eq_true, Bool.not_eq_true'] at h
  exact h.1

theorem plain_of_ne {c : Char} (h : ∀ d ∈ ['<', '>', '"', '\'', '&'], c ≠ d) : plain c = true := by
  simp only [List.forall_mem_cons, List.not_mem_nil, false_imp_iff, implies_true, and_true] at h
  simp [plain, special, h]

theorem plain_of_avoids {p : Char → Bool} (hp : ∀ d ∈ ['<', '>', '"', '\'', '&'], p d = false) {c : Char}
    (hc : p c = true) : plain c = true := by
  refine plain_of_ne ?_
  rintro d hd rfl
  rw [hp c hd] at hc
  cases hc

theorem wellEscaped_escChar_append (c : Char) (t : Str) : wellEscaped (escChar c ++ t) = wellEscaped t := by
  unfold escChar
  split
  · simp only [String.reduceToList]; rfl
  · simp only [String.reduceToList]; rfl
  · simp only [String.reduceToList]; rfl
  · simp only [String.reduceToList]; rfl
  · simp only [String.reduceToList]; rfl
  · next h1 h2 h3 h4 h5 =>
    have : plain c = true := plain_of_ne (by simpa using ⟨h2, h3, h4, h5, h1⟩)
    rw [List.singleton_append, wellEscaped_cons h1, this, Bool.true_and]

theorem escape_wellEscaped (s : Str) : wellEscaped (htmlEscape s) = true := by
  induction s with
  | nil => rfl
  | cons c r ih => rw [htmlEscape, List.flatMap_cons, wellEscaped_escChar_append]; exact ih

theorem plain_wellEscaped : ∀ s : Str, (∀ c ∈ s, plain c = true) → wellEscaped s = true := by
  intro s
  induction s with
  | nil => intro _; rfl
  | cons c r ih =>
    intro h
    rw [List.forall_mem_cons] at h
    have hne : c ≠ '&' := by rintro rfl; exact absurd h.1 (by decide)
    rw [wellEscaped_cons hne, h.1, ih h.2]; rfl

theorem natStr_plain (n : Nat) : ∀ c ∈ natStr n, plain c = true := by
  intro c hc
  have : natStr n = Nat.toDigits 10 n := by simp [natStr]
  rw [this] at hc
  exact plain_of_avoids (p := Char.isDigit) (by decide) (Nat.isDigit_of_mem_toDigits (by decide) (by decide) hc)

theorem mem_ite_append {c : Char} {b : Bool} {a v : Str} (h : c ∈ (if b = true then a ++ v else v)) :
    c ∈ a ∨ c ∈ v := by
  cases b <;> simp_all

theorem css_plain (s : Str) : ∀ c ∈ toCssSelector s, plain c = true := by
  intro c hc
  dsimp only [toCssSelector] at hc
  rcases mem_ite_append hc with hc | hc
  · exact (by decide : ∀ c ∈ "cpp".toList, plain c = true) c hc
  · obtain ⟨a, _, rfl⟩ := List.mem_map.mp hc
    split
    · exact plain_of_avoids (p := cssOk) (by decide) ‹_›
    · decide

theorem flatMap_eq_self {α} {f : α → List α} {l : List α} (h : ∀ a ∈ l, f a = [a]) : l.flatMap f = l := by
  rw [List.flatMap_def, List.map_congr_left h, ← List.flatMap_def, List.flatMap_singleton']

theorem replaceNl_append_nl (a x : Str) (ha : '\n' ∉ a) : replaceNl (a ++ ['\n']) x = a ++ x := by
  have h1 : a.flatMap (fun c => if c = '\n' then x else [c]) = a :=
    flatMap_eq_self fun c hc => if_neg (ne_of_mem_of_not_mem hc ha)
  simp [replaceNl, List.flatMap_append, h1]

theorem replaceLastNl_append_nl (a x : Str) : replaceLastNl (a ++ ['\n']) x = a ++ x := by
  simp [replaceLastNl, List.idxOf?, List.findIdx?_cons]

/-- the annotation of an entry without its final newline -/
def annotBody (p : PageErr) : Option Str := (annotPieces p).map fun bx => (render bx.2).dropLast

theorem render_ends {ps : List Piece} {q : Piece} {c : Char} (hq : ps.getLast? = some q)
    (hc : q.render.getLast? = some c) : render ps = (render ps).dropLast ++ [c] := by
  obtain ⟨ys, rfl⟩ := getLast?_eq_some_iff.mp hq
  obtain ⟨t, ht⟩ := getLast?_eq_some_iff.mp hc
  rw [render, List.flatMap_append, List.flatMap_singleton, ht, ← List.append_assoc, List.dropLast_concat]

theorem annot_render_ends_nl (p : PageErr) (b : Bool) (x : List Piece) (h : annotPieces p = some (b, x)) :
    render x = (render x).dropLast ++ ['\n'] := by
  unfold annotPieces at h
  simp only at h
  split at h
  · cases h
  · split at h <;> cases h
    · exact render_ends (q := L "</div></div>\n") rfl (by decide)
    · exact render_ends (q := L "</span>\n") rfl (by decide)

def annotStep (t : Str) (p : PageErr) : Str :=
  match annotPieces p with
  | none => t
  | some (true, x) => replaceLastNl t (render x)
  | some (false, x) => replaceNl t (render x)

theorem annotateLine_cons (t : Str) (p : PageErr) (r : List PageErr) :
    annotateLine t (p :: r) = annotateLine (annotStep t p) r := rfl

theorem annotStep_nl {acc : Str} (hacc : '\n' ∉ acc) (p : PageErr) :
    annotStep (acc ++ ['\n']) p = acc ++ (annotBody p).getD [] ++ ['\n'] := by
  unfold annotStep annotBody
  cases hp : annotPieces p with
  | none => simp
  | some bx =>
    obtain ⟨b, x⟩ := bx
    have hx := annot_render_ends_nl p b x hp
    cases b
    · simp only [replaceNl_append_nl _ _ hacc, Option.map_some, Option.getD_some, List.append_assoc, ← hx]
    · simp only [replaceLastNl_append_nl, Option.map_some, Option.getD_some, List.append_assoc, ← hx]

theorem annotateLine_concat : ∀ (ps : List PageErr) (acc : Str), '\n' ∉ acc →
    (∀ p ∈ ps, ∀ y, annotBody p = some y → '\n' ∉ y) →
    annotateLine (acc ++ ['\n']) ps = acc ++ (ps.filterMap annotBody).flatten ++ ['\n'] := by
  intro ps
  induction ps with
  | nil => intro acc _ _; simp [annotateLine]
  | cons p r ih =>
    intro acc hacc h
    rw [List.forall_mem_cons] at h
    rw [annotateLine_cons, annotStep_nl hacc]
    cases hb : annotBody p with
    | none => simpa [hb] using ih acc hacc h.2
    | some y => simpa [hb] using ih (acc ++ y) (by simp [hacc, h.1 y hb]) h.2

end Cppcheck.Html
