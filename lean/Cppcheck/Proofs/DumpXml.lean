import Cppcheck.Model.DumpXml
/-
C14, the value writers of the dump: `toxml` output is attribute-safe (`AttrSafe`) and the reader `unescAux` gets the string back;
`idString` has a left inverse (`hexValue`) and, like the decimal numerals, consists of plain characters only.
-/
namespace Cppcheck.DumpXml

/-- XML 1.0 AttValue content / CharData, restricted to the references `toxml` emits:
    a concatenation of pieces, each a reference or one character that may stand for itself -/
def AttrSafe (o : Str) : Prop :=
  ∃ ps : List Str, o = ps.flatten ∧ ∀ p ∈ ps, p ∈ refs ∨ ∃ c, p = [c] ∧ plainOK c = true

theorem AttrSafe.nil : AttrSafe [] := ⟨[], rfl, by simp⟩

theorem AttrSafe.append {a b : Str} (ha : AttrSafe a) (hb : AttrSafe b) : AttrSafe (a ++ b) := by
  obtain ⟨pa, ha1, ha2⟩ := ha
  obtain ⟨pb, hb1, hb2⟩ := hb
  refine ⟨pa ++ pb, by simp [ha1, hb1], ?_⟩
  intro p hp
  rcases List.mem_append.1 hp with h | h
  · exact ha2 p h
  · exact hb2 p h

theorem AttrSafe.ref {r : Str} (h : r ∈ refs) : AttrSafe r := ⟨[r], by simp, by simpa using .inl h⟩
theorem AttrSafe.plain {c : Char} (h : plainOK c = true) : AttrSafe [c] := ⟨[[c]], by simp, by simpa using .inr h⟩

theorem toxmlChar_safe (c : Char) : AttrSafe (toxmlChar c) := by
  fun_cases toxmlChar c
  -- (the cases are numbered in the order of `toxmlChar`'s branches) NUL is written as the two plain characters `\0`
  case case6 => exact .append (a := ['\\']) (b := ['0']) (.plain (by decide)) (.plain (by decide))
  case case10 h1 h2 h3 h4 h5 _ _ _ _ h => exact .plain (by simp [plainOK, h.1, h.2, h1, h2, h3, h4, h5])
  case case11 => exact .plain (by decide)
  -- the other eight bytes are written as references
  all_goals exact .ref (by decide)

theorem unesc_toxmlChar (c : Char) (h : roundtripChar c = true) (rest : Str) :
    unescAux none (toxmlChar c ++ rest) = c :: unescAux none rest := by
  fun_cases toxmlChar c
  -- NUL and the bytes written as `x` are outside the class
  case case6 hc => subst hc; exact absurd h (by decide)
  case case11 h1 h2 h3 hr => simp [roundtripChar, h1, h2, h3, hr] at h
  case case10 h3 _ _ _ _ _ _ _ => simp [unescAux, h3]
  -- the eight references: the reader runs on the reference it was given
  all_goals (rename_i hc; subst hc; rfl)

def hexVal (c : Char) : Nat :=
  if c.toNat < 58 then c.toNat - 48 else c.toNat - 87

/-- value of a hexadecimal numeral -/
def hexValue (s : Str) : Nat := s.foldl (fun a c => 16 * a + hexVal c) 0

theorem hexVal_hexDigit : ∀ d, d < 16 → hexVal (hexDigit d) = d := by decide
theorem plainOK_hexDigit : ∀ d, d < 16 → plainOK (hexDigit d) = true := by decide

/-- the loop puts the digits of `l` in front of `acc` -/
theorem hexValue_idDigits : ∀ (f l : Nat) (acc : Str), l ≤ f →
    hexValue (idDigits f l acc) = acc.foldl (fun a c => 16 * a + hexVal c) l
  | 0, l, acc, h => by
    obtain rfl : l = 0 := by omega
    rfl
  | f + 1, l, acc, h => by
    unfold idDigits
    split
    · next h0 => rw [h0]; rfl
    · rw [hexValue_idDigits f _ _ (by omega), List.foldl_cons, hexVal_hexDigit _ (Nat.mod_lt _ (by decide)),
        Nat.div_add_mod]

theorem hexValue_idString (l : Nat) : hexValue (idString l) = l := by
  unfold idString
  split
  · next h => rw [h]; decide
  · exact hexValue_idDigits l l [] (Nat.le_refl l)

theorem idDigits_plain : ∀ (f l : Nat) (acc : Str), (∀ c ∈ acc, plainOK c = true) → ∀ c ∈ idDigits f l acc, plainOK c = true
  | 0, _, _, h => h
  | f + 1, l, acc, h => by
    unfold idDigits
    split
    · exact h
    · exact idDigits_plain f _ _ (List.forall_mem_cons.2 ⟨plainOK_hexDigit _ (Nat.mod_lt _ (by decide)), h⟩)

theorem idString_plain (l : Nat) : ∀ c ∈ idString l, plainOK c = true := by
  unfold idString
  split
  · decide
  · exact idDigits_plain l l [] (by simp)

theorem AttrSafe.of_plain : ∀ (s : Str), (∀ c ∈ s, plainOK c = true) → AttrSafe s
  | [], _ => .nil
  | c :: r, h =>
    have ⟨hc, hr⟩ := List.forall_mem_cons.1 h
    AttrSafe.append (a := [c]) (.plain hc) (of_plain r hr)

theorem plainOK_decDigit : ∀ d, d < 10 → plainOK (Char.ofNat (48 + d)) = true := by decide

theorem decDigits_plain : ∀ (f l : Nat) (acc : Str), (∀ c ∈ acc, plainOK c = true) → ∀ c ∈ decDigits f l acc, plainOK c = true
  | 0, _, _, h => h
  | f + 1, l, acc, h => by
    unfold decDigits
    split
    · exact h
    · exact decDigits_plain f _ _ (List.forall_mem_cons.2 ⟨plainOK_decDigit _ (Nat.mod_lt _ (by decide)), h⟩)

theorem natString_plain (l : Nat) : ∀ c ∈ natString l, plainOK c = true := by
  unfold natString
  split
  · decide
  · exact decDigits_plain l l [] (by simp)

theorem intString_plain : ∀ z : Int, ∀ c ∈ intString z, plainOK c = true
  | .ofNat n => natString_plain n
  | .negSucc n => List.forall_mem_cons.2 ⟨by decide, natString_plain _⟩

end Cppcheck.DumpXml
