/-!
Decimal notation, once.  Most model files print numbers with a loop of their own (`Cache` and `PPCond` call `Nat.toDigits 10`
themselves); each loop is proved equal to core's `Nat.toDigits 10` in the proof file of its region, and what is needed of the
printed form is taken from here and from `Init.Data.Nat.ToString`.
-/
namespace Cppcheck.Decimal

/-- the models write a digit as `Char.ofNat (48 + d)` -/
theorem digitChar_eq : ∀ d, d < 10 → Nat.digitChar d = Char.ofNat (48 + d) := by decide

theorem digitChar_mod (n : Nat) : Nat.digitChar (n % 10) = Char.ofNat (48 + n % 10) :=
  digitChar_eq _ (Nat.mod_lt _ (by decide))

/-- fuel for all digits but the last is enough -/
theorem toDigits_of_loop {F : Nat → Nat → List Char}
    (hF : ∀ f n, F (f + 1) n = if n < 10 then [Char.ofNat (48 + n)] else F f (n / 10) ++ [Char.ofNat (48 + n % 10)]) :
    ∀ f n, n / 10 < f → F f n = Nat.toDigits 10 n
  | f + 1, n, h => by
    rw [hF, Nat.toDigits_eq_if (by decide)]
    split
    · rw [digitChar_eq n ‹_›]
    · rw [toDigits_of_loop hF f _ (by omega), digitChar_mod]

theorem toDigits_all {P : Char → Prop} (hP : ∀ d, d < 10 → P (Char.ofNat (48 + d))) (n : Nat) : ∀ c ∈ Nat.toDigits 10 n, P c := by
  induction n using Nat.strongRecOn with
  | _ n ih =>
    rw [Nat.toDigits_eq_if (by decide)]
    split
    · simpa [digitChar_eq n ‹_›] using hP n ‹_›
    · intro c hc
      rcases List.mem_append.1 hc with hc | hc
      · exact ih _ (by omega) c hc
      · simpa [List.mem_singleton.1 hc, digitChar_mod] using hP _ (Nat.mod_lt n (by decide))

theorem toDigits_zero_head {n : Nat} {t : List Char} (h : Nat.toDigits 10 n = '0' :: t) : n = 0 := by
  induction n using Nat.strongRecOn generalizing t with
  | _ n ih =>
    rw [Nat.toDigits_eq_if (by decide)] at h
    split at h
    · exact (by simpa using h : n = 0 ∧ t = []).1
    · match hq : Nat.toDigits 10 (n / 10) with
      | [] => simp at hq
      | c :: r =>
        rw [hq] at h
        have := ih (n / 10) (by omega) (hq.trans (by rw [(List.cons.inj h).1]))
        omega

theorem toDigits_head (n : Nat) : ∃ c t, Nat.toDigits 10 n = c :: t ∧ (c = '0' → t = []) := by
  match h : Nat.toDigits 10 n with
  | [] => simp at h
  | c :: t =>
    refine ⟨c, t, rfl, ?_⟩
    rintro rfl
    simpa [toDigits_zero_head h] using h.symm

theorem toDigits_inj {m n : Nat} (h : Nat.toDigits 10 m = Nat.toDigits 10 n) : m = n := by
  simpa using congrArg (Nat.ofDigitChars 10 · 0) h

/-- as the readers compute it (`10 * a`; primed: `a * 10`) -/
theorem foldl_toDigits (n : Nat) : (Nat.toDigits 10 n).foldl (fun a c => 10 * a + (c.toNat - 48)) 0 = n :=
  Nat.ofDigitChars_ten_toDigits

theorem foldl_toDigits' (n : Nat) : (Nat.toDigits 10 n).foldl (fun a c => a * 10 + (c.toNat - 48)) 0 = n := by
  simpa only [Nat.mul_comm] using foldl_toDigits n

end Cppcheck.Decimal
