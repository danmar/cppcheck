import Cppcheck.Model.SuppressParse
import Cppcheck.Proofs.TextLemmas
import Cppcheck.Proofs.Decimal
/-
The suppression parser against the printer, layer by layer: the decimal round trip; one line, `parseLine ∘ toString`;
a text file of printed lines, split and parsed in order; the fields of a `<suppress>` element of the XML form, where an
absent child leaves the field's default.
-/
namespace Cppcheck.SuppressParse
open Cppcheck.Wire Cppcheck.Glob Cppcheck.Suppress

/-- characters that can occur in a printed number -/
def numChar (c : Char) : Prop :=
  isDigit c = true ∧ isSpace c = false ∧ c ≠ '-' ∧ c ≠ '+' ∧ c ≠ ':' ∧ c ≠ '.' ∧ c ≠ '\n'

instance (c : Char) : Decidable (numChar c) := by unfold numChar; infer_instance

theorem natToDec_eq : ∀ n, natToDec n = Nat.toDigits 10 n
  | 0 => rfl
  | n + 1 => Decimal.toDigits_of_loop (F := natToDecAux) (fun _ _ => rfl) _ _ (by omega)

theorem natToDec_spec (n : Nat) :
    decVal (natToDec n) = n ∧ (∀ c ∈ natToDec n, numChar c) ∧
    (∃ c r, natToDec n = c :: r ∧ (c = '0' → r = [])) := by
  rw [natToDec_eq]
  exact ⟨Decimal.foldl_toDigits' n, Decimal.toDigits_all (by decide) n, Decimal.toDigits_head n⟩

theorem strToIntCore_digits (s : Str) (neg : Bool) (ds : Str) (hne : ds ≠ []) (hall : ∀ x ∈ ds, numChar x)
    (hfront : frontOk s = true) (v : Int) (hv : (if neg then -(decVal ds : Int) else (decVal ds : Int)) = v)
    (h1 : intMin ≤ v) (h2 : v ≤ intMax) : strToIntCore s neg ds = .ok v := by
  have htk : ds.takeWhile isDigit = ds := Text.takeWhile_eq_self (fun x hx => (hall x hx).1)
  have hdr : ds.dropWhile isDigit = [] := Text.dropWhile_eq_nil (fun x hx => (hall x hx).1)
  have he : ds.isEmpty = false := by cases ds with | nil => exact absurd rfl hne | cons _ _ => rfl
  have hll : (if neg then decVal ds > llMax + 1 else decVal ds > llMax) = False := by
    unfold intMin at h1; unfold intMax at h2; unfold llMax
    cases neg <;> simp only [if_true, if_false, Bool.false_eq_true] at hv ⊢ <;> apply eq_false <;> omega
  have h3 : (v < intMin) = False := eq_false (by omega)
  have h4 : (v > intMax) = False := eq_false (by omega)
  unfold strToIntCore
  simp only [htk, hdr, hfront, he, hv, hll, h3, h4]
  rfl

/-- `strToInt<int>(std::to_string(i)) == i` for every `int` -/
theorem strToInt_intToDec (i : Int) (h1 : intMin ≤ i) (h2 : i ≤ intMax) : strToInt (intToDec i) = .ok i := by
  unfold intToDec strToInt
  obtain ⟨hv, hall, c, r, hcr, hz⟩ := natToDec_spec i.natAbs
  generalize natToDec i.natAbs = ds at hv hall hcr ⊢
  subst hcr
  by_cases hn : i < 0
  · have hbody : ('-' :: c :: r).dropWhile isSpace = '-' :: c :: r := by simp [List.dropWhile, isSpace]
    rw [if_pos hn, hbody]
    exact strToIntCore_digits ('-' :: c :: r) true (c :: r) (by simp) hall rfl i (by rw [if_pos rfl, hv]; omega) h1 h2
  · obtain ⟨hd, hs, hm, hp, -⟩ := hall c (by simp)
    have hbody : (c :: r).dropWhile isSpace = c :: r := by simp [List.dropWhile, hs]
    have hsplit : signSplit (c :: r) = (false, c :: r) := by
      unfold signSplit
      split
      · rename_i heq; simp only [List.cons.injEq] at heq; exact absurd heq.1 hm
      · rename_i heq; simp only [List.cons.injEq] at heq; exact absurd heq.1 hp
      · rfl
    have hfront : frontOk (c :: r) = true := by
      unfold frontOk
      by_cases hc0 : c = '0'
      · simp [hd, hz hc0]
      · simp [hd, hc0]
    rw [if_neg hn, hbody, hsplit]
    exact strToIntCore_digits (c :: r) false (c :: r) (by simp) hall hfront i (by rw [if_neg Bool.false_ne_true, hv]; omega) h1 h2

theorem intToDec_chars (i : Int) : ∀ c ∈ intToDec i, c ≠ ':' ∧ c ≠ '.' ∧ c ≠ '\n' := by
  intro c hc
  unfold intToDec at hc
  obtain ⟨-, hall, -⟩ := natToDec_spec i.natAbs
  split at hc
  · rcases List.mem_cons.1 hc with rfl | h
    · decide
    · exact (hall c h).2.2.2.2
  · exact (hall c hc).2.2.2.2

theorem splitOn_eq (sep : Char) : ∀ s, splitOn sep s = s.splitOn sep :=
  Text.eq_splitOn rfl (fun r => by simp [splitOn]) fun x r w ws hx h => by simp [splitOn, hx, h]

theorem splitOn_ne_nil (sep : Char) (s : Str) : splitOn sep s ≠ [] := by
  rw [splitOn_eq]; exact List.splitOn_ne_nil sep s

theorem splitOn_noSep (sep : Char) : ∀ (a : Str), (∀ c ∈ a, c ≠ sep) → splitOn sep a = [a] :=
  fun a h => by rw [splitOn_eq, List.splitOn_eq_singleton fun hm => h sep hm rfl]

theorem splitOn_append (sep : Char) : ∀ (a b : Str), (∀ c ∈ a, c ≠ sep) →
    splitOn sep (a ++ sep :: b) = a :: splitOn sep b :=
  fun a b h => by rw [splitOn_eq, splitOn_eq, List.splitOn_append_cons_self_of_not_mem fun hm => h sep hm rfl]

theorem takeWhile_append_sep (sep : Char) (a b : Str) (h : ∀ c ∈ a, c ≠ sep) :
    (a ++ sep :: b).takeWhile (· ≠ sep) = a ∧ (a ++ sep :: b).dropWhile (· ≠ sep) = sep :: b :=
  have hp : ∀ c ∈ a, decide (c ≠ sep) = true := fun c hc => decide_eq_true (h c hc)
  ⟨Text.takeWhile_append_stop hp (.cons (by simp) b), Text.dropWhile_append_stop hp (.cons (by simp) b)⟩

theorem takeWhile_noSep (sep : Char) (a : Str) (h : ∀ c ∈ a, c ≠ sep) :
    a.takeWhile (· ≠ sep) = a ∧ a.dropWhile (· ≠ sep) = [] :=
  ⟨Text.takeWhile_eq_self (fun c hc => by simpa using h c hc), Text.dropWhile_eq_nil (fun c hc => by simpa using h c hc)⟩

theorem splitLastColon_append (a d : Str) (hd : ∀ c ∈ d, c ≠ ':') :
    splitLastColon (a ++ ':' :: d) = some (a, d) := by
  unfold splitLastColon
  have hr : (a ++ ':' :: d).reverse = d.reverse ++ ':' :: a.reverse := by simp
  have hd' : ∀ c ∈ d.reverse, c ≠ ':' := fun c hc => hd c (List.mem_reverse.1 hc)
  obtain ⟨t1, t2⟩ := takeWhile_append_sep ':' d.reverse a.reverse hd'
  simp only [hr, t1, t2, List.reverse_reverse]

theorem contains_false_iff {s : Str} {x : Char} : s.contains x = false ↔ ∀ c ∈ s, c ≠ x := by
  rw [← Bool.not_eq_true, List.contains_iff_mem]
  exact ⟨fun h c hc hcx => h (hcx ▸ hc), fun h hx => h x hx rfl⟩

/-- the part of the printed form in front of the first '\n' -/
def firstPart (s : Suppr) : Str :=
  s.errorId ++ (if s.fileName.isEmpty then [] else
    ':' :: s.fileName ++ (if s.lineNumber = -1 then [] else ':' :: intToDec s.lineNumber))

def extrasOf (s : Suppr) : List Str :=
  (if s.symbolName.isEmpty then [] else [symbolPrefix ++ s.symbolName]) ++
  (if s.isPolyspace then [polyspaceExtra] else [])

theorem toString_eq (s : Suppr) :
    toString s = firstPart s ++ ((if s.symbolName.isEmpty then [] else '\n' :: symbolPrefix ++ s.symbolName) ++
      (if s.isPolyspace then '\n' :: polyspaceExtra else [])) := by
  unfold toString firstPart
  simp [List.append_assoc]

theorem polyspaceExtra_noNl : ∀ c ∈ polyspaceExtra, c ≠ '\n' := by decide +kernel
theorem symbolPrefix_noNl : ∀ c ∈ symbolPrefix, c ≠ '\n' := by decide +kernel

theorem split_toString (s : Suppr) (h1 : ∀ c ∈ firstPart s, c ≠ '\n') (h2 : ∀ c ∈ s.symbolName, c ≠ '\n') :
    splitOn '\n' (toString s) = firstPart s :: extrasOf s := by
  rw [toString_eq]
  unfold extrasOf
  have hsym : ∀ c ∈ symbolPrefix ++ s.symbolName, c ≠ '\n' := List.forall_mem_append.2 ⟨symbolPrefix_noNl, h2⟩
  by_cases he : s.symbolName.isEmpty = true <;> by_cases hp : s.isPolyspace = true
  · simp only [he, hp, if_true, List.nil_append]
    rw [splitOn_append _ _ _ h1, splitOn_noSep _ _ polyspaceExtra_noNl]
  · simp only [he, hp, if_true, if_false, List.append_nil, Bool.false_eq_true]
    rw [splitOn_noSep _ _ h1]
  · simp only [he, hp, if_true, if_false, Bool.false_eq_true, List.cons_append]
    rw [splitOn_append _ _ _ h1, splitOn_append _ _ _ hsym, splitOn_noSep _ _ polyspaceExtra_noNl]
    rfl
  · simp only [he, hp, if_false, Bool.false_eq_true, List.append_nil, List.cons_append]
    rw [splitOn_append _ _ _ h1, splitOn_noSep _ _ hsym]

theorem isPrefixOf_append (a b : Str) : a.isPrefixOf (a ++ b) = true :=
  List.isPrefixOf_iff_prefix.2 (List.prefix_append a b)

theorem parseExtras_extrasOf (s s1 : Suppr) (h1 : s1.symbolName = []) (h2 : s1.isPolyspace = false) :
    parseExtras (extrasOf s) s1 = .ok { s1 with symbolName := s.symbolName, isPolyspace := s.isPolyspace } := by
  unfold extrasOf
  have hnp : symbolPrefix.isPrefixOf polyspaceExtra = false := by decide +kernel
  have hdrop : (symbolPrefix ++ s.symbolName).drop 7 = s.symbolName := by
    have : symbolPrefix.length = 7 := by decide +kernel
    rw [← this, List.drop_left]
  by_cases he : s.symbolName.isEmpty = true <;> by_cases hp : s.isPolyspace = true
  · have he' : s.symbolName = [] := by simpa using he
    simp [hp, parseExtras, hnp, he', h1]
  · have he' : s.symbolName = [] := by simpa using he
    have hp' : s.isPolyspace = false := by simpa using hp
    cases s1
    simp only at h1 h2
    subst h1 h2
    simp [parseExtras, he', hp']
  · simp [he, hp, parseExtras, isPrefixOf_append, hdrop, hnp]
  · have hp' : s.isPolyspace = false := by simpa using hp
    simp [he, hp', parseExtras, isPrefixOf_append, hdrop, h2]

theorem parseFirst_id (env : Env) {id : Str} (hid : ∀ c ∈ id, c ≠ ':') : parseFirst env id = .ok { errorId := id } := by
  obtain ⟨t1, t2⟩ := takeWhile_noSep ':' id hid
  rw [parseFirst, t2, t1]

theorem parseFirst_file (env : Env) {id file : Str} (hid : ∀ c ∈ id, c ≠ ':') (hne : file ≠ [])
    (h : (match splitLastColon file with | none => true | some (_, post) => post.contains '.') = true) :
    parseFirst env (id ++ ':' :: file) = .ok { errorId := id, fileName := env.simplify file } := by
  obtain ⟨t1, t2⟩ := takeWhile_append_sep ':' id file hid
  rw [parseFirst, t2, t1]
  simp only [List.isEmpty_iff, hne, if_false]
  cases hsp : splitLastColon file with
  | none => rfl
  | some pp => rw [hsp] at h; simp only [h, Bool.not_true, Bool.false_eq_true, if_false]

theorem parseFirst_line (env : Env) {id file num : Str} {n : Int} (hid : ∀ c ∈ id, c ≠ ':') (hne : file ≠ [])
    (hnum : ∀ c ∈ num, c ≠ ':' ∧ c ≠ '.') (hn : strToInt num = .ok n) :
    parseFirst env (id ++ ':' :: (file ++ ':' :: num)) =
      .ok { errorId := id, fileName := env.simplify file, lineNumber := n } := by
  obtain ⟨t1, t2⟩ := takeWhile_append_sep ':' id (file ++ ':' :: num) hid
  rw [parseFirst, t2, t1]
  simp only [List.isEmpty_iff, List.append_eq_nil_iff, hne, false_and, if_false,
    splitLastColon_append _ _ (fun c hc => (hnum c hc).1), contains_false_iff.2 (fun c hc => (hnum c hc).2), Bool.not_false,
    if_true, hn]

theorem parseLine_toString (env : Env) (s : Suppr) (h : printable env s = true) :
    parseLine env (toString s) = .ok (printedFields s) := by
  unfold printable at h
  simp only [Bool.and_eq_true, Bool.not_eq_true', decide_eq_true_eq] at h
  obtain ⟨⟨⟨⟨⟨⟨hc, hi1⟩, hi2⟩, hf⟩, hsy⟩, hsim⟩, hrest⟩ := h
  have hi1 := contains_false_iff.1 hi1
  have hi2 := contains_false_iff.1 hi2
  have hf := contains_false_iff.1 hf
  have hsy := contains_false_iff.1 hsy
  have hfirstNl : ∀ c ∈ firstPart s, c ≠ '\n' := by
    have hnum : ∀ c ∈ intToDec s.lineNumber, c ≠ '\n' := fun c hc => (intToDec_chars _ c hc).2.2
    unfold firstPart
    split
    · simpa using hi2
    · split <;> simp only [List.append_nil, List.forall_mem_append, List.forall_mem_cons]
      · exact ⟨hi2, by decide, hf⟩
      · exact ⟨hi2, ⟨by decide, hf⟩, by decide, hnum⟩
  unfold parseLine
  have hstrip : stripComment (toString s) = toString s := by
    unfold stripComment
    rw [Option.isNone_iff_eq_none.1 hc]
  simp only [hstrip, split_toString s hfirstNl hsy]
  have key : parseFirst env (firstPart s) =
      .ok { errorId := s.errorId, fileName := s.fileName, lineNumber := s.lineNumber } := by
    unfold firstPart
    by_cases hfe : s.fileName.isEmpty = true
    · rw [if_pos hfe] at hrest ⊢
      rw [List.append_nil, parseFirst_id env hi1, List.isEmpty_iff.1 hfe, of_decide_eq_true hrest]
    · rw [if_neg hfe] at hrest ⊢
      rw [List.isEmpty_iff] at hfe
      by_cases hl : s.lineNumber = -1
      · rw [if_pos hl] at hrest ⊢
        rw [List.append_nil, parseFirst_file env hi1 hfe hrest, hsim, hl]
      · rw [if_neg hl] at hrest ⊢
        have hrange : intMin ≤ s.lineNumber ∧ s.lineNumber ≤ intMax := by simpa using hrest
        rw [List.cons_append, parseFirst_line env hi1 hfe (fun c hc => ⟨(intToDec_chars _ c hc).1, (intToDec_chars _ c hc).2.1⟩)
          (strToInt_intToDec _ hrange.1 hrange.2), hsim]
  rw [key]
  simp only
  rw [parseExtras_extrasOf s _ rfl rfl]
  rfl

theorem addSuppressionLine_print (env : Env) (l : List Suppr) (s : Suppr) (h : printable env s = true) :
    addSuppressionLine env l (toString s) =
      (match addSuppression l (printedFields s) with
       | (.ok, l') => (none, l')
       | (e, l') => (some (.add e), l')) := by
  unfold addSuppressionLine
  rw [parseLine_toString env s h]
  rfl

theorem parseLines_print (env : Env) : ∀ (ss : List Suppr) (l : List Suppr),
    (∀ s ∈ ss, printable env s = true ∧ skipLine (toString s) = false) →
    parseLines env (ss.map toString) l = addSeq (ss.map printedFields) l := by
  intro ss
  induction ss with
  | nil => intro l _; rfl
  | cons s r ih =>
    intro l h
    obtain ⟨hp, hk⟩ := h s (by simp)
    simp only [List.map_cons, parseLines, hk, Bool.false_eq_true, if_false, addSeq]
    rw [addSuppressionLine_print env l s hp]
    rcases hadd : addSuppression l (printedFields s) with ⟨e, l'⟩
    cases e <;> simp only []
    exact ih l' (fun s' hs' => h s' (List.mem_cons_of_mem _ hs'))

theorem splitOn_fileOf (lines : List Str) (h : ∀ ln ∈ lines, ∀ c ∈ ln, c ≠ '\n') :
    splitOn '\n' (lines.map fun ln => ln ++ ['\n']).flatten = lines ++ [[]] := by
  induction lines with
  | nil => rfl
  | cons ln r ih =>
    simp only [List.map_cons, List.flatten_cons, List.append_assoc, List.cons_append, List.nil_append]
    rw [splitOn_append '\n' ln _ (h ln (by simp)), ih (fun x hx => h x (List.mem_cons_of_mem _ hx))]

theorem parseLines_append_blank (env : Env) : ∀ (lines : List Str) (l : List Suppr),
    parseLines env (lines ++ [[]]) l = parseLines env lines l := by
  intro lines
  induction lines with
  | nil => intro l; simp [parseLines, skipLine]
  | cons ln r ih =>
    intro l
    simp only [List.cons_append, parseLines]
    split
    · exact ih l
    · rcases addSuppressionLine env l ln with ⟨e, l'⟩
      cases e with
      | none => exact ih l'
      | some e => rfl

theorem map_cr_id (d : Str) (h : ∀ c ∈ d, c ≠ '\r') : (d.map fun c => if c = '\r' then '\n' else c) = d :=
  (List.map_congr_left fun c hc => if_neg (h c hc)).trans (List.map_id' d)

theorem xmlFields_id (env : Env) (t : Str) (r : List (Str × Str)) (s : Suppr) :
    xmlFields env (("id".toList, t) :: r) s = xmlFields env r { s with errorId := t } := by
  rw [xmlFields]; simp

theorem xmlFields_file (env : Env) (c : Prop) [Decidable c] (t : Str) (r : List (Str × Str)) (s : Suppr) :
    xmlFields env ((if c then [] else [("fileName".toList, t)]) ++ r) s =
      xmlFields env r { s with fileName := if c then s.fileName else env.simplify t } := by
  split
  · rfl
  · have e1 : ("fileName".toList = "id".toList) = False := by decide +kernel
    rw [List.singleton_append, xmlFields]; simp only [e1, if_false, if_true]

theorem xmlFields_line (env : Env) (c : Prop) [Decidable c] (t : Str) (n : Int) (r : List (Str × Str)) (s : Suppr)
    (h : strToInt t = .ok n) :
    xmlFields env ((if c then [] else [("lineNumber".toList, t)]) ++ r) s =
      xmlFields env r { s with lineNumber := if c then s.lineNumber else n } := by
  split
  · rfl
  · have e2 : ("lineNumber".toList = "id".toList) = False := by decide +kernel
    have e3 : ("lineNumber".toList = "fileName".toList) = False := by decide +kernel
    rw [List.singleton_append, xmlFields]; simp only [e2, e3, if_false, if_true, h]

theorem xmlFields_sym (env : Env) (c : Prop) [Decidable c] (t : Str) (r : List (Str × Str)) (s : Suppr) :
    xmlFields env ((if c then [] else [("symbolName".toList, t)]) ++ r) s =
      xmlFields env r { s with symbolName := if c then s.symbolName else t } := by
  split
  · rfl
  · have e4 : ("symbolName".toList = "id".toList) = False := by decide +kernel
    have e5 : ("symbolName".toList = "fileName".toList) = False := by decide +kernel
    have e6 : ("symbolName".toList = "lineNumber".toList) = False := by decide +kernel
    rw [List.singleton_append, xmlFields]; simp only [e4, e5, e6, if_false, if_true]

theorem xmlFields_print (env : Env) (s : Suppr) (h1 : intMin ≤ s.lineNumber) (h2 : s.lineNumber ≤ intMax) :
    xmlFields env (xmlOf s) {} = .ok (xmlFieldsOf env s) := by
  -- an absent element leaves the default, which is the value whose absence `xmlOf` tests for
  have hl : (if s.lineNumber = -1 then (-1 : Int) else s.lineNumber) = s.lineNumber := by
    split
    · next h => exact h.symm
    · rfl
  have hs : (if s.symbolName.isEmpty then [] else s.symbolName) = s.symbolName := by
    split
    · next h => exact (List.isEmpty_iff.1 h).symm
    · rfl
  unfold xmlOf
  rw [List.append_assoc, List.append_assoc, List.singleton_append, xmlFields_id, xmlFields_file,
    xmlFields_line _ _ _ _ _ _ (strToInt_intToDec _ h1 h2),
    ← List.append_nil (if s.symbolName.isEmpty = true then _ else _), xmlFields_sym, xmlFields]
  unfold xmlFieldsOf
  simp only [hl, hs]

end Cppcheck.SuppressParse
