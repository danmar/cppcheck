import Cppcheck.Model.Match
import Cppcheck.Proofs.TextLemmas
/-
C33, compiled side: where the language `langWords` is its two-valued core `semWords` (`wordOk`); the classification functions
`Cmd.ofStr` and `Word.ofStr`; `run (compileWords …)` against `langWords` by induction over the words of the pattern; the find
loop against its declarative reading `FirstMatch`.
-/
namespace Cppcheck.Match
open Cppcheck.Wire

/-- where the compiled condition evaluates like the language's atom: not `%varid%` under varid 0, an error of the language -/
def atomOk (v : Nat) (a : Atom) : Prop := a ≠ .cmd .varid ∨ v ≠ 0

def wordOk (v : Nat) : Word → Prop
  | .alts as _ => ∀ a ∈ as, atomOk v a
  | .one a => atomOk v a
  | _ => True

theorem wordOk_of_nonzero (v : Nat) (hv : v ≠ 0) (w : Word) : wordOk v w := by
  cases w <;> simp [wordOk, atomOk, hv]

theorem wordOk_zero (W : Word) : wordOk 0 W ↔ wordUsesVarid W = false := by
  cases W <;> simp [wordOk, atomOk, wordUsesVarid]

theorem usesVarid_eq (ws : List Word) : usesVarid ws = ws.any wordUsesVarid := rfl

theorem wordOk_of_not_uses (ws : List Word) (h : usesVarid ws = false) : ∀ w ∈ ws, wordOk 0 w := fun w hw =>
  (wordOk_zero w).2 (by simpa using List.any_eq_false.1 (usesVarid_eq ws ▸ h) w hw)

theorem evalR_ok (a : Atom) (t : Tok) (v : Nat) (h : atomOk v a) :
    a.evalR t v = .ofBool (a.eval t v) := by
  unfold Atom.evalR
  rcases h with h | h
  · simp [h]
  · simp [h]

theorem altsR_ok (as : List Atom) (t : Tok) (v : Nat) (h : ∀ a ∈ as, atomOk v a) :
    altsR as t v = .ofBool (as.any (·.eval t v)) := by
  induction as with
  | nil => rfl
  | cons a r ih =>
    simp only [altsR, evalR_ok a t v (h a (by simp)), List.any_cons]
    by_cases he : a.eval t v = true
    · simp [he, Res.ofBool]
    · simp only [he, Res.ofBool, Bool.false_eq_true, if_false, Bool.false_or]
      exact ih (fun b hb => h b (by simp [hb]))

theorem langWords_eq_semWords (v : Nat) : ∀ (ws : List Word) (ts : List Tok),
    (∀ w ∈ ws, wordOk v w) → langWords ws ts v = .ofBool (semWords ws ts v) := by
  intro ws
  induction ws with
  | nil => intro ts _; simp [langWords, semWords, Res.ofBool]
  | cons w ws ih =>
    intro ts h
    have hw := h w (by simp)
    have ih' := fun ts' => ih ts' (fun w' hw' => h w' (by simp [hw']))
    cases w with
    | cls cs =>
      cases ts with
      | nil => simp [langWords, semWords, Res.ofBool]
      | cons t r =>
        simp only [langWords, semWords, ih']
        split
        · rename_i c _
          by_cases hc : c ∈ cs <;> simp [hc, Res.ofBool]
        · simp [Res.ofBool]
    | alts as opt =>
      simp only [wordOk] at hw
      cases ts with
      | nil => cases opt <;> simp [langWords, semWords, ih', Res.ofBool]
      | cons t r =>
        simp only [langWords, semWords, altsR_ok as t v hw, ih']
        by_cases hc : as.any (·.eval t v) = true
        · simp [hc, Res.ofBool]
        · cases opt <;> simp [hc, Res.ofBool]
    | neg s =>
      cases ts with
      | nil => simp [langWords, semWords, ih']
      | cons t r =>
        simp only [langWords, semWords, ih']
        by_cases hs : t.str = s <;> simp [hs, Res.ofBool]
    | one a =>
      simp only [wordOk] at hw
      cases ts with
      | nil => simp [langWords, semWords, Res.ofBool]
      | cons t r =>
        simp only [langWords, semWords, evalR_ok a t v hw, ih']
        by_cases hc : a.eval t v = true <;> simp [hc, Res.ofBool]

theorem lang_eq_sem (ws : List Word) (ts : List Tok) (v : Nat) (hv : v ≠ 0 ∨ usesVarid ws = false) :
    lang ws ts v = sem ws ts v := by
  unfold lang sem
  rcases hv with h | h
  · rw [langWords_eq_semWords v ws ts (fun w _ => wordOk_of_nonzero v h w)]
    simp [h]
  · by_cases h0 : v = 0
    · subst h0
      rw [langWords_eq_semWords 0 ws ts (wordOk_of_not_uses ws h)]
      simp [h]
    · rw [langWords_eq_semWords v ws ts (fun w _ => wordOk_of_nonzero v h0 w)]
      simp [h0]

/-! ### the classification functions: the table of `%cmd%` words (`Cmd.ofStr`), then `Word.ofStr` branch by branch -/

def Cmd.text : Cmd → String
  | .any => "%any%" | .assign => "%assign%" | .bool => "%bool%" | .char => "%char%" | .comp => "%comp%"
  | .num => "%num%" | .cop => "%cop%" | .op => "%op%" | .or => "%or%" | .oror => "%oror%" | .str => "%str%"
  | .type => "%type%" | .name => "%name%" | .var => "%var%" | .varid => "%varid%"

def Cmd.spell : Cmd → Str
  | .any => ['%','a','n','y','%'] | .assign => ['%','a','s','s','i','g','n','%'] | .bool => ['%','b','o','o','l','%']
  | .char => ['%','c','h','a','r','%'] | .comp => ['%','c','o','m','p','%'] | .num => ['%','n','u','m','%']
  | .cop => ['%','c','o','p','%'] | .op => ['%','o','p','%'] | .or => ['%','o','r','%'] | .oror => ['%','o','r','o','r','%']
  | .str => ['%','s','t','r','%'] | .type => ['%','t','y','p','e','%'] | .name => ['%','n','a','m','e','%']
  | .var => ['%','v','a','r','%'] | .varid => ['%','v','a','r','i','d','%']

/-- the commands in the order `Cmd.ofStr` tests them -/
def Cmd.all : List Cmd :=
  [.any, .assign, .bool, .char, .comp, .num, .cop, .op, .or, .oror, .str, .type, .name, .var, .varid]

theorem Cmd.mem_all (c : Cmd) : c ∈ Cmd.all := by cases c <;> decide

instance (P : Cmd → Prop) [DecidablePred P] : Decidable (∀ c, P c) :=
  decidable_of_iff (∀ c ∈ Cmd.all, P c) ⟨fun h c => h c (Cmd.mem_all c), fun h c _ => h c⟩

theorem Cmd.text_toList : ∀ c : Cmd, c.text.toList = c.spell := by decide +kernel

theorem Cmd.ofStr_spell : ∀ c : Cmd, Cmd.ofStr c.spell = some c := by decide +kernel

def Cmd.lookup (s : Str) : List Cmd → Option Cmd
  | [] => none
  | c :: r => if s = c.text.toList then some c else Cmd.lookup s r

theorem Cmd.ofStr_eq_lookup (s : Str) : Cmd.ofStr s = Cmd.lookup s Cmd.all := rfl

theorem Cmd.lookup_some (s : Str) (c : Cmd) : ∀ l, Cmd.lookup s l = some c → s = c.text.toList := by
  intro l
  induction l with
  | nil => intro h; cases h
  | cons d r ih =>
    intro h
    unfold Cmd.lookup at h
    split at h
    · cases h; assumption
    · exact ih h

theorem Cmd.ofStr_some (a : Str) (c : Cmd) (h : Cmd.ofStr a = some c) : a = c.spell :=
  (Cmd.lookup_some a c Cmd.all (Cmd.ofStr_eq_lookup a ▸ h)).trans (Cmd.text_toList c)

theorem splitOn_eq (c : Char) : ∀ s, splitOn c s = s.splitOn c :=
  Text.eq_splitOn rfl (fun r => by simp [splitOn]) fun x r w ws hx h => by simp [splitOn, hx, h]

theorem splitOn_ne_nil (c : Char) (s : Str) : splitOn c s ≠ [] := splitOn_eq c s ▸ List.splitOn_ne_nil c s

theorem splitOn_infix (c : Char) : ∀ (w a : Str), a ∈ splitOn c w → a <:+: w :=
  fun w _ h => Text.infix_of_mem_splitOn (splitOn_eq c w ▸ h)

def clsCond (w : Str) : Prop := w.length > 2 ∧ w.head? = some '[' ∧ w.getLast? = some ']'
def altCond (w : Str) : Bool := match findIdx '|' w with | some (_ + 1) => true | _ => false

instance (w : Str) : Decidable (clsCond w) := by unfold clsCond; exact inferInstance

theorem ofStr_eq (w : Str) : Word.ofStr w =
    if clsCond w then .cls ((w.drop 1).dropLast)
    else if altCond w then
      .alts (((splitOn '|' w).filter (· ≠ [])).map Atom.ofStr) ((splitOn '|' w).any (· = []))
    else if w.take 2 = ['!', '!'] then .neg (w.drop 2)
    else .one (Atom.ofStr w) := rfl

theorem ofStr_cls (w : Str) (h : clsCond w) : Word.ofStr w = .cls ((w.drop 1).dropLast) := by
  rw [ofStr_eq, if_pos h]

theorem ofStr_alts (w : Str) (h1 : ¬ clsCond w) (h2 : altCond w = true) :
    Word.ofStr w = .alts (((splitOn '|' w).filter (· ≠ [])).map Atom.ofStr) ((splitOn '|' w).any (· = [])) := by
  rw [ofStr_eq, if_neg h1, if_pos h2]

theorem ofStr_neg (w : Str) (h1 : ¬ clsCond w) (h2 : altCond w = false) (h3 : w.take 2 = ['!', '!']) :
    Word.ofStr w = .neg (w.drop 2) := by
  rw [ofStr_eq, if_neg h1, if_neg (Bool.eq_false_iff.1 h2), if_pos h3]

theorem ofStr_one (w : Str) (h1 : ¬ clsCond w) (h2 : altCond w = false) (h3 : ¬ w.take 2 = ['!', '!']) :
    Word.ofStr w = .one (Atom.ofStr w) := by
  rw [ofStr_eq, if_neg h1, if_neg (Bool.eq_false_iff.1 h2), if_neg h3]

theorem ofStr_cases (w : Str) :
    (clsCond w ∧ Word.ofStr w = .cls ((w.drop 1).dropLast)) ∨
    (¬ clsCond w ∧ altCond w = true ∧ Word.ofStr w =
      .alts (((splitOn '|' w).filter (· ≠ [])).map Atom.ofStr) ((splitOn '|' w).any (· = []))) ∨
    (¬ clsCond w ∧ altCond w = false ∧ w.take 2 = ['!', '!'] ∧ Word.ofStr w = .neg (w.drop 2)) ∨
    (¬ clsCond w ∧ altCond w = false ∧ ¬ w.take 2 = ['!', '!'] ∧ Word.ofStr w = .one (Atom.ofStr w)) := by
  by_cases hc : clsCond w
  · exact .inl ⟨hc, ofStr_cls w hc⟩
  · cases ha : altCond w
    · by_cases hb : w.take 2 = ['!', '!']
      · exact .inr (.inr (.inl ⟨hc, rfl, hb, ofStr_neg w hc ha hb⟩))
      · exact .inr (.inr (.inr ⟨hc, rfl, hb, ofStr_one w hc ha hb⟩))
    · exact .inr (.inl ⟨hc, rfl, ofStr_alts w hc ha⟩)

/-! ### a word that uses `%varid%` as a command spells it (so the compiler's textual test sees it) -/

theorem mentions_of_infix (w : Str) (h : "%varid%".toList <:+: w) : wordMentionsVarid w = true := by
  obtain ⟨pre, suf, rfl⟩ := h
  simp only [wordMentionsVarid, List.any_eq_true, List.mem_range, decide_eq_true_eq]
  refine ⟨pre.length, by simp; omega, ?_⟩
  simp

theorem atom_varid_spelling (a : Str) (h : Atom.ofStr a = .cmd .varid) : a = "%varid%".toList := by
  unfold Atom.ofStr at h
  cases hc : Cmd.ofStr a with
  | none => rw [hc] at h; cases h
  | some c =>
    rw [hc] at h
    cases h
    exact Cmd.lookup_some a .varid Cmd.all (Cmd.ofStr_eq_lookup a ▸ hc)

theorem mentions_of_uses (w : Str) (h : wordUsesVarid (Word.ofStr w) = true) : wordMentionsVarid w = true := by
  rcases ofStr_cases w with ⟨_, hof⟩ | ⟨_, _, hof⟩ | ⟨_, _, _, hof⟩ | ⟨_, _, _, hof⟩ <;> rw [hof] at h
  · cases h
  · simp only [wordUsesVarid, List.any_eq_true, List.mem_map, List.mem_filter, decide_eq_true_eq] at h
    obtain ⟨A, ⟨a, ⟨hmem, _⟩, rfl⟩, hA⟩ := h
    have := atom_varid_spelling a hA
    subst this
    exact mentions_of_infix w (splitOn_infix '|' w _ hmem)
  · cases h
  · simp only [wordUsesVarid, decide_eq_true_eq] at h
    exact mentions_of_infix w (atom_varid_spelling w h ▸ List.infix_refl w)

theorem wordOk_of_not_mentions (w : Str) (h : wordMentionsVarid w = false) : wordOk 0 (Word.ofStr w) :=
  (wordOk_zero _).2 (Bool.eq_false_iff.2 fun hu => by rw [mentions_of_uses w hu] at h; cases h)

/-! ### one word: the statement compiled for it against `langWords` -/

def advance : Goto → List Tok → List Tok
  | .none, ts => ts
  | .next, ts => ts.drop 1
  | .nextSafe, ts => ts.drop 1

theorem run_goto (g : Goto) (p : Prog) (ts v) : run (g.steps ++ p) ts v = run p (advance g ts) v := by
  cases g <;> simp [Goto.steps, run, advance]

theorem mem_advance (g : Goto) (ts : List Tok) (t : Tok) (h : t ∈ advance g ts) : t ∈ ts := by
  cases g
  · exact h
  · exact List.mem_of_mem_drop h
  · exact List.mem_of_mem_drop h

theorem cond_eval_eq (a : Atom) (t : Tok) (v : Nat) (ht : TokWF t = true) (h : atomOk v a) :
    (Cond.ofAtom a).eval t v = a.eval t v := by
  simp only [TokWF, Bool.and_eq_true, Bool.or_eq_true, decide_eq_true_eq] at ht
  obtain ⟨hty, hname⟩ := ht
  cases a with
  | cmd c =>
    cases c <;> simp [Cond.ofAtom, Cond.eval, Atom.eval, Cmd.eval]
    -- remaining: varid
    rcases h with h | h
    · exact absurd rfl h
    · intro hv
      rcases hname with h0 | hn
      · omega
      · exact hn
  | lit s =>
    simp only [Cond.ofAtom, Atom.eval]
    cases hl : lookupTypes s tokTypes with
    | nil => simp [Cond.eval]
    | cons ty tys =>
      simp only [Cond.eval]
      by_cases hs : t.str = s
      · subst hs
        rw [hl] at hty
        simp at hty
        simp [hty]
      · simp [hs]

theorem any_cond_eq (as : List Atom) (t : Tok) (v : Nat) (ht : TokWF t = true) (h : ∀ a ∈ as, atomOk v a) :
    (as.map Cond.ofAtom).any (·.eval t v) = as.any (·.eval t v) :=
  List.any_map.trans (Text.any_congr_mem fun a ha => cond_eval_eq a t v ht (h a ha))

/-- the statement the compiler prints for a word, and the goto it leaves pending -/
def Word.step : Word → Step
  | .cls cs => .cls cs
  | .alts as true => .optional (as.map Cond.ofAtom)
  | .alts as false => .require (as.map Cond.ofAtom)
  | .neg s => .reject s
  | .one a => .require [Cond.ofAtom a]

def Word.goto : Word → Goto
  | .alts _ true => .none
  | .neg _ => .nextSafe
  | _ => .next

theorem compileWords_cons (hasVarid : Bool) (w : Str) (ws : List Str) (g : Goto) (chk : Bool) :
    compileWords hasVarid (w :: ws) g chk =
      g.steps ++ ((if (hasVarid && wordMentionsVarid w && !chk) = true then [Step.checkVarid] else []) ++
        (Word.ofStr w).step ::
          compileWords hasVarid ws (Word.ofStr w).goto (chk || (hasVarid && wordMentionsVarid w && !chk))) := by
  simp only [compileWords]
  cases Word.ofStr w with
  | alts as opt => cases opt <;> simp [Word.step, Word.goto]
  | _ => simp [Word.step, Word.goto]

theorem run_checkVarid (b : Bool) (p : Prog) (ts : List Tok) (v : Nat) :
    run ((if b = true then [Step.checkVarid] else []) ++ p) ts v = if b = true ∧ v = 0 then .err else run p ts v := by
  cases b <;> simp [run]

/-- `R` is any reflexive relation between a compiled result and the language's: equality, or the refinement of `run_compileWords` -/
theorem run_word (R : Res → Res → Prop) (hR : ∀ r, R r r) (W : Word) (ws : List Word) (p : Prog) (ts : List Tok) (v : Nat)
    (hw : wordOk v W) (hts : ∀ t ∈ ts.head?, TokWF t = true)
    (hk : ∀ n, R (run p (ts.drop n) v) (langWords ws (advance W.goto (ts.drop n)) v)) :
    R (run (W.step :: p) ts v) (langWords (W :: ws) ts v) := by
  have h0 := hk 0
  have h1 := hk 1
  -- kind of word × (no token | a token): ten cases
  rcases W with cs | ⟨as, _ | _⟩ | s | a <;> rcases ts with _ | ⟨t, r⟩ <;>
    simp only [wordOk, List.head?, Option.mem_def, Option.some.injEq, forall_eq', List.drop_zero, List.drop_succ_cons,
      List.drop_nil, Word.goto, advance] at hw hts h0 h1 <;>
    simp only [Word.step, run, langWords]
  case cls.nil => exact hR _
  case cls.cons =>
    rcases t.str with _ | ⟨c, _ | _⟩
    · exact hR _
    · by_cases h : c ∈ cs <;> simp [h, h0, hR]
    · exact hR _
  case alts.false.nil => exact hR _
  case alts.true.nil => simpa using h0
  case alts.false.cons | alts.true.cons =>
    simp only [any_cond_eq as t v hts hw, altsR_ok as t v hw]
    by_cases hc : as.any (·.eval t v) = true <;> simp [hc, Res.ofBool, hR, h0, h1]
  case neg.nil => simpa using h0
  case neg.cons => by_cases hs : t.str = s <;> simp [hs, hR, h0]
  case one.nil => exact hR _
  case one.cons =>
    simp only [List.any_cons, List.any_nil, Bool.or_false, cond_eval_eq a t v hts hw, evalR_ok a t v hw]
    by_cases hc : a.eval t v = true <;> simp [hc, Res.ofBool, hR, h0]

/-! ### the induction over the words

With a varid argument (`hasVarid`) that is 0, the compiled code throws at the first word that spells `%varid%`, whatever the
tokens are; the language only throws when a `%varid%` alternative is evaluated.  So the compiled result is the language's or an
InternalError, and `E` is what the caller learns in that case.  Until that word nothing has been checked (`chk = false`), and
the words before it do not spell `%varid%`, so do not use it. -/

theorem run_compileWords (hasVarid : Bool) (v : Nat) (E : Prop) :
    ∀ (ws : List Str) (g : Goto) (chk : Bool) (ts : List Tok),
      (∀ w ∈ ws, hasVarid = true → v = 0 → wordMentionsVarid w = true → E) →
      (∀ t ∈ ts, TokWF t = true) →
      (hasVarid = true → v = 0 → chk = false) →
      (∀ w ∈ ws, hasVarid = false → wordOk v (Word.ofStr w)) →
      run (compileWords hasVarid ws g chk) ts v = langWords (ws.map Word.ofStr) (advance g ts) v ∨
        (E ∧ run (compileWords hasVarid ws g chk) ts v = .err) := by
  intro ws
  induction ws with
  | nil => intro g chk ts _ _ _ _; exact .inl rfl
  | cons w ws ih =>
    intro g chk ts hall hts hchk hok
    rw [compileWords_cons, run_goto, run_checkVarid]
    generalize hb : (hasVarid && wordMentionsVarid w && !chk) = b
    by_cases hE : b = true ∧ v = 0
    · -- the check in front of this word throws
      rw [if_pos hE]
      rw [← hb, Bool.and_eq_true, Bool.and_eq_true] at hE
      exact .inr ⟨hall w (by simp) hE.1.1.1 hE.2 hE.1.1.2, rfl⟩
    · have hm : hasVarid = true → v = 0 → wordMentionsVarid w = false ∧ b = false := by
        intro h1 h0
        have hbf : b = false := by cases b; rfl; exact absurd ⟨rfl, h0⟩ hE
        rw [hbf, h1, hchk h1 h0] at hb
        exact ⟨by simpa using hb, hbf⟩
      have hw : wordOk v (Word.ofStr w) := by
        by_cases h0 : v = 0
        · cases hasVarid with
          | false => exact hok w (by simp) rfl
          | true => subst h0; exact wordOk_of_not_mentions w (hm rfl rfl).1
        · exact wordOk_of_nonzero v h0 _
      rw [if_neg hE]
      exact run_word (fun x l => x = l ∨ (E ∧ x = .err)) (fun _ => .inl rfl) _ _ _ _ v hw
        (fun t ht => hts t (mem_advance g ts t (List.mem_of_mem_head? ht)))
        fun n => ih _ _ _
          (fun w' hw' => hall w' (List.mem_cons_of_mem w hw'))
          (fun t ht => hts t (mem_advance g ts t (List.mem_of_mem_drop ht)))
          (fun h1 h0 => by rw [hchk h1 h0, (hm h1 h0).2]; rfl)
          (fun w' hw' => hok w' (List.mem_cons_of_mem w hw'))

/-- `h` rules out the one call of which nothing holds: a function without varid argument, on a pattern that uses `%varid%`,
    compared with the language under varid 0 -/
theorem run_compile (p : Str) (hasVarid : Bool) (ts : List Tok) (v : Nat) (hts : ∀ t ∈ ts, TokWF t = true)
    (h : v ≠ 0 ∨ hasVarid = true ∨ ∀ w ∈ words p, wordOk 0 (Word.ofStr w)) :
    run (compile p hasVarid) ts v = lang (parse p) ts v ∨
      (hasVarid = true ∧ v = 0 ∧ (∃ w ∈ words p, wordMentionsVarid w = true) ∧ run (compile p hasVarid) ts v = .err) := by
  refine (run_compileWords hasVarid v (hasVarid = true ∧ v = 0 ∧ ∃ w ∈ words p, wordMentionsVarid w = true)
    (words p) .none false ts
    (fun w hw h1 h2 h3 => ⟨h1, h2, w, hw, h3⟩)
    hts
    (fun _ _ => rfl)
    fun w hw hf => ?_).imp_right fun ⟨⟨h1, h2, h3⟩, h4⟩ => ⟨h1, h2, h3, h4⟩
  by_cases h0 : v = 0
  · subst h0; exact (h.resolve_left (by simp)).resolve_left (by simp [hf]) w hw
  · exact wordOk_of_nonzero v h0 _

/-! ### the find loop -/

/-- **declarative first match**: what a find over matcher `m` has to return on `ts` when the scan
    covers the first `min ts.length budget` positions -/
def FirstMatch (m : List Tok → Res) (ts : List Tok) (budget : Nat) : Find → Prop
  | .hit i => i < ts.length ∧ i < budget ∧ m (ts.drop i) = .t ∧ ∀ j, j < i → m (ts.drop j) = .f
  | .none => ∀ j, j < ts.length → j < budget → m (ts.drop j) = .f
  | .err => ∃ i, i < ts.length ∧ i < budget ∧ m (ts.drop i) = .err ∧ ∀ j, j < i → m (ts.drop j) = .f

theorem findWith_spec (m : List Tok → Res) : ∀ (ts : List Tok) (b : Nat), FirstMatch m ts b (findWith m ts b) := by
  intro ts
  induction ts with
  | nil => intro b; simp [findWith, FirstMatch]
  | cons t r ih =>
    intro b
    cases b with
    | zero => simp [findWith, FirstMatch]
    | succ b =>
      simp only [findWith]
      cases hm : m (t :: r) with
      | t => simp [FirstMatch, hm]
      | err => exact ⟨0, by simp, by simp, by simpa using hm, by simp⟩
      | f =>
        have := ih b
        cases hf : findWith m r b with
        | hit i =>
          rw [hf] at this
          simp only [FirstMatch] at this
          simp only [Find.succ, FirstMatch, List.length_cons, List.drop_succ_cons]
          refine ⟨by omega, by omega, this.2.2.1, ?_⟩
          intro j hj
          cases j with
          | zero => simpa using hm
          | succ j => simpa using this.2.2.2 j (by omega)
        | none =>
          rw [hf] at this
          simp only [FirstMatch] at this
          simp only [Find.succ, FirstMatch, List.length_cons]
          intro j hj hb
          cases j with
          | zero => simpa using hm
          | succ j => simpa using this j (by omega) (by omega)
        | err =>
          rw [hf] at this
          simp only [FirstMatch] at this
          obtain ⟨i, h1, h2, h3, h4⟩ := this
          refine ⟨i + 1, by simp; omega, by omega, by simpa using h3, ?_⟩
          intro j hj
          cases j with
          | zero => simpa using hm
          | succ j => simpa using h4 j (by omega)

theorem first_pos_unique (m : List Tok → Res) (ts : List Tok) (i i' : Nat)
    (hi : m (ts.drop i) ≠ .f) (hi' : m (ts.drop i') ≠ .f)
    (h : ∀ j, j < i → m (ts.drop j) = .f) (h' : ∀ j, j < i' → m (ts.drop j) = .f) : i = i' := by
  rcases Nat.lt_trichotomy i i' with hlt | heq | hgt
  · exact absurd (h' i hlt) hi
  · exact heq
  · exact absurd (h i' hgt) hi'

theorem firstMatch_unique (m : List Tok → Res) (ts : List Tok) (b : Nat) (r r' : Find)
    (h : FirstMatch m ts b r) (h' : FirstMatch m ts b r') : r = r' := by
  cases r <;> cases r' <;> simp only [FirstMatch] at h h'
  case hit.hit i i' =>
    rw [first_pos_unique m ts i i' (by simp [h.2.2.1]) (by simp [h'.2.2.1]) h.2.2.2 h'.2.2.2]
  case hit.none i => have := h' i h.1 h.2.1; rw [h.2.2.1] at this; cases this
  case hit.err i =>
    obtain ⟨i', _, _, h3, h4⟩ := h'
    have := first_pos_unique m ts i i' (by simp [h.2.2.1]) (by simp [h3]) h.2.2.2 h4
    subst this; rw [h.2.2.1] at h3; cases h3
  case none.hit i' => have := h i' h'.1 h'.2.1; rw [h'.2.2.1] at this; cases this
  case none.none => rfl
  case none.err =>
    obtain ⟨i', h1, h2, h3, _⟩ := h'
    have := h i' h1 h2; rw [h3] at this; cases this
  case err.hit i' =>
    obtain ⟨i, _, _, h3, h4⟩ := h
    have := first_pos_unique m ts i i' (by simp [h3]) (by simp [h'.2.2.1]) h4 h'.2.2.2
    subst this; rw [h'.2.2.1] at h3; cases h3
  case err.none =>
    obtain ⟨i, h1, h2, h3, _⟩ := h
    have := h' i h1 h2; rw [h3] at this; cases this
  case err.err => rfl

theorem findWith_iff (m : List Tok → Res) (ts : List Tok) (b : Nat) (r : Find) :
    findWith m ts b = r ↔ FirstMatch m ts b r :=
  ⟨fun h => h ▸ findWith_spec m ts b, fun h => firstMatch_unique m ts b _ _ (findWith_spec m ts b) h⟩

theorem findWith_congr (m m' : List Tok → Res) : ∀ (ts : List Tok) (b : Nat),
    (∀ j, j < ts.length → m (ts.drop j) = m' (ts.drop j)) → findWith m ts b = findWith m' ts b := by
  intro ts
  induction ts with
  | nil => intro b _; rfl
  | cons t r ih =>
    intro b h
    cases b with
    | zero => rfl
    | succ b =>
      have h0 := h 0 (by simp)
      simp only [List.drop_zero] at h0
      simp only [findWith, h0]
      rw [ih b (fun j hj => by simpa using h (j + 1) (by simp; omega))]

theorem findWith_firstMatch (m m' : List Tok → Res) (ts : List Tok) (b : Nat)
    (h : ∀ j, j < ts.length → m (ts.drop j) = m' (ts.drop j)) : FirstMatch m' ts b (findWith m ts b) :=
  findWith_congr m m' ts b h ▸ findWith_spec m' ts b

/-- the result type of `findFrom`; a hit is an absolute index, the search having started at `idx` -/
def Find.legacy (idx : Nat) : Find → Option Nat ⊕ Unit
  | .hit i => .inl (some (idx + i))
  | Find.none => .inl Option.none
  | .err => .inr ()

theorem Find.legacy_hit (idx i : Nat) (r : Find) :
    r.legacy idx = .inl (some i) ↔ ∃ k, r = .hit k ∧ i = idx + k := by
  cases r <;> simp [Find.legacy, eq_comm]

theorem Find.legacy_none (idx : Nat) (r : Find) : r.legacy idx = .inl Option.none ↔ r = Find.none := by
  cases r <;> simp [Find.legacy]

theorem Find.legacy_err (idx : Nat) (r : Find) : r.legacy idx = .inr () ↔ r = .err := by
  cases r <;> simp [Find.legacy]

theorem findFrom_eq_findWith (p : Prog) (v : Nat) : ∀ (ts : List Tok) (idx budget : Nat),
    findFrom p v ts idx budget = (findWith (fun ts => run p ts v) ts budget).legacy idx := by
  intro ts
  induction ts with
  | nil => intro idx budget; simp [findFrom, findWith, Find.legacy]
  | cons t r ih =>
    intro idx budget
    cases budget with
    | zero => simp [findFrom, findWith, Find.legacy]
    | succ b =>
      simp only [findFrom, findWith]
      cases hm : run p (t :: r) v with
      | t => simp [Find.legacy]
      | err => simp [Find.legacy]
      | f =>
        simp only [ih (idx + 1) b]
        cases findWith (fun ts => run p ts v) r b <;> simp [Find.legacy, Find.succ]
        -- left: a hit at `i`, where `idx + 1 + i = idx + (i + 1)`
        omega

end Cppcheck.Match
