import Cppcheck.Model.Suppress
import Cppcheck.Proofs.Glob
import Cppcheck.Proofs.TextLemmas
/-
The suppression matcher and the report gate (C23).  `isSuppressed` answers `matched` exactly when the documented rules
(`Spec.matchesB`) hold, and the `checked`/`matched` flags it sets never influence an answer (`eraseFlags`, `FlagEq`).
A gate is a fold whose state is its duplicate filter: `runOut` gives the output of such a fold, so a gate is described by
what one call emits and what it adds to the filter (`reportErrG`: `stepOut`, `stepEl`, tied to the model by `Sim`; the
executor's `hasToLog`: `eKeep`, `eEl`), and a finding is forwarded iff it passes and nothing in front of it `Shadows` it.
Last, worker then executor of a parallel run forward what the single-job gate forwards; only macro suppressions need care.
-/
namespace Cppcheck.Suppress
open Cppcheck.Wire Cppcheck.Glob

theorem glob_exact {p : Str} (h : globExact p = true) (n : Str) : glob p n = Spec.globMatches p n :=
  Bool.eq_iff_iff.2 ⟨dfs_sound _ _ _, dfs_complete globFixed _ _ (Bool.or_eq_true_iff.1 h)⟩

theorem glob_sound (p n : Str) (h : glob p n = true) : Spec.globMatches p n = true :=
  dfs_sound _ _ _ h

instance decForallBool (p : Bool → Prop) [∀ b, Decidable (p b)] : Decidable (∀ b, p b) :=
  decidable_of_iff (p true ∧ p false) ⟨fun h b => by cases b; exact h.2; exact h.1, fun h => ⟨h true, h false⟩⟩

/-- the suppression only uses glob patterns on which the current matcher is exact, and is not an unpaired
    begin/end marker (with the repaired `matchglob` every pattern is exact, so only the markers are excluded) -/
def supprExact (s : Suppr) : Bool :=
  globExact s.errorId && globExact s.symbolName && s.type != .blockBegin && s.type != .blockEnd

theorem symbolOk_eq {s : Suppr} (h : globExact s.symbolName = true) (m : Msg) :
    symbolOk s m = Spec.symbolMatches s m := by
  unfold symbolOk Spec.symbolMatches
  have : glob s.symbolName = Spec.globMatches s.symbolName := funext (glob_exact h)
  rw [this]

/-! `isSuppressed` is a chain of early returns: it yields `matched` iff no test fires, and each test negates one of the
documented conditions. -/

theorem ite_matched {p : Prop} [Decidable p] {r x : Res} (hr : r ≠ .matched) :
    (if p then r else x) = .matched ↔ ¬ p ∧ x = .matched := by
  split <;> simp [*]

theorem ite_matched_checked (c : Bool) : (if c then Res.matched else Res.checked) = .matched ↔ c = true := by
  cases c <;> simp

theorem fileCond (env : Env) (s : Suppr) (m : Msg) :
    (!s.fileName.isEmpty && !env.fileMatch s.fileName m.fileName) = false ↔ Spec.fileMatches env s m = true := by
  unfold Spec.fileMatches
  cases s.fileName.isEmpty <;> cases env.fileMatch s.fileName m.fileName <;> simp

theorem hashCond (s : Suppr) (m : Msg) :
    (decide (s.hash > 0) && s.hash != m.hash) = false ↔ Spec.hashMatches s m = true := by
  unfold Spec.hashMatches
  by_cases h0 : s.hash = 0
  · simp [h0]
  · simp [h0, Nat.pos_of_ne_zero h0]

/-- the id test of a non-macro suppression also rejects findings without an id: `Spec.idlessRule` -/
theorem idCond (s : Suppr) (m : Msg) :
    (!s.errorId.isEmpty && (m.errorId.isEmpty || !Spec.globMatches s.errorId m.errorId)) = false ↔
      Spec.idMatches s m = true ∧ (s.errorId.isEmpty || !m.errorId.isEmpty) = true := by
  unfold Spec.idMatches
  cases s.errorId.isEmpty <;> cases m.errorId.isEmpty <;> cases Spec.globMatches s.errorId m.errorId <;> simp

theorem idCondMacro (s : Suppr) (m : Msg) :
    (!s.errorId.isEmpty && !Spec.globMatches s.errorId m.errorId) = false ↔ Spec.idMatches s m = true := by
  unfold Spec.idMatches
  cases s.errorId.isEmpty <;> cases Spec.globMatches s.errorId m.errorId <;> simp

theorem lineCond (s : Suppr) (m : Msg) :
    (s.lineNumber != -1 && s.lineNumber != m.lineNumber &&
        (!s.thisAndNextLine || s.lineNumber + 1 != m.lineNumber)) = false ↔
      (decide (s.lineNumber = -1) || decide (m.lineNumber = s.lineNumber) ||
        s.thisAndNextLine && decide (m.lineNumber = s.lineNumber + 1)) = true := by
  cases s.thisAndNextLine <;> simp <;> omega

theorem rangeCond (s : Suppr) (m : Msg) :
    (decide (m.lineNumber < s.lineBegin) || decide (m.lineNumber > s.lineEnd)) = false ↔
      (decide (s.lineBegin ≤ m.lineNumber) && decide (m.lineNumber ≤ s.lineEnd)) = true := by
  simp

theorem isSuppressed_matched_iff (env : Env) (s : Suppr) (m : Msg) (hx : supprExact s = true) :
    isSuppressed env s m = .matched ↔ Spec.matchesB env s m = true := by
  simp only [supprExact, Bool.and_eq_true, bne_iff_ne, ne_eq] at hx
  obtain ⟨⟨⟨hid, hsym⟩, hnb⟩, hne⟩ := hx
  unfold isSuppressed
  rw [symbolOk_eq hsym, glob_exact hid]
  unfold Spec.matchesB Spec.documented Spec.idlessRule Spec.locationMatches
  have n1 : Res.none ≠ .matched := by decide
  have n2 : Res.checked ≠ .matched := by decide
  cases ht : s.type
  case blockBegin => exact absurd ht hnb
  case blockEnd => exact absurd ht hne
  -- left side: the conjunction of the negated tests; then both sides are conjunctions of the same conditions
  all_goals
    simp only [reduceCtorEq, if_false, if_true, ite_matched n1, ite_matched n2, ite_matched_checked, Bool.not_eq_true,
      fileCond, hashCond, idCond]
    simp only [decide_true, decide_false, Bool.true_and, Bool.false_and, Bool.false_or, Bool.true_or, lineCond,
      rangeCond, idCondMacro, Bool.and_eq_true, Bool.not_eq_false', true_and, and_true, and_assoc]
  -- `unique`, `file`, `block` (`macro` is closed above): the same conjuncts in another order
  · exact ⟨fun ⟨hline, hfile, hhash, hid, hidless, hsym⟩ => ⟨hfile, hline, hhash, hid, hsym, hidless⟩,
      fun ⟨hfile, hline, hhash, hid, hsym, hidless⟩ => ⟨hline, hfile, hhash, hid, hidless, hsym⟩⟩
  · exact ⟨fun ⟨hfile, hhash, hid, hidless, hsym⟩ => ⟨hfile, hhash, hid, hsym, hidless⟩,
      fun ⟨hfile, hhash, hid, hsym, hidless⟩ => ⟨hfile, hhash, hid, hidless, hsym⟩⟩
  · exact ⟨fun ⟨hfile, hhash, hid, hidless, hlo, hhi, hsym⟩ => ⟨hfile, hlo, hhi, hhash, hid, hsym, hidless⟩,
      fun ⟨hfile, hlo, hhi, hhash, hid, hsym, hidless⟩ => ⟨hfile, hhash, hid, hidless, hlo, hhi, hsym⟩⟩

theorem any_or_eq_contains (l : Str) :
    l.any (fun c => decide (c = '?') || decide (c = '*')) = (l.contains '*' || l.contains '?') := by
  induction l with
  | nil => rfl
  | cons a r ih =>
    simp only [List.any_cons, ih, List.contains_cons, BEq.comm (b := a), Bool.beq_eq_decide_eq]
    ac_rfl

theorem boundToOneFile_eq (s : Suppr) : Spec.boundToOneFile s = isLocal s := by
  unfold Spec.boundToOneFile isLocal isWildcard
  rw [any_or_eq_contains, Bool.not_or, Bool.and_assoc]

/-- the declarative `Spec.active` is what the implementation's loop header computes -/
theorem active_eq_considered (g : Bool) (m : Msg) (s : Suppr) : Spec.active g m s = considered g m s := by
  unfold Spec.active considered
  rw [boundToOneFile_eq]
  -- for an `unmatchedSuppression` finding "names this id" and "names the finding's id" are the same test
  by_cases hu : m.errorId = unmatchedId
  · rw [hu]
  · rw [bne_iff_ne.2 hu, Bool.true_or, Bool.true_or]

theorem isSuppressed_matched_sound_glob (s : Suppr) (m : Msg) :
    (glob s.errorId m.errorId = true → Spec.globMatches s.errorId m.errorId = true) :=
  glob_sound _ _

def eraseFlags (s : Suppr) : Suppr := { s with checked := false, matched := false }

theorem isSuppressed_eraseFlags (env : Env) (s : Suppr) (m : Msg) :
    isSuppressed env (eraseFlags s) m = isSuppressed env s m := rfl

theorem considered_eraseFlags (g : Bool) (m : Msg) (s : Suppr) :
    considered g m (eraseFlags s) = considered g m s := rfl

/-- lists equal up to the `checked` / `matched` flags -/
def FlagEq (a b : List Suppr) : Prop := a.map eraseFlags = b.map eraseFlags

theorem FlagEq.refl (a : List Suppr) : FlagEq a a := rfl
theorem FlagEq.trans {a b c : List Suppr} (h1 : FlagEq a b) (h2 : FlagEq b c) : FlagEq a c := Eq.trans h1 h2
theorem FlagEq.symm {a b : List Suppr} (h1 : FlagEq a b) : FlagEq b a := Eq.symm h1

theorem any_eraseFlags {p : Suppr → Bool} (hp : ∀ s, p (eraseFlags s) = p s) {l l' : List Suppr}
    (h : FlagEq l l') : l.any p = l'.any p := by
  have key : ∀ l : List Suppr, l.any p = (l.map eraseFlags).any p := by
    intro l
    rw [List.any_map]
    exact congrArg (List.any l) (funext fun s => (hp s).symm)
  rw [key l, key l', h]

theorem isMatch_fst (env : Env) (s : Suppr) (m : Msg) :
    (isMatch env s m).1 = decide (isSuppressed env s m = .matched) := by
  unfold isMatch
  cases isSuppressed env s m <;> simp

theorem isMatch_snd_erase (env : Env) (s : Suppr) (m : Msg) :
    eraseFlags (isMatch env s m).2 = eraseFlags s := by
  unfold isMatch
  cases isSuppressed env s m <;> simp [eraseFlags]

/-- does some considered entry match? (the value of `SuppressionList::isSuppressed`) -/
def anyMatch (env : Env) (g : Bool) (m : Msg) (l : List Suppr) : Bool :=
  l.any fun s => considered g m s && decide (isSuppressed env s m = .matched)

theorem listIsSuppressed_fst (env : Env) (g : Bool) (m : Msg) (l : List Suppr) :
    (listIsSuppressed env g m l).1 = anyMatch env g m l := by
  induction l with
  | nil => rfl
  | cons s r ih =>
    unfold anyMatch at ih ⊢
    rw [listIsSuppressed, List.any_cons, ← ih, ← isMatch_fst]
    cases considered g m s <;> rfl

theorem listIsSuppressed_snd (env : Env) (g : Bool) (m : Msg) (l : List Suppr) :
    FlagEq (listIsSuppressed env g m l).2 l := by
  unfold FlagEq
  induction l with
  | nil => simp [listIsSuppressed]
  | cons s r ih =>
    simp only [listIsSuppressed]
    by_cases hc : considered g m s = true
    · simp [hc, isMatch_snd_erase, ih]
    · simp [hc, ih]

theorem anyMatch_congr (env : Env) (g : Bool) (m : Msg) {l l' : List Suppr}
    (h : FlagEq l l') : anyMatch env g m l = anyMatch env g m l' :=
  any_eraseFlags (fun _ => rfl) h

theorem anyMatch_iff (env : Env) (g : Bool) (m : Msg) (l : List Suppr) :
    anyMatch env g m l = true ↔ ∃ s ∈ l, considered g m s = true ∧ isSuppressed env s m = .matched := by
  unfold anyMatch
  simp [List.any_eq_true]

theorem anyMatch_iff_spec (env : Env) (g : Bool) (m : Msg) (l : List Suppr) (hx : ∀ s ∈ l, supprExact s = true) :
    anyMatch env g m l = true ↔ ∃ s ∈ l, Spec.active g m s = true ∧ Spec.matchesB env s m = true := by
  rw [anyMatch_iff]
  simp only [active_eq_considered]
  exact exists_congr fun s => and_congr_right fun hs => and_congr_right fun _ => isSuppressed_matched_iff env s m (hx s hs)

/-- value of `isSuppressedExplicitly` -/
def anyExplicit (env : Env) (g : Bool) (m : Msg) (l : List Suppr) : Bool :=
  l.any fun s => ((g || isLocal s) && decide (s.errorId = m.errorId)) && decide (isSuppressed env s m = .matched)

theorem listIsSuppressedExplicitly_fst (env : Env) (g : Bool) (m : Msg) (l : List Suppr) :
    (listIsSuppressedExplicitly env g m l).1 = anyExplicit env g m l := by
  induction l with
  | nil => rfl
  | cons s r ih =>
    unfold anyExplicit at ih ⊢
    rw [listIsSuppressedExplicitly, List.any_cons, ← ih, ← isMatch_fst]
    split
    · rename_i hc
      rw [hc, Bool.true_and]
      rcases isMatch env s m with ⟨b1, s'⟩
      cases b1 <;> rfl
    · rename_i hc
      rw [Bool.eq_false_iff.2 hc]
      rfl

theorem listIsSuppressedExplicitly_snd (env : Env) (g : Bool) (m : Msg) (l : List Suppr) :
    FlagEq (listIsSuppressedExplicitly env g m l).2 l := by
  unfold FlagEq
  induction l with
  | nil => simp [listIsSuppressedExplicitly]
  | cons s r ih =>
    simp only [listIsSuppressedExplicitly]
    split
    · split
      · simp [isMatch_snd_erase]
      · simp [isMatch_snd_erase, ih]
    · simp [ih]

theorem anyExplicit_congr (env : Env) (g : Bool) (m : Msg) {l l' : List Suppr}
    (h : FlagEq l l') : anyExplicit env g m l = anyExplicit env g m l' :=
  any_eraseFlags (fun _ => rfl) h

/-! The output of a fold that emits as it goes (`upd` the step on the state, `out` what a step emits): what is emitted comes
from one item, in the state the items in front of it left (`mem_runOut`), so statements about a whole run need no induction
of their own. -/
section Run
variable {σ α β : Type} (out : σ → α → List β) (upd : σ → α → σ)

def runOut : σ → List α → List β
  | _, [] => []
  | s, x :: r => out s x ++ runOut (upd s x) r

theorem mem_runOut (b : β) : ∀ (xs : List α) (s : σ),
    b ∈ runOut out upd s xs ↔ ∃ pre x post, xs = pre ++ x :: post ∧ b ∈ out (pre.foldl upd s) x := by
  intro xs
  induction xs with
  | nil => intro s; simp [runOut]
  | cons y r ih =>
    intro s
    simp only [runOut, List.mem_append, ih, List.cons_eq_append_iff]
    constructor
    · rintro (h | ⟨pre, x, post, rfl, h⟩)
      · exact ⟨[], y, r, Or.inl ⟨rfl, rfl⟩, h⟩
      · exact ⟨y :: pre, x, post, Or.inr ⟨pre, rfl, rfl⟩, h⟩
    · rintro ⟨pre, x, post, ⟨rfl, h1⟩ | ⟨pre', rfl, rfl⟩, h⟩
      · cases h1; exact Or.inl h
      · exact Or.inr ⟨pre', x, post, rfl, h⟩

/-- a fold simulates the run: `Sim st s o` says that the state `st` shows the pure state `s` and the output `o` -/
theorem foldl_runOut {S : Type} (step : S → α → S) (Sim : S → σ → List β → Prop)
    (h : ∀ st x s o, Sim st s o → Sim (step st x) (upd s x) (o ++ out s x)) :
    ∀ (xs : List α) (st : S) (s : σ) (o : List β), Sim st s o → Sim (xs.foldl step st) (xs.foldl upd s) (o ++ runOut out upd s xs) := by
  intro xs
  induction xs with
  | nil => intro st s o hs; rw [runOut, List.append_nil]; exact hs
  | cons x r ih =>
    intro st s o hs
    rw [runOut, ← List.append_assoc]
    exact ih _ _ _ (h st x s o hs)

end Run

theorem exists_first {α : Type} (p : α → Prop) [DecidablePred p] {l : List α} {x : α} (hx : x ∈ l) (hp : p x) :
    ∃ pre y post, l = pre ++ y :: post ∧ p y ∧ ∀ a ∈ pre, ¬ p a := by
  cases h : l.find? (fun a => decide (p a)) with
  | none => exact absurd hp (by simpa using List.find?_eq_none.1 h x hx)
  | some y =>
    obtain ⟨h1, pre, post, h2, h3⟩ := List.find?_eq_some_iff_append.1 h
    exact ⟨pre, y, post, h2, by simpa using h1, fun a ha => by simpa using h3 a ha⟩

/-- is the finding suppressed by the `nomsg` list at the gate? -/
def supB (env : Env) (cfg : GCfg) (nomsg : List Suppr) (f : Finding) : Bool :=
  anyMatch env cfg.useGlobal (toMsg env cfg f) nomsg

def explB (env : Env) (cfg : GCfg) (nomsg : List Suppr) (f : Finding) : Bool :=
  anyExplicit env cfg.useGlobal (toMsg env cfg f) nomsg

/-- would the full list (global entries included) suppress the finding?  (`suppressedLater` when the logger runs
    without the global suppressions) -/
def laterB (env : Env) (cfg : GCfg) (nomsg : List Suppr) (f : Finding) : Bool :=
  anyMatch env true (toMsg env cfg f) nomsg

/-- does the finding use the duplicate filter of the suppressed findings? -/
def useSupB (dfix : Bool) (env : Env) (cfg : GCfg) (nomsg : List Suppr) (f : Finding) : Bool :=
  dfix && (supB env cfg nomsg f || (!cfg.useGlobal && laterB env cfg nomsg f))

/-- the two duplicate filters: (`mErrorList`, `mSuppressedErrorList`) -/
abbrev Filters := List Str × List Str

def Filters.sel (ls : Filters) (b : Bool) : List Str := if b then ls.2 else ls.1
def Filters.ins (ls : Filters) (b : Bool) (t : Str) : Filters := if b then (ls.1, t :: ls.2) else (t :: ls.1, ls.2)

/-- what one gate call appends to the output, as a function of the `nomsg` list (flags irrelevant) and the
    duplicate filters -/
def stepOut (dfix : Bool) (env : Env) (cfg : GCfg) (nomsg : List Suppr) (ls : Filters) (f : Finding) : List Out :=
  if f.internal then [{ f := f }]
  else if !f.libReports then []
  else
    (if supB env cfg nomsg f && cfg.safety && f.critical then [{ f := f, asInternal := explB env cfg nomsg f }] else []) ++
    (if f.text.isEmpty || (!cfg.emitDuplicates && (ls.sel (useSupB dfix env cfg nomsg f)).contains f.text) ||
        supB env cfg nomsg f then []
     else [{ f := f, remark := remarkFor cfg f }])

/-- does the finding go through a duplicate filter (it is neither forwarded at once nor dropped before)? -/
def filtered (cfg : GCfg) (g : Finding) : Bool :=
  !g.internal && g.libReports && !g.text.isEmpty && !cfg.emitDuplicates

/-- not an instance of `FirstOfKey.firsts`: which of the two filters a rendering goes to is chosen per finding -/
def stepEl (dfix : Bool) (env : Env) (cfg : GCfg) (nomsg : List Suppr) (ls : Filters) (f : Finding) : Filters :=
  if filtered cfg f && !(ls.sel (useSupB dfix env cfg nomsg f)).contains f.text then ls.ins (useSupB dfix env cfg nomsg f) f.text
  else ls

/-- what of a logger's state matters later: it holds `nomsg` up to flags, and shows the filters `ls` and the output `out` -/
structure Sim (nomsg : List Suppr) (st : GState) (ls : Filters) (out : List Out) : Prop where
  flag : FlagEq st.nomsg nomsg
  filt : (st.errorList, st.supErrorList) = ls
  out : st.out = out

theorem exitStep_sim {nomsg : List Suppr} {st : GState} {ls : Filters} {out : List Out} (env : Env) (m : Msg)
    (h : Sim nomsg st ls out) : Sim nomsg (exitStep env st m) ls out := by
  unfold exitStep
  dsimp only
  split
  · exact ⟨h.flag, h.filt, h.out⟩
  · split <;> exact ⟨(listIsSuppressed_snd _ _ _ _).trans h.flag, h.filt, h.out⟩

theorem safetyStep_sim {nomsg : List Suppr} {st : GState} {ls : Filters} {out : List Out} (env : Env) (cfg : GCfg)
    (f : Finding) (m : Msg) (sup : Bool) (h : Sim nomsg st ls out) :
    Sim nomsg (safetyStep env cfg st f m sup) ls (out ++
      (if sup && cfg.safety && f.critical then [{ f := f, asInternal := anyExplicit env cfg.useGlobal m nomsg }] else [])) := by
  unfold safetyStep
  by_cases hc : (sup && cfg.safety && f.critical) = true
  · simp only [hc, if_true]
    have ho : st.out ++ [{ f := f, asInternal := (listIsSuppressedExplicitly env cfg.useGlobal m st.nomsg).1 }] =
        out ++ [{ f := f, asInternal := anyExplicit env cfg.useGlobal m nomsg }] := by
      rw [listIsSuppressedExplicitly_fst, anyExplicit_congr env _ _ h.flag, h.out]
    split
    · exact ⟨((listIsSuppressed_snd _ _ _ _).trans (listIsSuppressedExplicitly_snd _ _ _ _)).trans h.flag, h.filt, ho⟩
    · exact ⟨(listIsSuppressedExplicitly_snd _ _ _ _).trans h.flag, h.filt, ho⟩
  · simp only [hc, if_false, Bool.false_eq_true, List.append_nil]
    split
    · exact ⟨(listIsSuppressed_snd _ _ _ _).trans h.flag, h.filt, h.out⟩
    · exact h

/-- the end of `reportErrG` -/
def forwardStep (env : Env) (cfg : GCfg) (st3 : GState) (f : Finding) (m : Msg) (sup : Bool) : GState :=
  if sup then st3
  else
    let st5 := exitStep env st3 m
    { st5 with out := st5.out ++ [{ f := f, remark := remarkFor cfg f }] }

theorem forwardStep_sim {nomsg : List Suppr} {st3 : GState} {ls : Filters} {out : List Out} (env : Env) (cfg : GCfg)
    (f : Finding) (m : Msg) (sup : Bool) (h : Sim nomsg st3 ls out) :
    Sim nomsg (forwardStep env cfg st3 f m sup) ls (out ++ (if sup then [] else [{ f := f, remark := remarkFor cfg f }])) := by
  unfold forwardStep
  cases sup
  · have h5 := exitStep_sim env m h
    exact ⟨h5.flag, h5.filt, by rw [← h5.out]; rfl⟩
  · rw [if_pos rfl, if_pos rfl, List.append_nil]; exact h

/-- the part of `reportErrG` after the empty-rendering test, as a function of the state `st2` reached so far -/
def tailStep (dfix : Bool) (env : Env) (cfg : GCfg) (st2 : GState) (f : Finding) (m : Msg) (sup : Bool) : GState :=
  let rl := if dfix && !sup && !cfg.useGlobal then listIsSuppressed env true m st2.nomsg else (false, st2.nomsg)
  let st2b : GState := { st2 with nomsg := rl.2 }
  let useSup := dfix && (sup || rl.1)
  if !cfg.emitDuplicates && (if useSup then st2b.supErrorList else st2b.errorList).contains f.text then st2b
  else
    forwardStep env cfg
      (if cfg.emitDuplicates then st2b
       else if useSup then { st2b with supErrorList := f.text :: st2b.supErrorList }
       else { st2b with errorList := f.text :: st2b.errorList }) f m sup

theorem tailStep_sim {nomsg : List Suppr} {st2 : GState} {ls : Filters} {out : List Out} (dfix : Bool) (env : Env)
    (cfg : GCfg) (f : Finding) (sup us : Bool) (h : Sim nomsg st2 ls out)
    (hus : us = (dfix && (sup || (!cfg.useGlobal && anyMatch env true (toMsg env cfg f) nomsg)))) :
    Sim nomsg (tailStep dfix env cfg st2 f (toMsg env cfg f) sup)
      (if !cfg.emitDuplicates && !(ls.sel us).contains f.text then ls.ins us f.text else ls)
      (out ++ (if (!cfg.emitDuplicates && (ls.sel us).contains f.text) || sup then []
               else [{ f := f, remark := remarkFor cfg f }])) := by
  obtain ⟨hn, rfl, rfl⟩ := h
  have hrl1 : (dfix && (sup || (if dfix && !sup && !cfg.useGlobal then listIsSuppressed env true (toMsg env cfg f) st2.nomsg
      else (false, st2.nomsg)).1)) = us := by
    rw [hus]
    cases dfix <;> cases sup <;> cases cfg.useGlobal <;> simp [listIsSuppressed_fst, anyMatch_congr env true _ hn]
  have hrl2 : FlagEq (if dfix && !sup && !cfg.useGlobal then listIsSuppressed env true (toMsg env cfg f) st2.nomsg
      else (false, st2.nomsg)).2 nomsg := by
    split
    · exact FlagEq.trans (listIsSuppressed_snd _ _ _ _) hn
    · exact hn
  unfold tailStep
  dsimp only
  rw [hrl1]
  generalize (if dfix && !sup && !cfg.useGlobal then listIsSuppressed env true (toMsg env cfg f) st2.nomsg
      else (false, st2.nomsg)).2 = nm at hrl2 ⊢
  clear hrl1 hus
  unfold Filters.sel Filters.ins
  -- one leaf per way through `tailStep`: duplicates are emitted; else the filter `us` selects holds the rendering or not
  cases cfg.emitDuplicates <;>
    simp only [Bool.not_true, Bool.not_false, Bool.false_and, Bool.true_and, Bool.false_eq_true, if_true, if_false,
      Bool.false_or]
  case true => exact forwardStep_sim env cfg f _ sup ⟨hrl2, rfl, rfl⟩
  case false =>
    cases us <;> simp only [Bool.false_eq_true, if_false, if_true]
    · cases st2.errorList.contains f.text <;> simp only [Bool.false_eq_true, if_false, if_true, Bool.false_or, Bool.true_or]
      · exact forwardStep_sim env cfg f _ sup ⟨hrl2, rfl, rfl⟩
      · exact ⟨hrl2, rfl, (List.append_nil _).symm⟩
    · cases st2.supErrorList.contains f.text <;> simp only [Bool.false_eq_true, if_false, if_true, Bool.false_or, Bool.true_or]
      · exact forwardStep_sim env cfg f _ sup ⟨hrl2, rfl, rfl⟩
      · exact ⟨hrl2, rfl, (List.append_nil _).symm⟩

theorem reportErrG_eq (dfix : Bool) (env : Env) (cfg : GCfg) (st : GState) (f : Finding) :
    reportErrG dfix env cfg st f =
      if f.internal then { st with out := st.out ++ [{ f := f }] }
      else if !f.libReports then st
      else
        let st2 := safetyStep env cfg
          { st with nomsg := (listIsSuppressed env cfg.useGlobal (toMsg env cfg f) st.nomsg).2 } f (toMsg env cfg f)
          (listIsSuppressed env cfg.useGlobal (toMsg env cfg f) st.nomsg).1
        if f.text.isEmpty then st2
        else tailStep dfix env cfg st2 f (toMsg env cfg f) (listIsSuppressed env cfg.useGlobal (toMsg env cfg f) st.nomsg).1 := rfl

theorem reportErrG_sim (dfix : Bool) (env : Env) (cfg : GCfg) (nomsg : List Suppr) (st : GState) (f : Finding)
    (ls : Filters) (out : List Out) (h : Sim nomsg st ls out) :
    Sim nomsg (reportErrG dfix env cfg st f) (stepEl dfix env cfg nomsg ls f) (out ++ stepOut dfix env cfg nomsg ls f) := by
  rw [reportErrG_eq]
  unfold stepOut stepEl filtered
  by_cases hi : f.internal = true
  · simp only [hi, if_true, Bool.not_true, Bool.false_and, Bool.false_eq_true, if_false]
    exact ⟨h.flag, h.filt, by rw [h.out]⟩
  · by_cases hl : f.libReports = true
    · simp only [hi, hl, Bool.false_eq_true, if_false, Bool.not_true, Bool.not_false, Bool.true_and]
      have hr1 : (listIsSuppressed env cfg.useGlobal (toMsg env cfg f) st.nomsg).1 = supB env cfg nomsg f := by
        rw [listIsSuppressed_fst, anyMatch_congr env _ _ h.flag]; rfl
      have h2 := safetyStep_sim env cfg f (toMsg env cfg f) (listIsSuppressed env cfg.useGlobal (toMsg env cfg f) st.nomsg).1
        (st := { st with nomsg := (listIsSuppressed env cfg.useGlobal (toMsg env cfg f) st.nomsg).2 })
        ⟨(listIsSuppressed_snd _ _ _ _).trans h.flag, h.filt, h.out⟩
      rw [hr1] at h2 ⊢
      by_cases ht : f.text.isEmpty = true
      · simp only [ht, if_true, Bool.true_or, Bool.not_true, Bool.false_and, Bool.false_eq_true, if_false, List.append_nil]
        exact h2
      · simp only [ht, if_false, Bool.false_eq_true, Bool.false_or, Bool.not_false, Bool.true_and]
        have h3 := tailStep_sim dfix env cfg f (supB env cfg nomsg f) (useSupB dfix env cfg nomsg f) h2
          (by unfold useSupB laterB; rfl)
        rw [List.append_assoc] at h3
        exact h3
    · simp only [hi, hl, if_false, Bool.false_eq_true, Bool.not_false, if_true, Bool.and_false, Bool.false_and, List.append_nil]
      exact h

theorem gateG_spec (dfix : Bool) (env : Env) (cfg : GCfg) (nomsg nofail : List Suppr) (fs : List Finding) :
    FlagEq (gateG dfix env cfg nomsg nofail fs).nomsg nomsg ∧
    (gateG dfix env cfg nomsg nofail fs).out =
      runOut (stepOut dfix env cfg nomsg) (stepEl dfix env cfg nomsg) ([], []) fs :=
  have h := foldl_runOut _ _ (reportErrG dfix env cfg) (Sim nomsg) (reportErrG_sim dfix env cfg nomsg) fs
    { nomsg := nomsg, nofail := nofail } ([], []) [] ⟨FlagEq.refl nomsg, rfl, rfl⟩
  ⟨h.flag, h.out⟩

/-- a finding is forwarded unaltered -/
def Reported (out : List Out) (f : Finding) : Prop := ∃ o ∈ out, o.f = f ∧ o.asInternal = false

def TextInj (fs : List Finding) : Prop := ∀ f ∈ fs, ∀ g ∈ fs, f.text = g.text → f = g

instance (fs : List Finding) : Decidable (TextInj fs) := by unfold TextInj; infer_instance

/-- the three ways through the gate: internal messages; unsuppressed findings with a non-empty rendering;
    (safety mode) suppressed critical errors that no suppression names explicitly -/
def passes (env : Env) (cfg : GCfg) (nomsg : List Suppr) (f : Finding) : Bool :=
  f.internal ||
  (f.libReports &&
    ((!supB env cfg nomsg f && !f.text.isEmpty) ||
     (supB env cfg nomsg f && cfg.safety && f.critical && !explB env cfg nomsg f)))

theorem reported_nil (f : Finding) : Reported [] f ↔ False := by simp [Reported]

theorem reported_singleton (o : Out) (f : Finding) : Reported [o] f ↔ (o.f = f ∧ o.asInternal = false) := by
  simp [Reported]

theorem reported_ite (p : Prop) [Decidable p] (a b : List Out) (f : Finding) :
    Reported (if p then a else b) f ↔ (p ∧ Reported a f) ∨ (¬ p ∧ Reported b f) := by
  split <;> simp [*]

theorem reported_runOut {σ α : Type} (out : σ → α → List Out) (upd : σ → α → σ) (f : Finding) (xs : List α) (s : σ) :
    Reported (runOut out upd s xs) f ↔ ∃ pre x post, xs = pre ++ x :: post ∧ Reported (out (pre.foldl upd s) x) f := by
  constructor
  · rintro ⟨o, ho, h⟩
    obtain ⟨pre, x, post, h1, h2⟩ := (mem_runOut out upd o xs s).1 ho
    exact ⟨pre, x, post, h1, o, h2, h⟩
  · rintro ⟨pre, x, post, h1, o, h2, h⟩
    exact ⟨o, (mem_runOut out upd o xs s).2 ⟨pre, x, post, h1, h2⟩, h⟩

theorem reported_stepOut (dfix : Bool) (env : Env) (cfg : GCfg) (nomsg : List Suppr) (ls : Filters) (g f : Finding) :
    Reported (stepOut dfix env cfg nomsg ls g) f ↔
      g = f ∧ passes env cfg nomsg g = true ∧ (g.internal = true ∨ supB env cfg nomsg g = true ∨
        cfg.emitDuplicates = true ∨ g.text ∉ ls.sel (useSupB dfix env cfg nomsg g)) := by
  unfold stepOut passes
  by_cases hi : g.internal = true
  · simp [hi, reported_singleton]
  · by_cases hl : g.libReports = true
    · -- a suppressed finding can only take the safety path, an unsuppressed one only the normal path
      cases hs : supB env cfg nomsg g <;>
        simp [hi, hl, reported_ite, reported_singleton, reported_nil, Decidable.imp_iff_not_or, and_comm,
          and_left_comm]
    · simp [hi, hl, reported_nil]

theorem sel_ins (ls : Filters) (b c : Bool) (t x : Str) :
    x ∈ (ls.ins b t).sel c ↔ x ∈ ls.sel c ∨ (c = b ∧ x = t) := by
  cases b <;> cases c <;> simp [Filters.ins, Filters.sel] <;> exact Or.comm

theorem mem_stepEl (dfix : Bool) (env : Env) (cfg : GCfg) (nomsg : List Suppr) (ls : Filters) (g : Finding) (c : Bool)
    (t : Str) : t ∈ (stepEl dfix env cfg nomsg ls g).sel c ↔
      t ∈ ls.sel c ∨ (filtered cfg g = true ∧ useSupB dfix env cfg nomsg g = c ∧ t = g.text) := by
  unfold stepEl
  split
  · rename_i hc
    rw [Bool.and_eq_true] at hc
    simp [sel_ins, hc.1, eq_comm (a := c)]
  · rename_i hc
    refine ⟨Or.inl, fun h => h.elim id ?_⟩
    rintro ⟨hf, rfl, rfl⟩
    simpa [hf] using hc

/-- once `h` has gone through the gate, the filter stops `f` -/
abbrev Shadows (dfix : Bool) (env : Env) (cfg : GCfg) (nomsg : List Suppr) (f h : Finding) : Prop :=
  filtered cfg h = true ∧ useSupB dfix env cfg nomsg h = useSupB dfix env cfg nomsg f ∧ f.text = h.text

/-- the filters of a run hold the renderings of the filtered findings so far -/
theorem not_mem_filters_after (dfix : Bool) (env : Env) (cfg : GCfg) (nomsg : List Suppr) (pre : List Finding) (f : Finding) :
    f.text ∉ (pre.foldl (stepEl dfix env cfg nomsg) ([], [])).sel (useSupB dfix env cfg nomsg f) ↔
      ∀ h ∈ pre, ¬ Shadows dfix env cfg nomsg f h := by
  rw [Text.foldl_or_iff (stepEl dfix env cfg nomsg) (fun ls => f.text ∈ ls.sel _) _
    (fun ls g => mem_stepEl dfix env cfg nomsg ls g _ _)]
  simp [Filters.sel]

/-- the gate without its state: forwarded iff `f` passes and, at one of its places in the run, nothing in front of it shadows it -/
theorem reported_gateG (dfix : Bool) (env : Env) (cfg : GCfg) (nomsg nofail : List Suppr) (fs : List Finding) (f : Finding) :
    Reported (gateG dfix env cfg nomsg nofail fs).out f ↔
      passes env cfg nomsg f = true ∧ ∃ pre post, fs = pre ++ f :: post ∧
        (f.internal = true ∨ supB env cfg nomsg f = true ∨ cfg.emitDuplicates = true ∨
          ∀ h ∈ pre, ¬ Shadows dfix env cfg nomsg f h) := by
  rw [(gateG_spec dfix env cfg nomsg nofail fs).2, reported_runOut]
  constructor
  · rintro ⟨pre, x, post, h1, h2⟩
    obtain ⟨rfl, h3, h4⟩ := (reported_stepOut ..).1 h2
    rw [not_mem_filters_after] at h4
    exact ⟨h3, pre, post, h1, h4⟩
  · rintro ⟨h3, pre, post, h1, h4⟩
    rw [← not_mem_filters_after] at h4
    exact ⟨pre, f, post, h1, (reported_stepOut ..).2 ⟨rfl, h3, h4⟩⟩

theorem reported_gateG_sound (dfix : Bool) (env : Env) (cfg : GCfg) (nomsg nofail : List Suppr) (fs : List Finding)
    (f : Finding) (h : Reported (gateG dfix env cfg nomsg nofail fs).out f) : f ∈ fs ∧ passes env cfg nomsg f = true := by
  obtain ⟨hp, pre, post, rfl, -⟩ := (reported_gateG ..).1 h
  exact ⟨by simp, hp⟩

/-- nothing shadows `f` at its first place -/
theorem reported_gateG_iff (dfix : Bool) (env : Env) (cfg : GCfg) (nomsg nofail : List Suppr) (fs : List Finding)
    (hd : cfg.emitDuplicates = true ∨ TextInj fs) (f : Finding) :
    Reported (gateG dfix env cfg nomsg nofail fs).out f ↔ f ∈ fs ∧ passes env cfg nomsg f = true := by
  refine ⟨reported_gateG_sound dfix env cfg nomsg nofail fs f, fun ⟨hm, hp⟩ => ?_⟩
  obtain ⟨pre, post, rfl, hpre⟩ := List.eq_append_cons_of_mem hm
  refine (reported_gateG ..).2 ⟨hp, pre, post, rfl, Or.inr (Or.inr (hd.imp_right fun hinj h hh hs => hpre ?_))⟩
  rw [hinj f hm h (List.mem_append_left _ hh) hs.2.2]
  exact hh

/-- completeness on renderings (current duplicate filters): the rendering is forwarded by the finding itself if the
    filters do not apply to it, else by the first finding that brings this rendering to the filter `mErrorList` -/
theorem reported_gateG_texts (env : Env) (cfg : GCfg) (nomsg nofail : List Suppr) (fs : List Finding) (f : Finding)
    (hm : f ∈ fs) (hnl : (!cfg.useGlobal && laterB env cfg nomsg f) = false) (hp : passes env cfg nomsg f = true) :
    ∃ g ∈ fs, g.text = f.text ∧ Reported (gateG true env cfg nomsg nofail fs).out g := by
  by_cases hby : f.internal = true ∨ supB env cfg nomsg f = true ∨ cfg.emitDuplicates = true
  · obtain ⟨pre, post, rfl⟩ := List.append_of_mem hm
    exact ⟨f, hm, rfl, (reported_gateG ..).2 ⟨hp, pre, post, rfl, hby.imp_right (Or.imp_right Or.inl)⟩⟩
  · simp only [not_or, Bool.not_eq_true] at hby
    obtain ⟨hi, hs, he⟩ := hby
    have huf : useSupB true env cfg nomsg f = false := by rw [useSupB, hs, hnl]; rfl
    have hpf : f.libReports = true ∧ f.text.isEmpty = false := by simpa [passes, hi, hs] using hp
    obtain ⟨pre, g, post, rfl, ⟨hg1, hg2, hg3⟩, hpre⟩ := exists_first (Shadows true env cfg nomsg f) hm
      ⟨by simp [filtered, hi, hpf, he], rfl, rfl⟩
    -- `g` uses `mErrorList` as `f` does, so it is not suppressed: it passes
    have hsg : supB env cfg nomsg g = false := by
      rw [huf, useSupB, Bool.true_and, Bool.or_eq_false_iff] at hg2; exact hg2.1
    refine ⟨g, by simp, hg3.symm, (reported_gateG ..).2
      ⟨?_, pre, post, rfl, Or.inr (Or.inr (Or.inr fun h hh hs' => hpre h hh ⟨hs'.1, hs'.2.1.trans hg2, hg3.trans hs'.2.2⟩))⟩⟩
    simp only [filtered, Bool.and_eq_true, Bool.not_eq_true'] at hg1
    simp [passes, hsg, hg1.1.1.2, hg1.1.2]

/-- the finding as the executor sees it: no location macros -/
def toMsgE (env : Env) (cfg : GCfg) (f : Finding) : Msg := toMsg env { cfg with locMacros := [] } f

theorem toMsgE_eq (env : Env) (cfg : GCfg) (f : Finding) :
    toMsgE env cfg f = { toMsg env cfg f with macroNames := [] } := by
  unfold toMsgE toMsg
  cases f.stack.getLast? with
  | none => rfl
  | some p => rfl

/-- would the executor's `nomsg.isSuppressed(msg, {})` suppress the finding? -/
def laterE (env : Env) (cfg : GCfg) (nomsg : List Suppr) (f : Finding) : Bool :=
  anyMatch env true (toMsgE env cfg f) nomsg

/-- the answer of `hasToLog`, as a function of the `nomsg` list and the executor's duplicate filter `el` -/
def eKeep (env : Env) (cfg : GCfg) (nomsg : List Suppr) (el : List Str) (o : Out) : Bool :=
  o.f.internal || o.asInternal ||
    (!laterE env cfg nomsg o.f && !o.f.text.isEmpty && (cfg.emitDuplicates || !el.contains o.f.text))

/-- does the message go through the executor's duplicate filter? -/
def eFiltered (env : Env) (cfg : GCfg) (nomsg : List Suppr) (o : Out) : Bool :=
  !(o.f.internal || o.asInternal) && !laterE env cfg nomsg o.f && !o.f.text.isEmpty && !cfg.emitDuplicates

/-- … and the filter it leaves -/
def eEl (env : Env) (cfg : GCfg) (nomsg : List Suppr) (el : List Str) (o : Out) : List Str :=
  if eFiltered env cfg nomsg o && !el.contains o.f.text then o.f.text :: el else el

/-- the shortcut of `isSuppressed(const ::ErrorMessage&, …)` for an empty list returns what the loop returns -/
theorem listIsSuppressed_of_isEmpty (env : Env) (g : Bool) (m : Msg) (l : List Suppr) :
    (if l.isEmpty then (false, l) else listIsSuppressed env g m l) = listIsSuppressed env g m l := by
  cases l <;> rfl

theorem hasToLog_spec (env : Env) (cfg : GCfg) (nomsg : List Suppr) (st : EState) (o : Out)
    (hn : FlagEq st.nomsg nomsg) :
    (hasToLog env cfg st o).1 = eKeep env cfg nomsg st.errorList o ∧
    FlagEq (hasToLog env cfg st o).2.nomsg nomsg ∧
    (hasToLog env cfg st o).2.errorList = eEl env cfg nomsg st.errorList o ∧
    (hasToLog env cfg st o).2.kept = st.kept := by
  by_cases hi : (o.f.internal || o.asInternal) = true
  · have h1 : hasToLog env cfg st o = (true, st) := by unfold hasToLog; rw [if_pos hi]
    rw [h1]
    unfold eKeep eEl eFiltered
    refine ⟨?_, hn, ?_, rfl⟩
    · simp only [hi, Bool.true_or]
    · simp only [hi, Bool.not_true, Bool.false_and, Bool.false_eq_true, if_false]
  · unfold hasToLog eKeep eEl eFiltered
    simp only [hi, if_false, Bool.false_eq_true, Bool.false_or, Bool.not_false, Bool.true_and, listIsSuppressed_of_isEmpty]
    have hr1 : (listIsSuppressed env true (toMsg env { cfg with locMacros := [] } o.f) st.nomsg).1 = laterE env cfg nomsg o.f := by
      rw [listIsSuppressed_fst, anyMatch_congr env true _ hn]; rfl
    have hr2 := (listIsSuppressed_snd env true (toMsg env { cfg with locMacros := [] } o.f) st.nomsg).trans hn
    rw [hr1]
    generalize (listIsSuppressed env true (toMsg env { cfg with locMacros := [] } o.f) st.nomsg).2 = nm at hr2 ⊢
    clear hr1
    -- one leaf per `return` of `hasToLog`
    cases laterE env cfg nomsg o.f
    case true => exact ⟨rfl, hr2, rfl, rfl⟩
    cases o.f.text.isEmpty
    case true => exact ⟨rfl, hr2, rfl, rfl⟩
    cases cfg.emitDuplicates
    case true => exact ⟨rfl, hr2, rfl, rfl⟩
    cases st.errorList.contains o.f.text
    case true => exact ⟨rfl, hr2, rfl, rfl⟩
    exact ⟨rfl, hr2, rfl, rfl⟩

theorem execStep_sim (env : Env) (cfg : GCfg) (nomsg : List Suppr) (st : EState) (o : Out) (el : List Str) (kept : List Out)
    (h : FlagEq st.nomsg nomsg ∧ st.errorList = el ∧ st.kept = kept) :
    FlagEq (execStep env cfg st o).nomsg nomsg ∧ (execStep env cfg st o).errorList = eEl env cfg nomsg el o ∧
    (execStep env cfg st o).kept = kept ++ (if eKeep env cfg nomsg el o then [o] else []) := by
  obtain ⟨hn, rfl, rfl⟩ := h
  obtain ⟨h1, h2, h3, h4⟩ := hasToLog_spec env cfg nomsg st o hn
  unfold execStep
  dsimp only
  rw [h1]
  split
  · exact ⟨h2, h3, by rw [h4]⟩
  · exact ⟨h2, h3, by rw [h4, List.append_nil]⟩

theorem execFilter_kept (env : Env) (cfg : GCfg) (nomsg nomsg' : List Suppr) (outs : List Out) (hn : FlagEq nomsg' nomsg) :
    (execFilter env cfg nomsg' outs).kept =
      runOut (fun el o => if eKeep env cfg nomsg el o then [o] else []) (eEl env cfg nomsg) [] outs :=
  (foldl_runOut _ _ (execStep env cfg) (fun st el kept => FlagEq st.nomsg nomsg ∧ st.errorList = el ∧ st.kept = kept)
    (execStep_sim env cfg nomsg) outs _ [] [] ⟨hn, rfl, rfl⟩).2.2

theorem mem_eEl (env : Env) (cfg : GCfg) (nomsg : List Suppr) (el : List Str) (o : Out) (t : Str) :
    t ∈ eEl env cfg nomsg el o ↔ t ∈ el ∨ (eFiltered env cfg nomsg o = true ∧ t = o.f.text) := by
  unfold eEl
  split
  · rename_i hc
    rw [Bool.and_eq_true] at hc
    simp [hc.1, or_comm]
  · rename_i hc
    refine ⟨Or.inl, fun h => h.elim id ?_⟩
    rintro ⟨hf, rfl⟩
    simpa [hf] using hc

/-- the executor-side condition for a forwarded, unaltered finding -/
def eOk (env : Env) (cfg : GCfg) (nomsg : List Suppr) (f : Finding) : Bool :=
  f.internal || (!laterE env cfg nomsg f && !f.text.isEmpty)

theorem eKeep_iff (env : Env) (cfg : GCfg) (nomsg : List Suppr) (el : List Str) {o : Out} (ha : o.asInternal = false) :
    eKeep env cfg nomsg el o = true ↔ eOk env cfg nomsg o.f = true ∧
      (o.f.internal = true ∨ cfg.emitDuplicates = true ∨ o.f.text ∉ el) := by
  unfold eKeep eOk
  rw [ha, Bool.or_false]
  cases o.f.internal <;> simp [and_assoc]

theorem reported_keep (env : Env) (cfg : GCfg) (nomsg : List Suppr) (el : List Str) (o : Out) (f : Finding) :
    Reported (if eKeep env cfg nomsg el o then [o] else []) f ↔
      o.f = f ∧ o.asInternal = false ∧ eOk env cfg nomsg f = true ∧
        (f.internal = true ∨ cfg.emitDuplicates = true ∨ f.text ∉ el) := by
  rw [reported_ite, reported_singleton, reported_nil]
  constructor
  · rintro (⟨hk, rfl, ha⟩ | ⟨-, h⟩)
    · exact ⟨rfl, ha, (eKeep_iff env cfg nomsg el ha).1 hk⟩
    · exact h.elim
  · rintro ⟨rfl, ha, hp⟩
    exact Or.inl ⟨(eKeep_iff env cfg nomsg el ha).2 hp, rfl, ha⟩

/-- the first message that carries the finding is not stopped by the duplicate filter: a message that put its rendering there
    would be an earlier carrier (`hd`: renderings identify the forwarded findings) -/
theorem reported_execFilter (env : Env) (cfg : GCfg) (nomsg nomsg' : List Suppr) (outs : List Out) (hn : FlagEq nomsg' nomsg)
    (hd : cfg.emitDuplicates = true ∨ ∀ g g', Reported outs g → Reported outs g' → g.text = g'.text → g = g') (f : Finding) :
    Reported (execFilter env cfg nomsg' outs).kept f ↔ Reported outs f ∧ eOk env cfg nomsg f = true := by
  rw [execFilter_kept env cfg nomsg nomsg' outs hn, reported_runOut]
  simp only [reported_keep]
  constructor
  · rintro ⟨pre, o, post, rfl, h1, h2, h3, -⟩
    exact ⟨⟨o, by simp, h1, h2⟩, h3⟩
  · rintro ⟨⟨o, ho, h1⟩, h3⟩
    obtain ⟨pre, o', post, rfl, ⟨h1', h2'⟩, hpre⟩ := exists_first (fun o : Out => o.f = f ∧ o.asInternal = false) ho h1
    refine ⟨pre, o', post, rfl, h1', h2', h3, Or.inr (hd.imp_right fun hinj hc => ?_)⟩
    rw [Text.foldl_or_iff (eEl env cfg nomsg) (fun el => f.text ∈ el) _ (fun el o => mem_eEl env cfg nomsg el o _)] at hc
    obtain ⟨a, ha, ha1, ha2⟩ := hc.resolve_left (by simp)
    simp only [eFiltered, Bool.and_eq_true, Bool.not_eq_true', Bool.or_eq_false_iff] at ha1
    exact hpre a ha ⟨hinj a.f f ⟨a, by simp [ha], rfl, ha1.1.1.1.2⟩ ⟨o', by simp, h1', h2'⟩ ha2.symm, ha1.1.1.1.2⟩

/-- a non-macro suppression does not look at the macro names -/
theorem isSuppressed_noMacro (env : Env) (s : Suppr) (m : Msg) (hs : s.type ≠ .macro) :
    isSuppressed env s { m with macroNames := [] } = isSuppressed env s m := by
  unfold isSuppressed
  rw [if_neg hs, if_neg hs]
  rfl

theorem isSuppressed_macro_nil (env : Env) (s : Suppr) (m : Msg) (hs : s.type = .macro) :
    isSuppressed env s { m with macroNames := [] } = .none := by
  unfold isSuppressed
  simp [hs]

theorem considered_mono (m : Msg) (s : Suppr) (h : considered false m s = true) : considered true m s = true := by
  unfold considered at h ⊢
  simp only [Bool.false_or, Bool.and_eq_true] at h
  simp [h.2]

theorem considered_local (g : Bool) (m : Msg) (s : Suppr) (hl : isLocal s = true) :
    considered g m s = considered true m s := by
  unfold considered; simp [hl]

/-- worker (local entries, with macros) or executor (all entries, without macros) ⇔ all entries with macros,
    provided macro suppressions are bound to their file (they come from inline comments and carry the name of the file the comment
    is in: bound unless that name contains `*` or `?`) -/
theorem sup_local_or_later (env : Env) (cfg : GCfg) (nomsg : List Suppr) (f : Finding)
    (hmac : ∀ s ∈ nomsg, s.type = .macro → isLocal s = true) :
    (supB env { cfg with useGlobal := false } nomsg f || laterE env cfg nomsg f) = laterB env cfg nomsg f := by
  apply Bool.eq_iff_iff.2
  unfold supB laterE laterB
  have hm : toMsg env { cfg with useGlobal := false } f = toMsg env cfg f := rfl
  rw [hm, toMsgE_eq]
  simp only [Bool.or_eq_true, anyMatch_iff]
  constructor
  · rintro (⟨s, hs, h1, h2⟩ | ⟨s, hs, h1, h2⟩)
    · exact ⟨s, hs, considered_mono _ _ h1, h2⟩
    · by_cases ht : s.type = .macro
      · rw [isSuppressed_macro_nil env s _ ht] at h2; cases h2
      · rw [isSuppressed_noMacro env s _ ht] at h2
        exact ⟨s, hs, h1, h2⟩
  · rintro ⟨s, hs, h1, h2⟩
    by_cases ht : s.type = .macro
    · left
      refine ⟨s, hs, ?_, h2⟩
      rw [considered_local false _ s (hmac s hs ht)]; exact h1
    · right
      refine ⟨s, hs, h1, ?_⟩
      rw [isSuppressed_noMacro env s _ ht]; exact h2

theorem passes_nosafety (env : Env) (cfg : GCfg) (nomsg : List Suppr) (f : Finding) (hs : cfg.safety = false) :
    passes env cfg nomsg f = (f.internal || (f.libReports && (!supB env cfg nomsg f && !f.text.isEmpty))) := by
  simp [passes, hs]

/-- the worker's gate and the executor's test together are the single-job gate -/
theorem passes_worker_exec (env : Env) (cfg : GCfg) (nomsg : List Suppr) (f : Finding) (hs : cfg.safety = false)
    (hmac : ∀ s ∈ nomsg, s.type = .macro → isLocal s = true) :
    (passes env { cfg with useGlobal := false } nomsg f && eOk env cfg nomsg f) =
      passes env { cfg with useGlobal := true } nomsg f := by
  have hl : supB env { cfg with useGlobal := true } nomsg f = laterB env cfg nomsg f := rfl
  rw [passes_nosafety env { cfg with useGlobal := false } nomsg f hs, passes_nosafety env { cfg with useGlobal := true } nomsg f hs,
    hl, ← sup_local_or_later env cfg nomsg f hmac, eOk]
  cases f.internal <;> cases f.libReports <;> cases supB env { cfg with useGlobal := false } nomsg f <;>
    cases laterE env cfg nomsg f <;> cases f.text.isEmpty <;> rfl

/-- worker then executor forward what the single-job logger forwards (the renderings identify what the worker forwarded
    because they identify the findings of the run) -/
theorem reported_parallelRun (env : Env) (cfg : GCfg) (nomsg nofail : List Suppr) (fs : List Finding)
    (hs : cfg.safety = false) (hd : cfg.emitDuplicates = true ∨ TextInj fs)
    (hmac : ∀ s ∈ nomsg, s.type = .macro → isLocal s = true) (f : Finding) :
    Reported (parallelRun env cfg nomsg nofail fs).kept f ↔
      Reported (gate env { cfg with useGlobal := true } nomsg nofail fs).out f := by
  unfold parallelRun gate
  dsimp only
  rw [reported_execFilter env cfg nomsg _ _ (gateG_spec ..).1 (hd.imp_right fun hinj g g' hg hg' =>
      hinj g (reported_gateG_sound _ _ _ _ _ _ g hg).1 g' (reported_gateG_sound _ _ _ _ _ _ g' hg').1) f,
    reported_gateG_iff dupFixApplied env { cfg with useGlobal := false } nomsg nofail fs hd f,
    reported_gateG_iff dupFixApplied env { cfg with useGlobal := true } nomsg nofail fs hd f,
    ← passes_worker_exec env cfg nomsg f hs hmac, Bool.and_eq_true, and_assoc]

end Cppcheck.Suppress
