import Cppcheck.Proofs.Addon
import Cppcheck.Proofs.TextLemmas
/-
C34 — property theorems about the addon relay model (Model/Addon.lean): one object line (`convert`); one addon invocation
(`relay`) and when it fails; what is printed behind suppressions and the duplicate filter (`relayShown`), the exit status;
the summaries handed to whole-program analysis (`ctuInfo`); the classes of raw lines (`lineOf`).
-/
namespace Cppcheck.Addon
open Cppcheck.Wire

/-- a well-formed single-location finding line as addons/cppcheckdata.py `reportError` prints it (`extra`: a member
    the relay does not read) -/
def mkLine (addon errorId msg sev file : Str) (line col : Int) : ObjLine :=
  { fields := [("file".toList, .str file), ("linenr".toList, .int line), ("column".toList, .int col),
               ("severity".toList, .str sev), ("message".toList, .str msg), ("addon".toList, .str addon),
               ("errorId".toList, .str errorId), ("extra".toList, .str [])],
    loc := .absent, metric := none }

def reportable (o : Opts) (sev : Str) : Bool :=
  sevOfStr sev ≠ .none && sevOfStr sev ≠ .internal && o.enabled (sevOfStr sev)

/-! ### one object: any member order, any further members, `file` members or a `loc` array -/

/-- the part of `convert` behind the summary / location / metric tests -/
theorem convert_eq (o : Opts) (ob : ObjLine) (a e m s : Str) (locs : List Loc) (cw hs : Option Int)
    (h0 : has "summary" ob.fields = false) (hlocs : locsOf ob = some locs) (hm : ob.metric = none)
    (ha : getStr "addon" ob.fields = some a) (he : getStr "errorId" ob.fields = some e)
    (hmsg : getStr "message" ob.fields = some m) (hs' : getStr "severity" ob.fields = some s)
    (hcwe : optInt "cwe" ob.fields = some cw) (hh : optInt "hash" ob.fields = some hs) :
    convert o ob =
      match decideSev o (a ++ ['-'] ++ e) s with
      | none => .skip
      | some sv => .report ⟨a ++ ['-'] ++ e, sv, m, locs, cw, hs⟩ := by
  simp only [convert, h0, hlocs, hm, ha, he, hmsg, hs', hcwe, hh, Bool.false_eq_true, if_false]
  cases decideSev o (a ++ ['-'] ++ e) s <;> rfl

/-- **a finding line with `file`/`linenr`/`column` members** (whatever else the object carries, in whatever
    order): reported under `<addon>-<errorId>` at exactly that location with exactly that message, the decided
    severity, and the cwe / hash members when present -/
theorem convert_file_general (o : Opts) (ob : ObjLine) (a e m s fl : Str) (l c : Int) (sv : Sev) (cw hs : Option Int)
    (h0 : has "summary" ob.fields = false) (hm : ob.metric = none)
    (hf : getStr "file" ob.fields = some fl) (hl : getInt "linenr" ob.fields = some l) (hc : getInt "column" ob.fields = some c)
    (ha : getStr "addon" ob.fields = some a) (he : getStr "errorId" ob.fields = some e)
    (hmsg : getStr "message" ob.fields = some m) (hs' : getStr "severity" ob.fields = some s)
    (hd : decideSev o (a ++ ['-'] ++ e) s = some sv)
    (hcwe : optInt "cwe" ob.fields = some cw) (hh : optInt "hash" ob.fields = some hs) :
    convert o ob = .report ⟨a ++ ['-'] ++ e, sv, m, [⟨fl, l, c, []⟩], cw, hs⟩ := by
  have hlocs : locsOf ob = some [⟨fl, l, c, []⟩] := by
    simp only [locsOf, has_of_getStr hf, if_true, hf, hl, hc]
  rw [convert_eq o ob a e m s _ cw hs h0 hlocs hm ha he hmsg hs' hcwe hh, hd]

/-- **a finding line with a `loc` array**: one location per array element, in order, each with exactly the
    `file`, `linenr`, `column`, `info` members of its element -/
theorem convert_general (o : Opts) (ob : ObjLine) (a e m s : Str) (items : List (Option Fields)) (ls : List Loc) (sv : Sev)
    (cw hs : Option Int)
    (h0 : has "summary" ob.fields = false) (h1 : has "file" ob.fields = false) (hl : ob.loc = .arr items)
    (hc : locItems items ls) (hm : ob.metric = none)
    (ha : getStr "addon" ob.fields = some a) (he : getStr "errorId" ob.fields = some e)
    (hmsg : getStr "message" ob.fields = some m) (hs' : getStr "severity" ob.fields = some s)
    (hd : decideSev o (a ++ ['-'] ++ e) s = some sv)
    (hcwe : optInt "cwe" ob.fields = some cw) (hh : optInt "hash" ob.fields = some hs) :
    convert o ob = .report ⟨a ++ ['-'] ++ e, sv, m, ls, cw, hs⟩ := by
  have hlocs : locsOf ob = some ls := by
    simp only [locsOf, h1, Bool.false_eq_true, if_false, hl, (convLocs_eq_some_iff items ls).mpr hc]
  rw [convert_eq o ob a e m s _ cw hs h0 hlocs hm ha he hmsg hs' hcwe hh, hd]

/-- a finding line without `file` and without `loc`: reported without location -/
theorem convert_noloc_general (o : Opts) (ob : ObjLine) (a e m s : Str) (sv : Sev) (cw hs : Option Int)
    (h0 : has "summary" ob.fields = false) (h1 : has "file" ob.fields = false) (hl : ob.loc = .absent) (hm : ob.metric = none)
    (ha : getStr "addon" ob.fields = some a) (he : getStr "errorId" ob.fields = some e)
    (hmsg : getStr "message" ob.fields = some m) (hs' : getStr "severity" ob.fields = some s)
    (hd : decideSev o (a ++ ['-'] ++ e) s = some sv)
    (hcwe : optInt "cwe" ob.fields = some cw) (hh : optInt "hash" ob.fields = some hs) :
    convert o ob = .report ⟨a ++ ['-'] ++ e, sv, m, [], cw, hs⟩ := by
  have hlocs : locsOf ob = some [] := by
    simp only [locsOf, h1, Bool.false_eq_true, if_false, hl]
  rw [convert_eq o ob a e m s _ cw hs h0 hlocs hm ha he hmsg hs' hcwe hh, hd]

theorem decideSev_some (o : Opts) (id s : Str) (sv : Sev) (h : decideSev o id s = some sv) :
    (sv = .internal ∧ endsWith id "-logChecker".toList = true ∧ (sevOfStr s = .none ∨ sevOfStr s = .internal)) ∨
    (sv = sevOfStr s ∧ o.enabled sv = true ∧ sv ≠ .none ∧ sv ≠ .internal) := by
  unfold decideSev at h
  split at h
  · next hn =>
    obtain ⟨hl, h⟩ := Option.ite_none_right_eq_some.mp h
    exact Or.inl ⟨(Option.some.inj h).symm, hl, hn⟩
  · next hn =>
    obtain ⟨hen, h⟩ := Option.ite_none_right_eq_some.mp h
    cases h
    exact Or.inr ⟨rfl, hen, not_or.mp hn⟩

/-- **nothing about a relayed finding is invented** (the converse of the three theorems above): the line is
    no summary and no metric; id = `<addon>-<errorId>` and the message are the line's members; the severity is
    the one the line names and it is enabled (or the finding is an internal `-logChecker` note); the locations are
    exactly those of the `file` members or of the `loc` array; cwe and hash are the line's members or unset -/
theorem convert_report_props (o : Opts) (ob : ObjLine) (f : Finding) (h : convert o ob = .report f) :
    has "summary" ob.fields = false ∧ ob.metric = none ∧
    (∃ a e s, getStr "addon" ob.fields = some a ∧ getStr "errorId" ob.fields = some e ∧
      getStr "severity" ob.fields = some s ∧ f.id = a ++ ['-'] ++ e ∧ decideSev o f.id s = some f.sev) ∧
    (f.sev = .internal ∨ o.enabled f.sev = true) ∧
    getStr "message" ob.fields = some f.msg ∧
    locsOf ob = some f.locs ∧ optInt "cwe" ob.fields = some f.cwe ∧ optInt "hash" ob.fields = some f.hash := by
  revert h
  -- only one branch of `convert` reports, and its path conditions are the claims: no summary, locations and no metric read,
  -- the four strings present, the severity decided, both optional integers read
  fun_cases convert o ob with
  | case6 _ hsum locs hlocs hmet a e m s hs hm he ha _ sv hdec c hh hhash hcwe =>
    rintro ⟨⟩
    refine ⟨Bool.eq_false_iff.mpr hsum, hmet, ⟨a, e, s, ha, he, hs, rfl, hdec⟩, ?_, hm, hlocs, hcwe, hhash⟩
    rcases decideSev_some o _ s sv hdec with ⟨h1, _, _⟩ | ⟨_, h2, _, _⟩
    · exact Or.inl h1
    · exact Or.inr h2
  | _ => nofun

/-- the locations `locsOf` yields, spelled out: the `file` members win over `loc`; no `file` and no `loc` = no location -/
theorem locsOf_cases (ob : ObjLine) (ls : List Loc) (h : locsOf ob = some ls) :
    (has "file" ob.fields = true ∧ ∃ fl l c, getStr "file" ob.fields = some fl ∧ getInt "linenr" ob.fields = some l ∧
        getInt "column" ob.fields = some c ∧ ls = [⟨fl, l, c, []⟩]) ∨
    (has "file" ob.fields = false ∧ ob.loc = .absent ∧ ls = []) ∨
    (has "file" ob.fields = false ∧ ∃ items, ob.loc = .arr items ∧ locItems items ls) := by
  revert h
  fun_cases locsOf ob with
  | case1 hf fl l c h3 h2 h1 => rintro ⟨⟩; exact Or.inl ⟨hf, fl, l, c, h1, h2, h3, rfl⟩
  | case3 hf hl => rintro ⟨⟩; exact Or.inr (Or.inl ⟨Bool.eq_false_iff.mpr hf, hl, rfl⟩)
  | case5 hf items hl =>
    exact fun h => Or.inr (Or.inr ⟨Bool.eq_false_iff.mpr hf, items, hl, (convLocs_eq_some_iff items ls).mp h⟩)
  | _ => nofun

theorem convert_mkLine_gen (o : Opts) (a e m s fl : Str) (l c : Int) :
    convert o (mkLine a e m s fl l c) =
      match decideSev o (a ++ ['-'] ++ e) s with
      | none => .skip
      | some sv => .report ⟨a ++ ['-'] ++ e, sv, m, [⟨fl, l, c, []⟩], none, none⟩ := by
  apply convert_eq <;>
    simp only [mkLine, locsOf, optInt, has, getStr, getInt, lookup_cons, lookup_nil, String.reduceEq, if_false, if_true,
      Option.isSome_none, Option.isSome_some, Bool.false_eq_true]

/-- **a well-formed line of an enabled severity is relayed with exactly the given fields**:
    id `<addon>-<errorId>`, the location, severity and message the addon gave -/
theorem convert_mkLine (o : Opts) (a e m s fl : Str) (l c : Int) (h : reportable o s = true) :
    convert o (mkLine a e m s fl l c) = .report ⟨a ++ ['-'] ++ e, sevOfStr s, m, [⟨fl, l, c, []⟩], none, none⟩ := by
  simp only [reportable, Bool.and_eq_true, decide_eq_true_eq] at h
  have hd : decideSev o (a ++ ['-'] ++ e) s = some (sevOfStr s) := by
    simp only [decideSev, h.1.1, h.1.2, or_self, if_false, h.2, if_true]
  rw [convert_mkLine_gen, hd]

/-- a line of a disabled (or none/internal) severity is dropped silently -/
theorem convert_mkLine_filtered (o : Opts) (a e m s fl : Str) (l c : Int)
    (h : reportable o s = false) (hlc : endsWith (a ++ ['-'] ++ e) "-logChecker".toList = false) :
    convert o (mkLine a e m s fl l c) = .skip := by
  have hd : decideSev o (a ++ ['-'] ++ e) s = none := by
    simp only [decideSev, hlc, Bool.false_eq_true, if_false]
    split
    · rfl
    · next hn =>
      rw [not_or] at hn
      have : o.enabled (sevOfStr s) = false := by simpa [reportable, hn.1, hn.2] using h
      simp only [this, Bool.false_eq_true, if_false]
  rw [convert_mkLine_gen, hd]

/-! ### one addon invocation: every output -/

/-- the finding a line is converted to, if any -/
def reportedLine (o : Opts) : Line → Option Finding
  | .obj ob => reported o ob
  | _ => none

/-- **every output of an addon that exits with 0 and prints no non-brace line**, whatever its lines are
    (objects of any shape, empty / `Checking` / unparsable lines anywhere): the findings handed to the logger are
    exactly the conversions of the object lines in front of the first object with a missing / ill-typed member, in
    output order, each once; and the invocation fails iff there is such an object -/
theorem relay_general (o : Opts) (hx : o.exitcode = 0) (lines : List Line) (hnb : ∀ l ∈ lines, l ≠ .notBrace) :
    (relay o lines).findings = ((objsOf lines).takeWhile fun ob => convert o ob ≠ .throw).filterMap (reported o) ∧
    (relay o lines).isFailed = throws o (objsOf lines) := by
  simp only [relay, hx, ne_eq, not_true_eq_false, if_false, validate_objsOf lines hnb]
  exact ⟨relayObjs_findings o _, relayObjs_isFailed o _⟩

/-- **nothing is invented**: every relayed finding stems from an object line of the output whose
    conversion yields exactly that finding -/
theorem relay_sound (o : Opts) (ls : List Line) (f : Finding) (h : f ∈ (relay o ls).findings) :
    ∃ ob, Line.obj ob ∈ ls ∧ convert o ob = .report f := by
  unfold relay at h
  rw [validate_eq] at h
  split at h
  · cases h
  · by_cases hn : Line.notBrace ∈ ls
    · rw [if_pos hn] at h; cases h
    · rw [if_neg hn, relayObjs_findings, List.mem_filterMap] at h
      obtain ⟨ob, hob, hf⟩ := h
      exact ⟨ob, mem_objsOf.mp ((List.takeWhile_sublist _).subset hob), reported_eq_some.mp hf⟩

theorem filterMap_objsOf (o : Opts) (lines : List Line) :
    (objsOf lines).filterMap (reported o) = lines.filterMap (reportedLine o) := by
  rw [objsOf, List.filterMap_filterMap]
  exact Text.filterMap_congr fun l _ => by cases l <;> rfl

/-- **each well-formed line exactly once, in order — general form**: when no object has a missing / ill-typed
    member, the relayed findings are the conversions of ALL object lines, in output order, each once -/
theorem relay_ok_general (o : Opts) (hx : o.exitcode = 0) (lines : List Line) (hnb : ∀ l ∈ lines, l ≠ .notBrace)
    (hnt : ∀ ob, Line.obj ob ∈ lines → convert o ob ≠ .throw) :
    relay o lines = .ok (lines.filterMap (reportedLine o)) := by
  obtain ⟨h1, h2⟩ := relay_general o hx lines hnb
  have hall : ∀ ob ∈ objsOf lines, convert o ob ≠ .throw := fun ob hob => hnt ob (mem_objsOf.mp hob)
  rw [(throws_false_iff o _).mpr hall] at h2
  rw [Outcome.eq_ok h2, h1, Text.takeWhile_eq_self fun ob hob => decide_eq_true (hall ob hob), filterMap_objsOf]

/-- **each well-formed line exactly once, in order**: an output consisting of well-formed
    finding lines of enabled severities, interleaved arbitrarily with empty, `Checking …` and
    unparsable lines, from an addon that exits with 0, is relayed as exactly those findings -/
theorem relay_wellformed (o : Opts) (hx : o.exitcode = 0) :
    ∀ (items : List (Option (Str × Str × Str × Str × Str × Int × Int) × Line)),
      (∀ it ∈ items, match it.1 with
        | some (a, e, m, s, fl, l, c) => it.2 = .obj (mkLine a e m s fl l c) ∧ reportable o s = true
        | none => it.2.skipped = true) →
      relay o (items.map (·.2)) =
        .ok (items.filterMap fun it => it.1.map fun (a, e, m, s, fl, l, c) =>
          (⟨a ++ ['-'] ++ e, sevOfStr s, m, [⟨fl, l, c, []⟩], none, none⟩ : Finding)) := by
  intro items h
  have key : ∀ it ∈ items, it.2 ≠ .notBrace ∧ (∀ ob, it.2 = .obj ob → convert o ob ≠ .throw) ∧
      reportedLine o it.2 = it.1.map fun (a, e, m, s, fl, l, c) =>
        (⟨a ++ ['-'] ++ e, sevOfStr s, m, [⟨fl, l, c, []⟩], none, none⟩ : Finding) := by
    rintro ⟨tag, ln⟩ hit
    have hit := h _ hit
    dsimp only at hit ⊢
    cases tag with
    | none =>
      cases ln with
      | notBrace | obj _ => cases hit
      | empty | checking | badJson => exact ⟨nofun, nofun, rfl⟩
    | some t =>
      obtain ⟨a, e, m, s, fl, l, c⟩ := t
      obtain ⟨rfl, hrep⟩ := hit
      have hc := convert_mkLine o a e m s fl l c hrep
      refine ⟨nofun, ?_, reported_eq_some.mpr hc⟩
      rintro ob ⟨rfl⟩
      rw [hc]
      nofun
  rw [relay_ok_general o hx, List.filterMap_map]
  · exact congrArg _ (Text.filterMap_congr fun it hit => (key it hit).2.2)
  · intro l hl
    obtain ⟨it, hit, rfl⟩ := List.mem_map.mp hl
    exact (key it hit).1
  · intro ob hob
    obtain ⟨it, hit, heq⟩ := List.mem_map.mp hob
    exact (key it hit).2.1 ob heq

/-- the conversion loop fails exactly when some object has a missing / ill-typed member -/
theorem relayObjs_failed_iff (o : Opts) (objs : List ObjLine) :
    (relayObjs o objs).isFailed = true ↔ ∃ ob ∈ objs, convert o ob = .throw := by
  rw [relayObjs_isFailed]; simp [throws]

/-- **malformed output or a failing addon is an internal error, never more**: the invocation fails (⇒ one
    `internalError` finding) exactly when the addon exits non-zero, prints a line that does not start with `{`
    (well-formed lines in front of it are lost too: the whole output is discarded), or prints an object with a
    missing / ill-typed member.  That the process does not crash is NOT a theorem (the model has no such
    outcome): it is observed on the real binary for every class of `outClass` on every run. -/
theorem relay_failed_iff (o : Opts) (ls : List Line) :
    (relay o ls).isFailed = true ↔
      o.exitcode ≠ 0 ∨ validate ls = none ∨ ∃ objs, validate ls = some objs ∧ ∃ ob ∈ objs, convert o ob = .throw := by
  unfold relay
  by_cases hx : o.exitcode = 0
  · simp only [hx, ne_eq, not_true_eq_false, if_false, false_or]
    cases hv : validate ls with
    | none => simp [Outcome.isFailed]
    | some objs =>
      simp only [reduceCtorEq, Option.some.injEq, false_or, exists_eq_left']
      rw [relayObjs_failed_iff]
  · simp [hx, Outcome.isFailed]

/-- the classes of the evidence are the cases of `relay_failed_iff` -/
theorem outClass_failed_iff (o : Opts) (ls : List Line) :
    (relay o ls).isFailed = true ↔ outClass o ls = .exitNonZero ∨ outClass o ls = .nonBrace ∨ outClass o ls = .illTyped := by
  unfold relay outClass
  by_cases hx : o.exitcode = 0
  · simp only [hx, ne_eq, not_true_eq_false, if_false]
    cases hv : validate ls with
    | none => simp [Outcome.isFailed]
    | some objs =>
      simp only [relayObjs_isFailed]
      cases ht : throws o objs
      · -- no object throws: the class is `skippedLines` or `clean`
        simp
        split <;> simp
      · simp
  · simp [hx, Outcome.isFailed]


/-! ### what is printed: suppressions and the duplicate filters (the function the driver runs) -/

/-- the candidates for printing: not of severity internal, not suppressed -/
def printable (supp : SuppView → Bool) (f : Finding) : Bool := f.sev ≠ .internal && !supp f.suppView

/-- **what cppcheck prints for one addon invocation** (`relayShown` = relay, then suppressions, then the
    duplicate filter): a sub-sequence of the relayed, unsuppressed findings (nothing invented, order kept),
    with pairwise different rendered texts, in which every rendered text is represented by the FIRST finding
    that renders to it -/
theorem relayShown_spec (o : Opts) (supp : SuppView → Bool) (lines : List Line) :
    (relayShown o supp lines).Sublist ((relay o lines).findings.filter (printable supp)) ∧
    ((relayShown o supp lines).map Finding.key).Nodup ∧
    ∀ k, (relayShown o supp lines).find? (fun g => g.key = k) =
         ((relay o lines).findings.filter (printable supp)).find? (fun g => g.key = k) :=
  ⟨dedup_sublist _, dedup_nodup _, dedup_find _⟩

/-- **the binary's behaviour on well-formed output**: for an addon exiting 0 whose output has no non-brace line
    and no object with a missing / ill-typed member, what is printed is the duplicate filter applied to the
    conversions of all object lines that are not suppressed (and not internal), in output order: every such line
    appears, in the order of first occurrence, exactly once per distinct rendered text -/
theorem relayShown_wellformed (o : Opts) (hx : o.exitcode = 0) (supp : SuppView → Bool) (lines : List Line)
    (hnb : ∀ l ∈ lines, l ≠ .notBrace) (hnt : ∀ ob, Line.obj ob ∈ lines → convert o ob ≠ .throw) :
    relayShown o supp lines = dedup ((lines.filterMap (reportedLine o)).filter (printable supp)) := by
  simp only [relayShown, relay_ok_general o hx lines hnb hnt, Outcome.findings]
  rfl

/-- **every well-formed line of an enabled severity is shown** (the reading of "reports each finding" that the
    code satisfies): for every object line of such an output that converts to a finding `f` which is neither
    internal nor suppressed, a finding with the id, severity, message and locations of `f` (its rendered text) is
    printed.  Two lines that render to the same text are printed once; cwe / hash of the later ones are not shown -/
theorem relayShown_complete (o : Opts) (hx : o.exitcode = 0) (supp : SuppView → Bool) (lines : List Line)
    (hnb : ∀ l ∈ lines, l ≠ .notBrace) (hnt : ∀ ob, Line.obj ob ∈ lines → convert o ob ≠ .throw)
    (ob : ObjLine) (f : Finding) (hob : Line.obj ob ∈ lines) (hc : convert o ob = .report f)
    (hp : printable supp f = true) :
    ∃ g ∈ relayShown o supp lines, g.key = f.key := by
  rw [relayShown_wellformed o hx supp lines hnb hnt]
  apply dedup_complete
  simp only [List.mem_filter, List.mem_filterMap]
  exact ⟨⟨.obj ob, hob, by simp [reportedLine, reported, hc]⟩, hp⟩

/-- "each well-formed line is printed exactly once" is FALSE of what the binary does: two identical lines are
    printed once (the duplicate filter of the loggers) -/
theorem relayShown_once_per_line_counterexample :
    ¬ ∀ (o : Opts) (supp : SuppView → Bool) (lines : List Line), o.exitcode = 0 → (∀ l ∈ lines, l ≠ .notBrace) →
        (∀ ob, Line.obj ob ∈ lines → convert o ob ≠ .throw) →
        relayShown o supp lines = (lines.filterMap (reportedLine o)).filter (printable supp) := by
  intro h
  have := h ⟨fun _ => true, 0⟩ (fun _ => false)
    [.obj (mkLine "my".toList "e1".toList "m".toList "style".toList "t.c".toList 1 3),
     .obj (mkLine "my".toList "e1".toList "m".toList "style".toList "t.c".toList 1 3)] rfl (by decide)
    (by intro ob hob
        simp only [List.mem_cons, Line.obj.injEq, List.not_mem_nil, or_false, or_self] at hob
        subst hob
        decide +kernel)
  exact absurd this (by decide +kernel)

/-- … and TRUE when the rendered texts of the lines are pairwise different -/
theorem relayShown_once_per_line_partial (o : Opts) (hx : o.exitcode = 0) (supp : SuppView → Bool) (lines : List Line)
    (hnb : ∀ l ∈ lines, l ≠ .notBrace) (hnt : ∀ ob, Line.obj ob ∈ lines → convert o ob ≠ .throw)
    (hk : ((((lines.filterMap (reportedLine o)).filter (printable supp))).map Finding.key).Nodup) :
    relayShown o supp lines = (lines.filterMap (reportedLine o)).filter (printable supp) := by
  rw [relayShown_wellformed o hx supp lines hnb hnt, dedup_eq_self _ hk]

/-- a finding that differs from an earlier one only in what is not rendered (cwe here) is not printed: its cwe
    never reaches the report (finding F34a) -/
theorem relayShown_loses_cwe_counterexample :
    ¬ ∀ (o : Opts) (supp : SuppView → Bool) (lines : List Line) (ob : ObjLine) (f : Finding), o.exitcode = 0 →
        (∀ l ∈ lines, l ≠ .notBrace) → (∀ ob, Line.obj ob ∈ lines → convert o ob ≠ .throw) →
        Line.obj ob ∈ lines → convert o ob = .report f → printable supp f = true → f ∈ relayShown o supp lines := by
  intro h
  let l1 : ObjLine := mkLine "my".toList "e1".toList "m".toList "style".toList "t.c".toList 1 3
  let l2 : ObjLine := { l1 with fields := l1.fields ++ [("cwe".toList, .int 476)] }
  have := h ⟨fun _ => true, 0⟩ (fun _ => false) [.obj l1, .obj l2] l2
    ⟨"my-e1".toList, .style, "m".toList, [⟨"t.c".toList, 1, 3, []⟩], some 476, none⟩ rfl (by decide)
    (by intro ob hob
        simp only [List.mem_cons, Line.obj.injEq, List.not_mem_nil, or_false] at hob
        rcases hob with rfl | rfl <;> decide +kernel)
    (by simp) (by decide +kernel) (by decide +kernel)
  exact absurd this (by decide +kernel)

/-- **suppressions are applied to addon findings like to any other finding**: whatever the matcher `supp` is
    (it sees the id, the file and line of the last location, the hash — `SuppView`, the same view as for a
    built-in finding), a finding it matches is never printed, and a finding it does not match is printed
    (represented by the first finding with its rendered text) for every output, failed or not -/
theorem relayShown_suppressions (o : Opts) (supp : SuppView → Bool) (lines : List Line) :
    (∀ g ∈ relayShown o supp lines, supp g.suppView = false ∧ g.sev ≠ .internal ∧ g ∈ (relay o lines).findings) ∧
    (∀ f ∈ (relay o lines).findings, f.sev ≠ .internal → supp f.suppView = false →
      ∃ g ∈ relayShown o supp lines, g.key = f.key) := by
  constructor
  · intro g hg
    have := (dedup_sublist _).subset hg
    simp only [List.mem_filter, Bool.and_eq_true, decide_eq_true_eq, Bool.not_eq_true'] at this
    exact ⟨this.2.2, this.2.1, this.1⟩
  · intro f hf hs hsup
    apply dedup_complete
    simp [List.mem_filter, hf, hs, hsup]

/-- a suppressed finding does not use up the rendered text: an unsuppressed finding that renders to the same text
    (possible only with a hash-specific suppression) is still printed -/
theorem relayShown_filter_before_dedup (o : Opts) (supp : SuppView → Bool) (lines : List Line) :
    relayShown o supp lines = dedup ((relay o lines).findings.filter (printable supp)) := rfl

/-- exit status: `--error-exitcode` iff something was printed (an addon finding or the internalError) -/
theorem exitStatus_iff (e : Nat) (he : e ≠ 0) (o : Opts) (supp : SuppView → Bool) (file0 : Str) (lines : List Line) :
    exitStatus e o supp file0 lines = e ↔ (internalErrorShown o supp file0 lines = true ∨ relayShown o supp lines ≠ []) := by
  unfold exitStatus
  cases h1 : internalErrorShown o supp file0 lines <;> cases h2 : relayShown o supp lines <;> simp [Ne.symm he]

/-- a summary line as addons print it -/
def mkSummary (name : Str) : ObjLine :=
  { fields := [("summary".toList, .str name), ("data".toList, .other)], loc := .absent, metric := none }

def isSummary (ob : ObjLine) : Bool := has "summary" ob.fields

theorem validate_map_obj (objs : List ObjLine) : validate (objs.map Line.obj) = some objs := by
  induction objs with
  | nil => rfl
  | cons o r ih => simp [validate, ih]

/-- **summaries of every addon reach whole-program analysis — general form**: for any number of addons, each
    printing ANY lines (summaries interleaved with findings, skipped lines, even a non-brace line or a failing
    exit status - such an addon contributes nothing), as long as no object has a missing / ill-typed member:
    the ctu-info of the file is the concatenation, in addon order, of all summary objects of every addon's
    accepted output, with and without a build dir — nothing of an earlier addon is lost -/
theorem ctuInfo_general (bd : Bool) (o : Opts) : ∀ outs : List (List Line),
    (∀ out ∈ outs, throws o (addonObjs o out) = false) →
    ctuInfo bd o outs = outs.flatMap fun out => (addonObjs o out).filter isSummary := by
  intro outs h
  have hc : ctuCollect o outs = (outs.flatMap fun out => (addonObjs o out).filter isSummary, false) := by
    induction outs with
    | nil => rfl
    | cons out r ih =>
      rw [List.forall_mem_cons] at h
      simp only [ctuCollect, h.1, Bool.false_eq_true, if_false, ih h.2, List.flatMap_cons, summaries, summaryObjs_eq]
      rw [Text.takeWhile_eq_self fun ob hob => decide_eq_true ((throws_false_iff o _).mp h.1 ob hob)]
      rfl
  simp [ctuInfo, hc]

/-- the instance of the general form for addons that print only summaries -/
theorem ctuInfo_all_addons (bd : Bool) (o : Opts) (hx : o.exitcode = 0) (outs : List (List Str)) :
    ctuInfo bd o (outs.map fun names => (names.map mkSummary).map Line.obj) = (outs.flatMap id).map mkSummary := by
  have hobjs : ∀ names : List Str, addonObjs o ((names.map mkSummary).map Line.obj) = names.map mkSummary := by
    intro names
    simp only [addonObjs, hx, ne_eq, not_true_eq_false, if_false, validate_map_obj, Option.getD_some]
  have hsum : ∀ n, has "summary" (mkSummary n).fields = true := fun n => by simp [mkSummary, has, lookup]
  rw [ctuInfo_general, List.flatMap_map, List.map_flatMap]
  · congr 1
    funext names
    rw [hobjs, id, List.filter_eq_self, List.forall_mem_map]
    exact fun n _ => hsum n
  · rw [List.forall_mem_map]
    intro names _
    rw [hobjs, throws_false_iff, List.forall_mem_map]
    intro n _
    simp [convert, hsum]

/-- an ill-typed object ends the per-file addon phase: with a build dir NO summary of the file is forwarded (the
    string collected so far is never written), without one those seen before it are (they were reported one by
    one).  Model = code; the property text does not say what should happen, this is stated for the record. -/
theorem ctuInfo_throw_example :
    let bad : ObjLine := ⟨[("file".toList, .str "t.c".toList), ("linenr".toList, .str "1".toList)], .absent, none⟩
    let outs : List (List Line) := [[.obj (mkSummary "A".toList), .obj bad, .obj (mkSummary "B".toList)], [.obj (mkSummary "C".toList)]]
    ctuInfo true ⟨fun _ => true, 0⟩ outs = [] ∧ ctuInfo false ⟨fun _ => true, 0⟩ outs = [mkSummary "A".toList] := by
  decide +kernel

/-- the only line class that turns the whole output into an internal error, spelled out on the raw text: a
    non-empty line that neither starts with `Checking ` nor with `{` (leading blanks, `[1]`, `Checking` without
    blank, a lone carriage return …) -/
theorem lineOf_notBrace_iff (parse : Str → Option ObjLine) (s : Str) :
    lineOf parse s = .notBrace ↔ s ≠ [] ∧ "Checking ".toList.isPrefixOf s = false ∧ s.head? ≠ some '{' := by
  unfold lineOf rawKind
  generalize "Checking ".toList = pre
  cases s with
  | nil => simp
  | cons c r =>
    simp only [ne_eq, reduceCtorEq, not_false_eq_true, List.head?_cons, Option.some.injEq, true_and]
    cases hp : pre.isPrefixOf (c :: r)
    · by_cases hc : c = '{'
      · subst hc; cases parse ('{' :: r) <;> simp
      · simp [hc]
    · simp

/-- whatever the JSON parser says, it is consulted only for lines starting with `{`, and its verdict only
    decides between a skipped line and an object line -/
theorem lineOf_brace (parse : Str → Option ObjLine) (r : Str) :
    lineOf parse ('{' :: r) = (match parse ('{' :: r) with | none => .badJson | some ob => .obj ob) := by
  have : "Checking ".toList.isPrefixOf ('{' :: r) = false := rfl
  simp only [lineOf, rawKind, this]
  cases parse ('{' :: r) <;> simp

/-! non-vacuity -/
def optsAll : Opts := ⟨fun _ => true, 0⟩
example : reportable optsAll "style".toList = true := by decide +kernel
example : relay optsAll [.checking, .obj (mkLine "my".toList "e1".toList "m".toList "style".toList "t.c".toList 1 3), .empty]
    = .ok [⟨"my-e1".toList, .style, "m".toList, [⟨"t.c".toList, 1, 3, []⟩], none, none⟩] := by decide +kernel
example : relay optsAll [.obj (mkLine "my".toList "e1".toList "m".toList "style".toList "t.c".toList 1 3), .notBrace]
    = .failed [] := by decide +kernel
-- a multi-location line (hypotheses of `convert_general` are satisfiable)
example : convert optsAll ⟨[("severity".toList, .str "style".toList), ("extra".toList, .other), ("addon".toList, .str "my".toList),
      ("message".toList, .str "m".toList), ("errorId".toList, .str "e".toList), ("cwe".toList, .int 398)],
      .arr [some [("file".toList, .str "t.c".toList), ("linenr".toList, .int 1), ("column".toList, .int 2), ("info".toList, .str "n".toList)],
            some [("info".toList, .str []), ("column".toList, .int 4), ("linenr".toList, .int 3), ("file".toList, .str "h.h".toList)]], none⟩
    = .report ⟨"my-e".toList, .style, "m".toList, [⟨"t.c".toList, 1, 2, "n".toList⟩, ⟨"h.h".toList, 3, 4, []⟩], some 398, none⟩ := by decide +kernel
-- suppression by id: the suppressed finding is gone, the other one stays
example : relayShown optsAll (fun v => v.id = "my-e1".toList)
    [.obj (mkLine "my".toList "e1".toList "m".toList "style".toList "t.c".toList 1 3),
     .obj (mkLine "my".toList "e2".toList "m".toList "style".toList "t.c".toList 1 3)]
    = [⟨"my-e2".toList, .style, "m".toList, [⟨"t.c".toList, 1, 3, []⟩], none, none⟩] := by decide +kernel
example : linesOf (fun _ => none) "a\n\nChecking x\n{".toList = [.notBrace, .empty, .checking, .badJson] := by decide +kernel
example : outClass optsAll [.badJson, .obj (mkSummary "s".toList)] = .skippedLines := by decide +kernel

end Cppcheck.Addon
