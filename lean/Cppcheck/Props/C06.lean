import Cppcheck.Proofs.AliasScope
import Cppcheck.Proofs.PPMacro
/-
C06 — typedef / alias / macro expansion is transparent: property theorems for the alias-scoping core (partial: level "other").

`alias_refines_scoping`: expanding typedef / using names with the bindings of an undo-log symbol table (the structure of
lib/tokenize.cpp's `VariableMap`, C08) gives exactly the program obtained with lexical scoping (stack of scopes), for every
program of the modelled language: any nesting, aliases of aliases, pointers, shadowing of an alias by a variable / parameter /
inner alias and the other way round.  The macro part of the property is `Cppcheck.PPMacro.expand_object_macro_eq_subst` (Props/C11),
stated here again as `object_macro_expansion_eq_subst`.
TemplateSimplifier is not modelled.
-/
namespace Cppcheck.AliasScope
open Cppcheck.VarMap

/-- the ids the undo-log table writes to the names of a program are those of lexical scoping -/
theorem alias_ids_refine (p : List Item) : run VarMap.init (events 0 p) = srun Spec.init (events 0 p) :=
  have h := noGuse_noHide_of_plain (plain_events p 0)
  noGuse_run _ _ _ Rel_init h.1 (noVarHidden_of_noHide _ _ h.2)

/-- **alias expansion with the undo-log table = substitution under lexical scoping** -/
theorem alias_refines_scoping (p : List Item) : expandImpl p = expandSpec p := by
  unfold expandImpl expandSpec
  rw [alias_ids_refine]

/-- a program with nested shadowing: `typedef int n0; int f0(n0 n1){ typedef char n0; n0 n2 = 1; { long n0 = 2; n1 = n0; } n0 * n3; }`:
the inner alias hides the outer, the variable hides the inner alias, after the block the inner alias is visible again -/
example :
    expandImpl [.tdef false 0 (.base 0), .fopen 0 (some (1, .name 0)), .tdef false 0 (.base 1), .vdecl 2 (.name 0) (some (.num 1)),
      .opn, .vdecl 0 (.base 2) (some (.num 2)), .assign 1 (.var 0), .cls, .vdecl 3 (.ptr (.name 0)) none, .cls] =
    [.fopen 0 (some (1, .base 0)), .vdecl 2 (.base 1) (some (.num 1)),
      .opn, .vdecl 0 (.base 2) (some (.num 2)), .assign 1 (.var 0), .cls, .vdecl 3 (.ptr (.base 1)) none, .cls] := by decide

/-- the macro part of the property (proved for C11, restated here): for a table of object-like macros whose replacement
lists contain no macro name and no `#`, a text and the text with every macro name substituted by its replacement list are the
same token sequence after preprocessing -/
theorem object_macro_expansion_eq_subst (q : Cppcheck.PPMacro.Quirks) (ms : List Cppcheck.PPMacro.Macro)
    (hf : Cppcheck.PPMacro.flatTable ms = true) (ts : List Cppcheck.PPMacro.XTok) (hb : ∀ t ∈ ts, t.blue = false) :
    Cppcheck.PPMacro.expand q ms [] ts = .ok (ts.flatMap (Cppcheck.PPMacro.substTok ms)) :=
  Cppcheck.PPMacro.expand_flat q ms hf ts hb

end Cppcheck.AliasScope
