import Cppcheck.Proofs.CondOpposite
import Cppcheck.Proofs.CondTypeRange
/-
C03 — always-true / always-false verdicts are true: the property theorems.

Model: Model/CondExpr.lean (condition language, C17 semantics on LP64, `none` = undefined behaviour),
Model/CondOpposite.lean (`isSame` = isSameExpression, `isOpp` = isOppositeCond, lib/astutils.cpp),
Model/CondTypeRange.lean (`outOfRange` = checkCompareValueOutOfTypeRange, `bitCmpVerdict` = comparison(), lib/checkcondition.cpp).

All theorems quantify over every expression of the language (structural / fuel induction), every semantics record `S`
(types of the variables, type and value of the number tokens) and every environment; an evaluation that runs into
undefined behaviour has no value and is not constrained.  The model is the code after the fixes e3a434e (F03a) and
e82cb03 (F03c); the pre-fix functions (`isSameOld`, `bitCmpFindingsOld`) only occur in the counterexample theorems.
Hypotheses are decidable predicates on the inputs:
  annOK S e    the annotations cppcheck attached (value types, Known values) agree with the semantics `S`
  cmpSafe S e  excludes the inputs of finding F03b (a comparison with a Known operand whose usual arithmetic conversions
               change an operand's value: signed value converted to unsigned)
  vtOK S e     (`vtAll`: on every node) the value type of the token is its C type, or `bool` on a 0/1-valued operator
  bitShape e   the bit tests the two finding theorems cover: `x & n`, `n & x`, `x | n` with unsigned `x`
  S.lval "0" = 0
-/
namespace Cppcheck.CondExpr

/-- `isSameExpression` is sound: two expressions it identifies have the same truth value in every environment in which
    both are evaluated without undefined behaviour; in operand position (parent is an arithmetic / bitwise / comparison
    operator) they have the same value and the same type. -/
theorem same_sound (S : Sem) (cpp : Bool) (c1 c2 : Ctx) (e1 e2 : Expr)
    (h : isSame cpp c1 e1 c2 e2 = true)
    (a1 : annOK S e1 = true) (a2 : annOK S e2 = true) :
    ∀ ρ v1 v2, eval S ρ e1 = some v1 → eval S ρ e2 = some v2 →
      (v1 ≠ 0 ↔ v2 ≠ 0) ∧ (c1 = .cop → c2 = .cop → v1 = v2 ∧ tyOf S e1 = tyOf S e2) := by
  intro ρ v1 v2 h1 h2
  have hs := isSame_sound (S := S) (ρ := ρ) h ⟨a1⟩ ⟨a2⟩
  refine ⟨(hs v1 v2 h1 h2).truthy, ?_⟩
  rintro rfl rfl
  exact hs.cop ⟨a1⟩ ⟨a2⟩ h1 h2

/-- the precise relation: equal value and type, or both occurrences "used as bool" and equal truth value -/
theorem same_sound_sim (S : Sem) (cpp : Bool) (c1 c2 : Ctx) (e1 e2 : Expr)
    (h : isSame cpp c1 e1 c2 e2 = true)
    (a1 : annOK S e1 = true) (a2 : annOK S e2 = true) :
    ∀ ρ v1 v2, eval S ρ e1 = some v1 → eval S ρ e2 = some v2 → Sim S c1 e1 v1 c2 e2 v2 :=
  fun _ => isSame_sound h ⟨a1⟩ ⟨a2⟩

def litAnn (col : Nat) (vt : VT) (v : Int) : Ann :=
  { col := col, vt := some vt, known := some v, first := some v, front := some v, num := some v }
def varAnn (col : Nat) (vt : VT) : Ann := { col := col, vt := some vt }
def opAnn (col : Nat) (vt : VT) : Ann := { col := col, vt := some vt }
def vtInt : VT := ⟨.signed, 3⟩
def vtUInt : VT := ⟨.unsigned, 3⟩
def vtULong : VT := ⟨.unsigned, 4⟩
def vtBool : VT := ⟨.unknown, 0⟩

/-- `int a, b;` and the number tokens `0 1 2 3 5U 5000000000UL` -/
def exS : Sem :=
  { vty := fun _ => tInt
    lty := fun sp => if sp = "5U".toList then tUInt else if sp = "5000000000UL".toList then ⟨.long, false⟩ else tInt
    lval := fun sp =>
      if sp = "1".toList then 1 else if sp = "2".toList then 2 else if sp = "3".toList then 3
      else if sp = "5U".toList then 5 else if sp = "5".toList then 5 else if sp = "5000000000UL".toList then 5000000000 else 0 }

def exA : Expr := .var (varAnn 1 vtInt) 1
def exB : Expr := .var (varAnn 2 vtInt) 2
def exLt : Expr := .bin (opAnn 3 vtBool) .lt exA exB          -- a < b
def exGe : Expr := .bin (opAnn 3 vtBool) .ge exA exB          -- a >= b
def exNe2 : Expr := .bin (opAnn 4 vtBool) .ne exLt (.lit (litAnn 5 vtInt 2) "2".toList)   -- (a < b) != 2
def exNot : Expr := .un (opAnn 6 vtBool) .lnot exLt           -- !(a < b)
def exLt3 : Expr := .bin (opAnn 3 vtBool) .lt exA (.lit (litAnn 4 vtInt 3) "3".toList)    -- a < 3
def exGt5 : Expr := .bin (opAnn 3 vtBool) .gt exA (.lit (litAnn 4 vtInt 5) "5".toList)    -- a > 5
def exGt5U : Expr := .bin (opAnn 3 vtBool) .gt exA (.lit (litAnn 4 vtUInt 5) "5U".toList) -- a > 5U
def exLtBig : Expr := .bin (opAnn 3 vtBool) .lt exA (.lit (litAnn 4 vtULong 5000000000) "5000000000UL".toList)  -- a < 5000000000UL

/-- the hypotheses of `same_sound` are satisfiable with a positive answer: `a < b` against `!!(a < b)` -/
example : isSame false .cond exLt .cond (.un (opAnn 7 vtBool) .lnot exNot) = true ∧
    annOK exS exLt = true ∧ annOK exS (.un (opAnn 7 vtBool) .lnot exNot) = true := by decide

/-- Finding F03a (fixed by e3a434e): the statement was false of the pre-fix rule — `(a < b) != 2` was "the same
    expression" as `!(a < b)` for isSameExpression (astutils.cpp:1701: any Known value other than 0 was treated like 1),
    but for a = 1, b = 2 the first is true and the second false.  The fixed rule rejects the pair. -/
theorem same_sound_prefix_counterexample :
    ¬ ∀ (S : Sem) (e1 e2 : Expr), isSameOld false .cond e1 .cond e2 = true → annOK S e1 = true → annOK S e2 = true →
        ∀ ρ v1 v2, eval S ρ e1 = some v1 → eval S ρ e2 = some v2 → (v1 ≠ 0 ↔ v2 ≠ 0) := by
  intro h
  have := h exS exNe2 exNot (by decide) (by decide) (by decide) (fun x => if x = 1 then 1 else 2) 1 0 (by decide) (by decide)
  simp at this

example : isSame false .cond exNe2 .cond exNot = false := by decide

/-- `isOppositeCond(isNot = false, …)` is sound: the two conditions are never both true. -/
theorem opposite_sound_partial (S : Sem) (cpp : Bool) (c1 c2 : Ctx) (e1 e2 : Expr) (hz : S.lval ['0'] = 0)
    (h : isOpp cpp false c1 e1 c2 e2 = true)
    (a1 : annOK S e1 = true) (a2 : annOK S e2 = true)
    (m1 : cmpSafe S e1 = true) (m2 : cmpSafe S e2 = true) :
    ∀ ρ v1 v2, eval S ρ e1 = some v1 → eval S ρ e2 = some v2 → ¬(v1 ≠ 0 ∧ v2 ≠ 0) :=
  fun ρ => isOppF_sound S cpp ρ hz false _ c1 e1 c2 e2 ⟨⟨a1⟩, fun _ => m1⟩ ⟨⟨a2⟩, fun _ => m2⟩ h

/-- `isOppositeCond(isNot = true, …)` is sound: exactly one of the two conditions is true (no `cmpSafe` needed: the
    Known-value rules are not used with `isNot`). -/
theorem opposite_not_sound (S : Sem) (cpp : Bool) (c1 c2 : Ctx) (e1 e2 : Expr) (hz : S.lval ['0'] = 0)
    (h : isOpp cpp true c1 e1 c2 e2 = true)
    (a1 : annOK S e1 = true) (a2 : annOK S e2 = true) :
    ∀ ρ v1 v2, eval S ρ e1 = some v1 → eval S ρ e2 = some v2 → (v1 ≠ 0 ↔ ¬ v2 ≠ 0) :=
  fun ρ => isOppF_sound S cpp ρ hz true _ c1 e1 c2 e2 ⟨⟨a1⟩, nofun⟩ ⟨⟨a2⟩, nofun⟩ h

/-- hypotheses satisfiable with a positive answer: `a < b` / `a >= b` (strictly opposite), `a < 3` / `a > 5` (Known rule) -/
example : isOpp false true .cond exLt .cond exGe = true ∧ annOK exS exLt = true ∧ annOK exS exGe = true ∧ exS.lval ['0'] = 0 := by decide
example : isOpp false false .cond exLt3 .cond exGt5 = true ∧ annOK exS exLt3 = true ∧ annOK exS exGt5 = true ∧
    cmpSafe exS exLt3 = true ∧ cmpSafe exS exGt5 = true := by decide

/-- Finding F03b: without `cmpSafe` the statement is false of the code's rule — `a < 3` and `a > 5U` (int a) are
    "opposite" for isOppositeCond (astutils.cpp:2004 compares the two Known values 3 < 5 and ignores that the second
    comparison is done in `unsigned int`); for a = -1 both are true. -/
theorem opposite_sound_counterexample :
    ¬ ∀ (S : Sem) (e1 e2 : Expr), S.lval ['0'] = 0 → isOpp false false .cond e1 .cond e2 = true →
        annOK S e1 = true → annOK S e2 = true →
        ∀ ρ v1 v2, eval S ρ e1 = some v1 → eval S ρ e2 = some v2 → ¬(v1 ≠ 0 ∧ v2 ≠ 0) := by
  intro h
  have := h exS exLt3 exGt5U (by decide) (by decide) (by decide) (by decide)
    (fun _ => -1) 1 1 (by decide) (by decide)
  simp at this

/-! ### multiCondition2: the verdict at the inner condition, GIVEN that nothing wrote a variable of the outer condition
in between.  The code's modification scan (`isExpressionChangedAt`, `findExpressionChanged`) that is meant to establish
this is outside the model; these theorems only cover the step from "unmodified" to the verdict. -/

/-- multiCondition2, inner condition: when `isOppositeCond(false, outer, inner)` holds, the outer condition was true
    and nothing between the two conditions wrote a variable of the outer condition (`ρ'` = the environment at the inner
    condition), the inner condition is false — "opposite inner condition leads to a dead code block". -/
theorem multiCondition_opposite_given_unmodified_partial (S : Sem) (cpp : Bool) (c1 c2 : Ctx) (outer inner : Expr) (hz : S.lval ['0'] = 0)
    (h : isOpp cpp false c1 outer c2 inner = true)
    (a1 : annOK S outer = true) (a2 : annOK S inner = true)
    (m1 : cmpSafe S outer = true) (m2 : cmpSafe S inner = true)
    (ρ ρ' : Env) (hw : ∀ x ∈ outer.vars, ρ' x = ρ x) (v1 v2 : Int)
    (h1 : eval S ρ outer = some v1) (ht : v1 ≠ 0) (h2 : eval S ρ' inner = some v2) : v2 = 0 := by
  have h1' : eval S ρ' outer = some v1 := by rw [eval_agree S ρ ρ' outer hw, h1]
  have := opposite_sound_partial S cpp c1 c2 outer inner hz h a1 a2 m1 m2 ρ' v1 v2 h1' h2
  by_cases hv : v2 = 0
  · exact hv
  · exact absurd ⟨ht, hv⟩ this

/-- multiCondition2, identical inner condition / identical condition after early exit: when `isSameExpression(outer,
    inner)` holds and no variable of the outer condition was written in between, the inner condition has the truth value
    the outer one had (inside the `if`: true, after `if (outer) return;`: false). -/
theorem multiCondition_same_given_unmodified (S : Sem) (cpp : Bool) (c1 c2 : Ctx) (outer inner : Expr)
    (h : isSame cpp c1 outer c2 inner = true)
    (a1 : annOK S outer = true) (a2 : annOK S inner = true)
    (ρ ρ' : Env) (hw : ∀ x ∈ outer.vars, ρ' x = ρ x) (v1 v2 : Int)
    (h1 : eval S ρ outer = some v1) (h2 : eval S ρ' inner = some v2) : (v1 ≠ 0 ↔ v2 ≠ 0) := by
  have h1' : eval S ρ' outer = some v1 := by rw [eval_agree S ρ ρ' outer hw, h1]
  exact (same_sound S cpp c1 c2 outer inner h a1 a2 ρ' v1 v2 h1' h2).1

/-- the verdict table is right for every value in the interval computed for the other operand -/
theorem outOfTypeRange_table_sound (op : BinOp) (i : Nat) (k lo hi : Int) (b : Bool)
    (h : rangeVerdict op i k lo hi = some b) (hlo : lo ≤ 0) (hhi : 0 ≤ hi) :
    ∀ x, lo ≤ x → x ≤ hi → (if i = 0 then cmpZ op k x else cmpZ op x k) = b :=
  fun x h1 h2 => rangeVerdict_sound h hlo hhi x h1 h2

/-- the interval computed from the value type contains every value of the C type with that value type -/
theorem outOfTypeRange_interval_sound (tvt : VT) (vvt : Option VT) (lo hi : Int) (h : typeInterval tvt vvt = some (lo, hi)) :
    ∀ t : Ty, toVT t = tvt → ∀ x, inRange t x → lo ≤ x ∧ x ≤ hi :=
  (typeInterval_covers h).2.2.2

/-- "Comparing expression of type T against value k. Condition is always b" is true of every evaluation of the
    comparison, when the comparison is exact (`cmpSafe`). -/
theorem outOfTypeRange_sound_partial (S : Sem) (a : Ann) (op : BinOp) (l r : Expr) (b : Bool)
    (hc : op.isCmp = true) (g : annOK S (.bin a op l r) = true) (hs : cmpSafe S (.bin a op l r) = true)
    (hvl : vtOK S l = true) (hvr : vtOK S r = true)
    (h : outOfRange op 0 l r = some b ∨ outOfRange op 1 r l = some b) :
    ∀ ρ v, eval S ρ (.bin a op l r) = some v → v = b2i b :=
  fun _ _ he => outOfRange_sound hc (annOK_bin g).1 (annOK_bin g).2 hs hvl hvr h he

/-- hypotheses satisfiable with a verdict: `(a < b) != 2` (bool against 2) is always true -/
example : outOfRange .ne 1 (.lit (litAnn 5 vtInt 2) "2".toList) exLt = some true ∧ annOK exS exNe2 = true ∧
    cmpSafe exS exNe2 = true ∧ vtOK exS exLt = true ∧ vtOK exS (.lit (litAnn 5 vtInt 2) "2".toList) = true := by decide

/-- Finding F03e: without `cmpSafe` the statement is false of the code — `a < 5000000000UL` (int a) is reported
    "always true" (checkcondition.cpp:2018 widens the range of a signed 32-bit operand to 0..2^32-1 for any unsigned
    constant, also a 64-bit one); for a = -1 the comparison is false (a is converted to 2^64-1). -/
theorem outOfTypeRange_counterexample :
    ¬ ∀ (S : Sem) (a : Ann) (op : BinOp) (l r : Expr) (b : Bool), op.isCmp = true → annOK S (.bin a op l r) = true →
        vtOK S l = true → vtOK S r = true → outOfRange op 1 r l = some b →
        ∀ ρ v, eval S ρ (.bin a op l r) = some v → v = b2i b := by
  intro h
  have := h exS (opAnn 3 vtBool) .lt exA (.lit (litAnn 4 vtULong 5000000000) "5000000000UL".toList) true
    (by decide) (by decide) (by decide) (by decide) (by decide) (fun _ => -1) 0 (by decide)
  simp [b2i] at this

/-- `(X & n1) op n2` : the verdict holds for every bit pattern X -/
theorem bitand_compare_table_sound (op : BinOp) (uns : Bool) (n1 n2 : Int) (b : Bool)
    (h : bitCmpVerdict .band op uns n1 n2 = some b) (h2 : 0 ≤ n2) :
    ∀ p : Nat, cmpZ op ((p &&& n1.toNat : Nat) : Int) n2 = b :=
  fun p => bitAnd_verdict_sound h p

/-- `(X | n1) op n2`, first operand of the `|` unsigned : the verdict holds for every bit pattern X -/
theorem bitor_compare_table_sound (op : BinOp) (n1 n2 : Int) (b : Bool)
    (h : bitCmpVerdict .bor op true n1 n2 = some b) (h2 : 0 ≤ n2) :
    ∀ p : Nat, cmpZ op ((p ||| n1.toNat : Nat) : Int) n2 = b :=
  fun p => bitOr_verdict_sound h p

/-- "Expression '(X & n1) op n2' is always b" is true of every evaluation of `(x & n1) op r` / `(n1 & x) op r` when
    the Known value n2 is on the right and the comparison is exact. -/
theorem bitand_compare_sound_partial (S : Sem) (a a' an : Ann) (op : BinOp) (x l r : Expr) (sp : List Char) (n1 n2 : Int)
    (uns b : Bool)
    (hl : l = .bin a' .band x (.lit an sp) ∨ l = .bin a' .band (.lit an sp) x)
    (hc : op.isCmp = true) (g : annOK S (.bin a op l r) = true) (hs : cmpSafe S (.bin a op l r) = true)
    (hk : r.ann.known = some n2) (hn2 : 0 ≤ n2) (hnum : an.num = some n1)
    (hv : bitCmpVerdict .band op uns n1 n2 = some b) :
    ∀ ρ v, eval S ρ (.bin a op l r) = some v → v = b2i b :=
  fun _ _ he => by
    obtain ⟨X, hX, rfl⟩ := cmp_known_right hs hc (annOK_bin g).2 hk he
    rw [band_node_cmp hl (annOK_bin g).1 hnum hv hX]

/-- hypotheses satisfiable with a verdict: `(a & 1) > 1` is always false -/
example : bitCmpVerdict .band .gt false 1 1 = some false ∧
    annOK exS (.bin (opAnn 5 vtBool) .gt (.bin (opAnn 2 vtInt) .band exA (.lit (litAnn 3 vtInt 1) "1".toList))
      (.lit (litAnn 6 vtInt 1) "1".toList)) = true ∧
    cmpSafe exS (.bin (opAnn 5 vtBool) .gt (.bin (opAnn 2 vtInt) .band exA (.lit (litAnn 3 vtInt 1) "1".toList))
      (.lit (litAnn 6 vtInt 1) "1".toList)) = true := by decide

/-- the same with the Known value on the left, `l op (x & n1)`: the verdict is the one of the comparator turned around -/
theorem bitand_compare_sound_left_partial (S : Sem) (a a' an : Ann) (op : BinOp) (x l r : Expr) (sp : List Char) (n1 n2 : Int)
    (uns b : Bool)
    (hr : r = .bin a' .band x (.lit an sp) ∨ r = .bin a' .band (.lit an sp) x)
    (hc : op.isCmp = true) (g : annOK S (.bin a op l r) = true) (hs : cmpSafe S (.bin a op l r) = true)
    (hk : l.ann.known = some n2) (hn2 : 0 ≤ n2) (hnum : an.num = some n1)
    (hv : bitCmpVerdict .band (flipOp op) uns n1 n2 = some b) :
    ∀ ρ v, eval S ρ (.bin a op l r) = some v → v = b2i b :=
  fun _ _ he => by
    obtain ⟨Y, hY, rfl⟩ := cmp_known_left hs hc (annOK_bin g).1 hk he
    rw [band_node_cmp hr (annOK_bin g).2 hnum hv hY]

/-- "Expression '(X | n1) op n2' is always b" is true of every evaluation of `(x | n1) op r` when the first operand `x` of
    the `|` has an unsigned value type, the Known value n2 is on the right and the comparison is exact. -/
theorem bitor_compare_sound_partial (S : Sem) (a a' an : Ann) (op : BinOp) (x r : Expr) (sp : List Char) (n1 n2 : Int) (b : Bool)
    (hc : op.isCmp = true) (g : annOK S (.bin a op (.bin a' .bor x (.lit an sp)) r) = true)
    (hs : cmpSafe S (.bin a op (.bin a' .bor x (.lit an sp)) r) = true)
    (hvx : vtOK S x = true) (hu : unsFlag x = true)
    (hk : r.ann.known = some n2) (hn2 : 0 ≤ n2) (hnum : an.num = some n1)
    (hv : bitCmpVerdict .bor op true n1 n2 = some b) :
    ∀ ρ v, eval S ρ (.bin a op (.bin a' .bor x (.lit an sp)) r) = some v → v = b2i b :=
  fun _ _ he => by
    obtain ⟨X, hX, rfl⟩ := cmp_known_right hs hc (annOK_bin g).2 hk he
    rw [bor_node_cmp (annOK_bin g).1 hnum hvx hu hv hX]

/-- the same with the Known value on the left, `l op (x | n1)` -/
theorem bitor_compare_sound_left_partial (S : Sem) (a a' an : Ann) (op : BinOp) (x l : Expr) (sp : List Char) (n1 n2 : Int) (b : Bool)
    (hc : op.isCmp = true) (g : annOK S (.bin a op l (.bin a' .bor x (.lit an sp))) = true)
    (hs : cmpSafe S (.bin a op l (.bin a' .bor x (.lit an sp))) = true)
    (hvx : vtOK S x = true) (hu : unsFlag x = true)
    (hk : l.ann.known = some n2) (hn2 : 0 ≤ n2) (hnum : an.num = some n1)
    (hv : bitCmpVerdict .bor (flipOp op) true n1 n2 = some b) :
    ∀ ρ v, eval S ρ (.bin a op l (.bin a' .bor x (.lit an sp))) = some v → v = b2i b :=
  fun _ _ he => by
    obtain ⟨Y, hY, rfl⟩ := cmp_known_left hs hc (annOK_bin g).1 hk he
    rw [bor_node_cmp (annOK_bin g).2 hnum hvx hu hv hY]

/-- `unsigned c`, `long d` (variables 3 and 4) and the number token 7 -/
def exS2 : Sem :=
  { vty := fun x => if x = 3 then tUInt else if x = 4 then ⟨.long, true⟩ else tInt
    lty := fun _ => tInt
    lval := fun sp => if sp = "7".toList then 7 else 0 }
def exC : Expr := .var (varAnn 1 vtUInt) 3
def exD : Expr := .var (varAnn 2 ⟨.signed, 4⟩) 4
def exL7 (col : Nat) : Expr := .lit (litAnn col vtInt 7) "7".toList
/-- `(c | 7) >= 7` -/
def exOrGe : Expr := .bin (opAnn 9 vtBool) .ge (.bin (opAnn 4 vtUInt) .bor exC (exL7 5)) (exL7 10)
/-- `((c | 7) | d) >= 7` -/
def exOrOrGe : Expr := .bin (opAnn 9 vtBool) .ge (.bin (opAnn 7 ⟨.signed, 4⟩) .bor (.bin (opAnn 4 vtUInt) .bor exC (exL7 5)) exD) (exL7 10)

/-- hypotheses of `bitor_compare_sound_partial` satisfiable with a verdict: `(c | 7) >= 7` (unsigned c) is always true -/
example : bitCmpVerdict .bor .ge true 7 7 = some true ∧ annOK exS2 exOrGe = true ∧ cmpSafe exS2 exOrGe = true ∧
    vtOK exS2 exC = true ∧ unsFlag exC = true := by decide

/-- Finding F03d: outside the covered shape the code's rule is unsound — for `((c | 7) | d) >= 7` (unsigned c, long d)
    `comparison()` looks at the sign of the first operand `(c | 7)` of the top `|` only and reports "always true"; for
    d = -1 the comparison is false.  All side conditions (`annOK`, `cmpSafe`, `vtAll`) hold. -/
theorem bitor_compare_counterexample :
    ∃ f, bitCmpFindings .ge (.bin (opAnn 7 ⟨.signed, 4⟩) .bor (.bin (opAnn 4 vtUInt) .bor exC (exL7 5)) exD) (exL7 10) = [f] ∧
      f.verdict = true ∧ annOK exS2 exOrOrGe = true ∧ cmpSafe exS2 exOrOrGe = true ∧ vtAll exS2 exOrOrGe = true ∧
      eval exS2 (fun x => if x = 4 then -1 else 0) exOrOrGe = some 0 :=
  ⟨_, rfl, by decide, by decide, by decide, by decide, by decide⟩

/-- every finding of `findings` (what `drv_c03` prints and the harness output is compared with) belongs to one
    comparison token of one condition and was produced by one of the two checks -/
theorem findings_mem (conds : List Expr) (f : Finding) (h : f ∈ findings conds) :
    ∃ c ∈ conds, ∃ op l r, (op, l, r) ∈ cmpNodes c ∧ (f ∈ bitCmpFindings op l r ∨ rangeFinding op l r = some f) := by
  simp only [findings, List.mem_append, List.mem_flatMap, List.mem_filterMap] at h
  rcases h with ⟨⟨op, l, r⟩, ⟨c, hc, hn⟩, hf⟩ | ⟨⟨op, l, r⟩, ⟨c, hc, hn⟩, hf⟩
  · exact ⟨c, hc, op, l, r, hn, Or.inl hf⟩
  · exact ⟨c, hc, op, l, r, hn, Or.inr hf⟩

/-- the message text says what `verdict` says: "… always true." / "… always false." -/
theorem finding_msg_verdict (op : BinOp) (l r : Expr) (f : Finding)
    (h : f ∈ bitCmpFindings op l r ∨ rangeFinding op l r = some f) :
    ∃ pre : String, f.msg = pre ++ "always " ++ boolWord f.verdict ++ "." := by
  rcases h with h | h
  · unfold bitCmpFindings at h
    split at h <;> exact (bitCmpFindingsAux_mem h).2
  · exact (rangeFinding_spec h).2

/-- a compareValueOutOfTypeRangeError finding of a comparison token anywhere below a condition `c` is true of every
    evaluation of that comparison, when `c` satisfies the side conditions. -/
theorem range_finding_sound_partial (S : Sem) (c : Expr) (op : BinOp) (l r : Expr) (f : Finding)
    (hm : (op, l, r) ∈ cmpNodes c) (ga : annOK S c = true) (gs : cmpSafe S c = true) (gv : vtAll S c = true)
    (hf : rangeFinding op l r = some f) :
    ∀ a ρ v, eval S ρ (.bin a op l r) = some v → v = b2i f.verdict := by
  intro a ρ v he
  obtain ⟨hc, gl, gr, hs, vl, vr⟩ := cmpNodes_sub c hm ga gs gv
  exact outOfRange_sound hc gl gr (hs a) (vtAll_root vl) (vtAll_root vr) (rangeFinding_spec hf).1 he

/-- a comparisonError finding of a comparison token below `c` is true of every evaluation of that comparison, when `c`
    satisfies the side conditions and the bit test (the operand without the Known value) is one of the covered shapes
    `x & n`, `n & x`, `x | n` with unsigned x (`bitShape`) — in both operand orders of the comparison. -/
theorem comparison_finding_sound_partial (S : Sem) (c : Expr) (op : BinOp) (l r : Expr) (f : Finding)
    (hm : (op, l, r) ∈ cmpNodes c) (ga : annOK S c = true) (gs : cmpSafe S c = true) (gv : vtAll S c = true)
    (hf : f ∈ bitCmpFindings op l r)
    (hsh : bitShape (if l.ann.known.isSome then r else l) = true) :
    ∀ a ρ v, eval S ρ (.bin a op l r) = some v → v = b2i f.verdict := by
  intro a ρ v he
  obtain ⟨hc, gl, gr, hs, vl, vr⟩ := cmpNodes_sub c hm ga gs gv
  unfold bitCmpFindings at hf
  split at hf
  · rename_i hk
    rw [if_pos hk] at hsh
    obtain ⟨n2, hn2, hval⟩ := bitCmpFindingsAux_sound (ρ := ρ) hsh hf gr vr
    obtain ⟨Y, hY, rfl⟩ := cmp_known_left (hs a) hc gl hn2 he
    rw [hval Y hY]
  · rename_i hk
    rw [if_neg hk] at hsh
    obtain ⟨n2, hn2, hval⟩ := bitCmpFindingsAux_sound (ρ := ρ) hsh hf gl vl
    obtain ⟨X, hX, rfl⟩ := cmp_known_right (hs a) hc gr hn2 he
    rw [hval X hX]

/-- the composing theorems apply to real output: `(c | 7) >= 7` is a comparison token of itself, its finding is the one
    printed, and all hypotheses hold -/
example : (BinOp.ge, .bin (opAnn 4 vtUInt) .bor exC (exL7 5), exL7 10) ∈ cmpNodes exOrGe := by
  simp [cmpNodes, exOrGe, exC, exL7, BinOp.isCmp]
example : (findings [exOrGe]).map (·.msg) = ["Expression '(X | 0x7) >= 0x7' is always true."] ∧
    annOK exS2 exOrGe = true ∧ cmpSafe exS2 exOrGe = true ∧ vtAll exS2 exOrGe = true ∧
    bitShape (.bin (opAnn 4 vtUInt) .bor exC (exL7 5)) = true := by decide

/-- `3 < (a & 1)`: the finding is the one of `(a & 1) > 3`, "always false", which is what the expression is -/
example : (bitCmpFindings .lt (.lit (litAnn 1 vtInt 3) "3".toList)
      (.bin (opAnn 4 vtInt) .band exA (.lit (litAnn 5 vtInt 1) "1".toList))).map (·.msg) =
    ["Expression '(X & 0x1) > 0x3' is always false."] := by decide

/-- Finding F03c (fixed by e82cb03): before the fix `comparison()` swapped the operands when the Known value was on the
    left without turning the comparator around: for `3 < (a & 1)` the finding computed was the one of `(a & 1) < 3`
    ("always true"), but the expression in the program is false (here for a = 1; in fact for every a). -/
theorem bit_compare_prefix_counterexample :
    ∃ (l r : Expr) (f : Finding), bitCmpFindingsOld .lt l r = [f] ∧ f.msg = "Expression '(X & 0x1) < 0x3' is always true." ∧
      eval exS (fun _ => 1) (.bin (opAnn 5 vtBool) .lt l r) = some 0 :=
  ⟨.lit (litAnn 1 vtInt 3) "3".toList, .bin (opAnn 4 vtInt) .band exA (.lit (litAnn 5 vtInt 1) "1".toList), _, rfl,
   by decide, by decide⟩

end Cppcheck.CondExpr
