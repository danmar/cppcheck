import Cppcheck.Proofs.Determinism
/-
C29 — output is deterministic across runs: the part that is decided by proof.

(a) The list of files a run analyses does not depend on the order in which the file system enumerates directory
    entries: every path argument is listed sorted (`FileLister::addFiles`, model and theorems of C31), the arguments
    are taken in command-line order, duplicates are erased, markup files go last.  The property does NOT claim
    invariance under permutation of the command-line arguments (`runFiles_argument_order_matters`).
(b) The canonical form the check uses to compare dump files of different runs forgets any injective renaming of
    the ids (addresses).

Not decided here (see docs/C29.md): iteration over containers keyed by pointer values or hashed — the check only
enumerates them and compares the outputs of differently laid-out runs.
-/
namespace Cppcheck.Determinism
open Cppcheck.Wire Cppcheck.PathMatch Cppcheck.FileLister

/-- the sort of `FileLister::addFiles` gives the same list for every enumeration order of
    the same files (no path twice) -/
theorem sort_perm_invariant (l l' : List (Str × Lang)) (hp : l.Perm l') (hnd : (l.map (·.1)).Nodup) :
    sortFiles l = sortFiles l' :=
  sort_perm_invariant_of sortFiles (·.1) (fun a b => pathLe a b = true) (fun a b => strLt a.1 b.1 = true)
    sortFiles_perm sortFiles_sorted (fun _ _ => strLt_of_pathLe)
    (fun _ _ h1 h2 => Bool.false_ne_true ((strLt_asymm _ _ h1).symm.trans h2)) l l' hp hnd

/-- two directory trees whose file listings (file, directories on the way) are
    permutations of each other are listed identically — for every ignore matcher and every acceptance test -/
theorem lister_perm_invariant_files (ign : Str → Filemode → Bool) (acc : Str → Bool × Lang) (path : Str) (t t' : Tree)
    (hp : path ≠ []) (hw : t.wf = true)
    (h : (allFiles (correctedPath path) [] t).Perm (allFiles (correctedPath path) [] t')) :
    addFiles ign acc path (some t) = addFiles ign acc path (some t') := by
  rw [addFiles_eq ign acc path t hp, addFiles_eq ign acc path t' hp]
  congr 1
  apply sort_perm_invariant
  · exact (h.filter _).map _
  · exact selectedFiles_nodup ign acc (correctedPath path) t hw

/-- DESIGN §5 C29: reordering the entries of any directories of the tree does not
    change the listing -/
theorem lister_perm_invariant (ign : Str → Filemode → Bool) (acc : Str → Bool × Lang) (path : Str) (t t' : Tree)
    (hp : path ≠ []) (hw : t.wf = true) (h : entriesReordered t t') :
    addFiles ign acc path (some t) = addFiles ign acc path (some t') :=
  lister_perm_invariant_files ign acc path t t' hp hw (allFiles_perm h _ _)

/-- the relation between the arguments of two runs: same paths in the same order, each naming a reordered tree -/
def sameArgs : List (Str × Option Tree) → List (Str × Option Tree) → Prop
  | [], [] => True
  | a :: r, a' :: r' =>
    a.1 = a'.1 ∧
    (match a.2, a'.2 with
     | none, none => True
     | some t, some t' => a.1 ≠ [] ∧ t.wf = true ∧ entriesReordered t t'
     | _, _ => False) ∧ sameArgs r r'
  | _, _ => False

/-- the file list of the whole run (all arguments, duplicates erased, markup last) is
    the same for every enumeration order of the directories -/
theorem runFiles_perm_invariant (ign : Str → Filemode → Bool) (acc : Str → Bool × Lang) (late : Str → Bool) :
    ∀ (args args' : List (Str × Option Tree)), sameArgs args args' →
    runFiles ign acc late args = runFiles ign acc late args' := by
  intro args args' h
  have : args.flatMap (fun a => (addFiles ign acc a.1 a.2).2) = args'.flatMap (fun a => (addFiles ign acc a.1 a.2).2) := by
    fun_induction sameArgs args args' with
    | case1 => rfl
    | case2 a r a' r' ih =>
      obtain ⟨h1, h2, h3⟩ := h
      rw [List.flatMap_cons, List.flatMap_cons, ih h3]
      congr 1
      obtain ⟨p, o⟩ := a
      obtain ⟨p', o'⟩ := a'
      subst h1
      cases o <;> cases o'
      · rfl
      · exact h2.elim
      · exact h2.elim
      · rw [lister_perm_invariant ign acc p _ _ h2.1 h2.2.1 h2.2.2]
    | case3 => exact h.elim
  simp only [runFiles, this]

/-- the order of the command-line arguments is preserved (not part of the property) -/
theorem runFiles_argument_order_matters :
    runFiles (fun _ _ => false) (acceptFile []) (fun _ => false)
      [("b.c".toList, some (.file "b.c".toList)), ("a.c".toList, some (.file "a.c".toList))] ≠
    runFiles (fun _ _ => false) (acceptFile []) (fun _ => false)
      [("a.c".toList, some (.file "a.c".toList)), ("b.c".toList, some (.file "b.c".toList))] := by
  decide +kernel

/-- a directory listed in two enumeration orders: the hypotheses are satisfiable -/
example : entriesReordered
    (.dir [] [.file "b.cpp".toList, .dir "s".toList [.file "z.c".toList, .file "a.c".toList]])
    (.dir [] [.dir "s".toList [.file "a.c".toList, .file "z.c".toList], .file "b.cpp".toList]) :=
  .trans (.dir [] _ _ (List.Perm.swap _ _ []))
    (.sub [] [] [.file "b.cpp".toList] _ _ (.dir "s".toList _ _ (List.Perm.swap _ _ [])))

example : selectedFiles (fun _ _ => false) (acceptFile []) "r".toList
      (.dir [] [.file "b.cpp".toList, .dir "s".toList [.file "z.c".toList, .file "a.c".toList]]) =
    [("r/b.cpp".toList, .cpp), ("r/s/z.c".toList, .c), ("r/s/a.c".toList, .c)] := by decide +kernel

/-! ## dump ids -/

/-- the canonical form of a dump does not change when its ids are renamed injectively -/
theorem dump_alpha (d : List Item) (π : Nat → Nat) (h : injectiveOn π (idsOf d) = true) :
    canon (rename π d) = canon d :=
  canonAux_rename π d [] ((injectiveOn_iff π _).1 h)

/-- two runs of the same analysis: same text, different addresses -/
example : canon [.lit "<token id=".toList, .ref 0x5626299ef100, .lit " scope=".toList, .ref 0x562629a0b890, .lit " link=".toList, .ref 0x5626299ef100] =
    canon [.lit "<token id=".toList, .ref 0x7f00aa10, .lit " scope=".toList, .ref 0x7f00a000, .lit " link=".toList, .ref 0x7f00aa10] := by
  decide +kernel

example : injectiveOn (fun i => i + 4096) [7, 9, 7] = true := by decide

/-- the hypothesis is needed: a renaming that merges two ids changes the canonical form -/
theorem dump_alpha_counterexample_not_injective :
    canon (rename (fun _ => 1) [.ref 7, .ref 9]) ≠ canon [.ref 7, .ref 9] := by decide

/-- `canon` keeps every text chunk (it only touches ids) -/
theorem canon_lits (d : List Item) : (canon d).filterMap (fun it => match it with | .lit s => some s | .ref _ => none) =
    d.filterMap (fun it => match it with | .lit s => some s | .ref _ => none) := by
  rw [canon, canonAux_eq_rename, rename, List.filterMap_map]
  exact congrArg (List.filterMap · d) (funext fun it => by cases it <;> rfl)

/-- **`canon` is itself a renaming**: the canonical form is the dump with every id replaced by the position of its first
    occurrence, and that replacement is injective on the ids of the dump — `canon` merges no two ids -/
theorem canon_eq_rename (d : List Item) :
    canon d = rename (firstIndex d) d ∧ injectiveOn (firstIndex d) (idsOf d) = true :=
  ⟨canonAux_eq_rename d [], (injectiveOn_iff _ _).2 (firstIndex_inj d)⟩

/-- the converse of `dump_alpha`: two dumps with the same canonical form differ only by an injective
    renaming of the ids.  Together: the comparison of canonical forms the check performs is exactly "equal up to renaming
    of addresses" — not coarser (a canonicaliser that maps every id to 0 would satisfy `dump_alpha` but not this). -/
theorem canon_complete (d1 d2 : List Item) (h : canon d1 = canon d2) :
    ∃ ρ : Nat → Nat, injectiveOn ρ (idsOf d1) = true ∧ d2 = rename ρ d1 := by
  rw [(canon_eq_rename d1).1, (canon_eq_rename d2).1] at h
  -- the position function of `d2` has a left inverse on the ids of `d2`: the id at a position of the list of first occurrences
  obtain ⟨g, hg⟩ : ∃ g : Nat → Nat, ∀ j ∈ idsOf d2, (g ∘ firstIndex d2) j = j :=
    ⟨fun k => (finalSeen [] d2).getD k 0, fun j hj => getD_indexIn _ j ((mem_finalSeen d2 [] j).2 (.inr hj))⟩
  have hd2 := congrArg (rename g) h
  rw [rename_rename, rename_rename, rename_eq_self _ d2 hg] at hd2
  refine ⟨g ∘ firstIndex d1, (injectiveOn_iff _ _).2 (fun i hi j hj e => ?_), hd2.symm⟩
  -- on the ids of `d1` the positions in `d1` are the positions of the images in `d2`
  have hk := (rename_eq_iff (firstIndex d1) (firstIndex d2 ∘ g ∘ firstIndex d1) d1).1
    (by rw [← rename_rename, hd2]; exact h)
  exact firstIndex_inj d1 i hi j hj ((hk i hi).trans ((congrArg (firstIndex d2) e).trans (hk j hj).symm))

/-- the comparison of the check decides exactly "equal up to an injective renaming of the ids" -/
theorem canon_eq_iff (d1 d2 : List Item) :
    canon d1 = canon d2 ↔ ∃ ρ : Nat → Nat, injectiveOn ρ (idsOf d1) = true ∧ d2 = rename ρ d1 := by
  constructor
  · exact canon_complete d1 d2
  · rintro ⟨ρ, hinj, rfl⟩
    exact (dump_alpha d1 ρ hinj).symm

example : canon [.ref 7, .ref 9, .ref 7] ≠ canon [.ref 7, .ref 9, .ref 9] := by decide

/-! ## the file list as the driver computes it -/

/-- `runFiles` spelled out: every existing argument contributes the sorted list of its selected files -/
theorem runFiles_eq (ign : Str → Filemode → Bool) (acc : Str → Bool × Lang) (late : Str → Bool)
    (args : List (Str × Tree)) (hp : ∀ a, a ∈ args → a.1 ≠ []) :
    runFiles ign acc late (args.map (fun a => (a.1, some a.2))) =
      markupLast late (dedupPaths (args.flatMap (fun a => sortFiles (selectedFiles ign acc (correctedPath a.1) a.2)))) := by
  rw [runFiles, List.flatMap_map, List.flatMap_def, List.flatMap_def]
  exact congrArg (fun l => markupLast late (dedupPaths l.flatten))
    (List.map_congr_left fun a ha => congrArg Prod.snd (addFiles_eq ign acc a.1 a.2 (hp a ha)))

/-! ## sorts and ordered containers under a comparator

A comparator that is a strict weak order on a layout-independent key (file index, line, column, id, name …) is its key;
`isortBy` = stable sort, `osetOf` = `std::set<T, Compare>` filled in arrival order. -/

/-- if no two elements have the same key, the sorted sequence does not depend on the order in
    which the elements arrive (the iteration order of whatever container fed the sort) -/
theorem keyed_sort_perm_invariant {α : Type} (key : α → Nat) (l l' : List α) (hp : l.Perm l') (hnd : (l.map key).Nodup) :
    isortBy key l = isortBy key l' :=
  sort_perm_invariant_of (isortBy key) key (fun a b => key a ≤ key b) (fun a b => key a < key b)
    (isortBy_perm key) (isortBy_sorted key) (fun _ _ h1 h2 => Nat.lt_of_le_of_ne h1 h2)
    (fun _ _ h1 h2 => Nat.lt_asymm h1 h2) l l' hp hnd

/-- elements with equal keys come out in their arrival order (stable sort) — the result is a function
    of the keys and the arrival order, never of addresses -/
theorem keyed_sort_stable {α : Type} (key : α → Nat) (l : List α) (k : Nat) :
    (isortBy key l).filter (fun y => key y == k) = l.filter (fun y => key y == k) := by
  rw [isortBy_eq_foldr, foldr_ins_filter, List.reverse_reverse]

/-- an element whose key is already in the ordered set is not inserted (that is what
    `std::set<const Variable*, CompareVariables>` does to two variables declared by one macro expansion) -/
theorem keyed_set_collapses {α : Type} (key : α → Nat) (x : α) (s : List α) (h : s.any (fun y => key y == key x) = true) :
    osetInsert key x s = s := by
  simp [osetInsert, h]

/-- with pairwise different keys the ordered set is the sorted sequence, whatever the
    arrival order -/
theorem keyed_set_perm_invariant {α : Type} (key : α → Nat) (l l' : List α) (hp : l.Perm l') (hnd : (l.map key).Nodup) :
    osetOf key l = osetOf key l' := by
  rw [osetOf_eq_isortBy key l hnd, osetOf_eq_isortBy key l' ((hp.map key).nodup_iff.1 hnd)]
  exact keyed_sort_perm_invariant key l l' hp hnd

/-- **a tie-break by address is neither collapsing nor arrival order**: two elements with the same key, two runs whose
    allocators place them in opposite order — the same comparator `(key, address)` yields opposite sequences, in the sort
    and in the ordered set (which now keeps both) -/
theorem address_tiebreak_layout_dependent {α : Type} (key addr1 addr2 : α → Nat) (m : Nat) (a b : α)
    (hk : key a = key b) (h1 : addr1 a < addr1 b) (h2 : addr2 b < addr2 a)
    (hm : addr1 a < m ∧ addr1 b < m ∧ addr2 a < m ∧ addr2 b < m) :
    isortBy (withAddress key addr1 m) [a, b] = [a, b] ∧ isortBy (withAddress key addr2 m) [a, b] = [b, a] ∧
    osetOf (withAddress key addr1 m) [a, b] = [a, b] ∧ osetOf (withAddress key addr2 m) [a, b] = [b, a] := by
  have c1 : ¬ (withAddress key addr1 m b < withAddress key addr1 m a) := by
    simp only [withAddress, hk]; omega
  have c2 : withAddress key addr2 m b < withAddress key addr2 m a := by
    simp only [withAddress, hk]; omega
  have n1 : ¬ withAddress key addr1 m a = withAddress key addr1 m b := by
    simp only [withAddress, hk]; omega
  have n2 : ¬ withAddress key addr2 m a = withAddress key addr2 m b := by
    simp only [withAddress, hk]; omega
  refine ⟨?_, ?_, ?_, ?_⟩
  · simp [isortBy, ins, c1]
  · simp [isortBy, ins, c2]
  · simp [osetOf, osetInsert, ins, c1, n1]
  · simp [osetOf, osetInsert, ins, c2, n2]

/-- `CompareVariables` with an address tie-break, concretely: `n` and `pl` are declared by one macro expansion (same file, line,
    column = key 17005); the comparator of record keeps one of them, always the first; with the address tie-break the two
    findings come out in address order -/
example : osetOf (fun v : String × Nat => 17005) [("n", 0x5000), ("pl", 0x5040)] = [("n", 0x5000)] ∧
    osetOf (withAddress (fun _ => 17005) (fun v : String × Nat => v.2) 0x10000) [("n", 0x5000), ("pl", 0x5040)] = [("n", 0x5000), ("pl", 0x5040)] ∧
    osetOf (withAddress (fun _ => 17005) (fun v : String × Nat => v.2) 0x10000) [("n", 0x7040), ("pl", 0x7000)] = [("pl", 0x7000), ("n", 0x7040)] := by
  decide +kernel

example : isortBy (fun v : String × Nat => v.2) [("b", 2), ("a", 1), ("c", 2)] = [("a", 1), ("b", 2), ("c", 2)] := by decide

end Cppcheck.Determinism
