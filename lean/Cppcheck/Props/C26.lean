import Cppcheck.Proofs.Template
import Cppcheck.Proofs.XmlEsc
import Cppcheck.Proofs.Sarif
import Cppcheck.Gen.TinyXmlEntities
import Cppcheck.Gen.Templates
import Cppcheck.Gen.RngAttrs
/-
C26 — property theorems (reports are faithful in every output format), in this order: the tables extracted from the
working tree are the model's (ties T1, T2; tie names are those of docs/C26.md); the XML round trip and its counterexamples;
conformance to cppcheck-errors.rng; SARIF, as a tree and as bytes; text output = simultaneous substitution; the `{code}`
field; each finding once; the XML report as a whole.
-/
namespace Cppcheck.C26
open Cppcheck.XmlEsc Cppcheck.Template Cppcheck.Sarif

/-- T1: the entity table, `ENTITY_RANGE` and the restricted flags extracted from the working tree's tinyxml2 are the
    ones the model (`printString`) and every theorem below use. -/
theorem gen_entities_eq :
    Gen.TinyXmlEntities.entities = tinyEntities ∧ Gen.TinyXmlEntities.entityRange = entityRange ∧
    Gen.TinyXmlEntities.restrictedFlags = ['&', '<', '>'] := by decide

/-- T2: every predefined `--template` format of cmdlineparser.cpp (and the default), after the static substitution
    with or without colours, is a well-formed template — so `render_eq_spec_partial` applies to all of them. -/
theorem predefined_templates_wf :
    ∀ t ∈ Gen.Templates.predefined, ∀ erase ∈ [true, false], ∀ colors ∈ [true, false],
      (parseTemplate (substituteStatic erase colors t.2.1)).isSome = true ∧
      (parseTemplate (substituteStatic erase colors t.2.2)).isSome = true := by decide +kernel

/-- **XML carries the finding** (partial: the full statement is refuted below).
    For every finding whose *unsanitised* strings (id, guideline, classification, file0, file names, symbol names —
    the ones `toXML` passes to tinyxml2 without `fixInvalidChars`) hold no C0 control byte and are valid UTF-8, a
    conforming reader accepts `toXML f` and recovers exactly `sanitize f`: the documented fields, messages / remark /
    location info with their non-printable bytes written as `\ooo` — whatever bytes those hold. -/
theorem toXML_roundtrip_partial (f : Finding) (h : RawOK f = true) : parseError (toXML f) = some (sanitize f) := by
  unfold parseError
  rw [readXml_toXML f h]
  exact readError_events f

/-- … in particular the output is well-formed.  `wf` is acceptance by the model's reader `XmlRd`, a strict *subset* of
    XML 1.0; that "XmlRd accepts ⇒ a conforming processor accepts, with the same content" is the trusted link, checked
    on every run against expat (tie R: every real output, and mutated documents in that direction). -/
theorem toXML_wf_partial (f : Finding) (h : RawOK f = true) : wf (toXML f) = true := by
  unfold wf
  rw [readXml_toXML f h]; rfl

/-- `RawOK` does not look at the message texts, the remark or the location infos: arbitrary bytes there never break
    the report (they go through `fixInvalidChars`) -/
theorem rawOK_ignores_messages (f : Finding) (m v r : Str) (infos : Loc → Str) :
    RawOK { f with shortMsg := m, verboseMsg := v, remark := r, stack := f.stack.map (fun l => { l with info := infos l }) } =
      RawOK f := by
  unfold RawOK
  simp [List.all_map, Function.comp_def]

/-- the hypothesis is satisfiable by a hostile case: every XML-special character, control bytes, NUL and invalid
    UTF-8 in message and info, UTF-8 and XML-special characters in the file name and symbol -/
example : RawOK { id := "nullPointer".toList, severity := 1, cwe := 476, inconclusive := true,
                  shortMsg := ['<', '&', '"', '\'', '>', Char.ofNat 1, Char.ofNat 0, Char.ofNat 0xE9, '\n'],
                  verboseMsg := "v".toList, symbols := "a<b\nc".toList,
                  stack := [⟨[Char.ofNat 0xC3, Char.ofNat 0xA9, '&', '.', 'c'], "o.c".toList, 3, 5, [Char.ofNat 7]⟩] } = true := by
  decide +kernel

def xmlWitness : Finding :=
  { id := "x".toList, severity := 1, shortMsg := "m".toList, verboseMsg := "m".toList,
    stack := [⟨['a', Char.ofNat 1, '.', 'c'], ['a', Char.ofNat 1, '.', 'c'], 1, 1, []⟩] }

/-- **F26b** — the full statement is false of the code: a control byte in a file name is written raw, and no XML
    processor accepts the result. -/
theorem toXML_wf_counterexample : ¬ ∀ f : Finding, wf (toXML f) = true := by
  intro h
  have := h xmlWitness
  revert this
  decide +kernel

/-- a tab in a file name keeps the report well-formed but is read back as a blank (attribute-value normalisation) -/
theorem toXML_roundtrip_counterexample :
    ∃ f : Finding, wf (toXML f) = true ∧ parseError (toXML f) ≠ some (sanitize f) := by
  refine ⟨{ id := "x".toList, severity := 1, shortMsg := "m".toList, verboseMsg := "m".toList,
            stack := [⟨['a', '\t', 'b'], ['a', '\t', 'b'], 1, 1, []⟩] }, ?_, ?_⟩ <;> decide +kernel

/-! ### conformance to cppcheck-errors.rng (grammar extracted by the translator: `Gen.RngAttrs`) -/

theorem rng_els : (lookupEl Gen.RngAttrs.elements "error".toList).isSome = true ∧
    (lookupEl Gen.RngAttrs.elements "location".toList).isSome = true ∧
    (lookupEl Gen.RngAttrs.elements "symbol".toList).isSome = true ∧
    (elCh Gen.RngAttrs.elements "error".toList).contains "location".toList = true ∧
    (elCh Gen.RngAttrs.elements "error".toList).contains "symbol".toList = true := by decide +kernel

/-- every combination of the optional attributes `toXML` writes is admitted by the grammar -/
theorem rng_error_names_all : ∀ bgl bcl bcwe bhash binc bf0 brem : Bool,
    namesConform (elReq Gen.RngAttrs.elements "error".toList) (elOpt Gen.RngAttrs.elements "error".toList)
      (namesOf (errNameTable bgl bcl bcwe bhash binc bf0 brem)) = true := by decide +kernel

theorem rng_error_names : ∀ bcwe bhash binc bf0 : Bool,
    namesConform (elReq Gen.RngAttrs.elements "error".toList) (elOpt Gen.RngAttrs.elements "error".toList)
      (namesOf (errNameTable false false bcwe bhash binc bf0 false)) = true :=
  fun bcwe bhash binc bf0 => rng_error_names_all false false bcwe bhash binc bf0 false

theorem rng_loc_names_all : ∀ borig binfo : Bool,
    namesConform (elReq Gen.RngAttrs.elements "location".toList) (elOpt Gen.RngAttrs.elements "location".toList)
      (namesOf (locNameTable borig binfo)) = true := by decide +kernel

theorem rng_loc_names : ∀ binfo : Bool,
    namesConform (elReq Gen.RngAttrs.elements "location".toList) (elOpt Gen.RngAttrs.elements "location".toList)
      (namesOf (locNameTable false binfo)) = true := rng_loc_names_all false

theorem rng_sev_all : ∀ n, n < 8 → 1 ≤ n → Gen.RngAttrs.severityValues.contains (cstr (sevStr n)) = true := by decide +kernel

theorem rng_sev : ∀ n, n < 7 → 1 ≤ n → Gen.RngAttrs.severityValues.contains (cstr (sevStr n)) = true :=
  fun n h => rng_sev_all n (Nat.lt_succ_of_lt h)

/-- **XML conforms to cppcheck-errors.rng** (element / attribute grammar), for every finding with one of the severities
    error … debug, whatever optional attributes it has: the data carried by `toXML f` satisfies the grammar of the working
    tree's cppcheck-errors.rng (the one with `origfile`, `remark`, `guideline`, `classification` and `debug`: F26d repaired). -/
theorem toXML_conforms_rng (f : Finding) (hs1 : 1 ≤ f.severity) (hs2 : f.severity ≤ 7) :
    conformsRng Gen.RngAttrs.elements Gen.RngAttrs.severityValues (sanitize f) = true := by
  obtain ⟨e1, e2, e3, e4, e5⟩ := rng_els
  unfold conformsRng
  rw [e1, e2, e3, e4, e5, lookup_severity]
  simp only [Bool.true_and, Bool.or_true, Bool.and_true, Bool.and_eq_true, List.all_eq_true]
  refine ⟨⟨?_, rng_sev_all f.severity (by omega) hs1⟩, fun la hla => ?_⟩
  · show namesConform _ _ ((carried (errAttrTable f)).map (fun a => a.1)) = true
    rw [carried_names]
    exact rng_error_names_all _ _ _ _ _ _ _
  · simp only [sanitize, List.mem_map, List.mem_reverse] at hla
    obtain ⟨l, _, rfl⟩ := hla
    rw [carried_names]
    exact rng_loc_names_all _ _

/-- **XML conforms to cppcheck-errors.rng** (element / attribute grammar; partial): for every finding without
    guideline / classification / remark, whose locations have `origfile = file`, with one of the six user-visible
    severities, the data carried by `toXML f` satisfies the grammar of the working tree's cppcheck-errors.rng —
    all required attributes present, no attribute outside the schema, severity among the listed values.
    (The excluded findings are those of finding F26d: a schema that does not know `origfile`, `remark`, `guideline`,
    `classification`, nor the severity `debug`.  The working tree's schema knows them: `toXML_conforms_rng`.) -/
theorem toXML_conforms_rng_partial (f : Finding) (h : rngPlain f = true) :
    conformsRng Gen.RngAttrs.elements Gen.RngAttrs.severityValues (sanitize f) = true := by
  unfold rngPlain at h
  simp only [Bool.and_eq_true, decide_eq_true_eq] at h
  exact toXML_conforms_rng f h.1.2 (by omega)

example : rngPlain { id := "nullPointer".toList, severity := 1, cwe := 476, inconclusive := true, file0 := "a.c".toList,
                     shortMsg := "m".toList, verboseMsg := "v".toList, symbols := "p".toList,
                     stack := [⟨"a.c".toList, "a.c".toList, 3, 5, "info".toList⟩] } = true := by decide +kernel

/-- **SARIF carries the located findings** (tree level; `sarif_document` below connects it to the bytes): the result list
    is, in order, one result per finding with a call stack, and reading a result back gives the finding's id, short
    message, documented level (`Spec.level`) and per location the file, line and column (values below 1 written as 1).
    Findings *without* location are not in the report ("github only supports findings with locations"): `located`. -/
theorem sarif_results_tree (fs : List Finding) :
    (results fs).map readResult = (located fs).map (fun f => some (expectedResult f)) := by
  simp only [results, List.map_map, Function.comp_def, readResult_resultJson]

/-- the rules are the ids of the located findings, each once, and every result refers to one of them -/
theorem sarif_rules_tree (fs : List Finding) :
    (rules fs).map (fun j => (j.get "id").bind Json.strVal) = (firstOfId (located fs) []).map (fun f => some f.id) ∧
    ((firstOfId (located fs) []).map (fun f => f.id)).Nodup ∧
    ∀ f ∈ located fs, f.id ∈ (firstOfId (located fs) []).map (fun f => f.id) := by
  rw [firstOfId_eq]
  exact ⟨by simp only [rules, firstOfId_eq, List.map_map, Function.comp_def, ruleJson_id], FirstOfKey.nodup_keys_firsts _ [] _,
    fun f hf => (FirstOfKey.mem_keys_firsts _ [] _ _).2 ⟨List.not_mem_nil, List.mem_map_of_mem hf⟩⟩

/-- a finding without location is dropped from the SARIF report (stated, not a defect of the writer: it is the
    documented choice of sarifreport.cpp) -/
theorem sarif_drops_unlocated :
    ∃ f : Finding, f.severity ≠ 8 ∧ results [f] = [] := by
  refine ⟨{ id := "checkersReport".toList, severity := 6, shortMsg := "m".toList, verboseMsg := "m".toList }, by decide, by decide⟩

/-- **JSON strings are escaped faithfully**: for every byte string, a strict JSON string reader decodes what
    picojson's `serialize_str` wrote back to the same bytes (so quotes, backslashes, control bytes, DEL in messages,
    ids and file names never break the document structure). -/
theorem sarif_string_roundtrip (s rest : Str) : jsonStrDecode ((jsonStr s).drop 1 ++ rest) = some (s, rest) := by
  have : (jsonStr s).drop 1 ++ rest = s.flatMap jsonChar ++ ('"' :: rest) := by simp [jsonStr]
  rw [this]
  exact jsonChars_decode rest s

/-- **picojson's prettified serialisation is read back by a strict JSON reader**, for every tree (any strings, any
    integers, any nesting). -/
theorem json_serialize_roundtrip (j : Json) : jsonParse (serialize j) = some j := by
  unfold jsonParse serialize
  -- the '\n' that `serialize` appends is the `rest` (no digit); the fuel is the length of the whole text and one more
  have h := parse_ser j 0 ((ser j 0 ++ ['\n']).length + 1) [] ['\n'] (by simp; omega) (fun _ h => by simp at h)
    (noDigitHead_of_start '\n' [] (by decide))
  simp only [List.nil_append] at h
  rw [h]
  rfl

/-- **The SARIF document text is valid JSON and carries the located findings.**  The bytes `SarifReport::serialize`
    returns (the hand-spliced `"version"` member included) parse, with a strict JSON reader, to the document object;
    its `runs[0].results`, read back, are — in order — the expected result (id, short message, documented level
    `Spec.level`, file / line / column per location) of every finding that has a call stack; its
    `runs[0].tool.driver.rules` carry the pairwise distinct ids of those findings.
    For *all* finding lists and all bytes in every string (the byte-level JSON grammar does not look at bytes ≥ 0x80:
    whether the text is valid *UTF-8* is F26c, decided by P_impl). -/
theorem sarif_document (name version : Str) (fs : List Finding) :
    jsonParse (serializeSarif name version fs) = some (withVersion (doc name version fs)) ∧
    ((jsonParse (serializeSarif name version fs)).bind reportResults).map (fun rs => rs.map readResult) =
      some ((located fs).map (fun f => some (expectedResult f))) ∧
    ((jsonParse (serializeSarif name version fs)).bind reportRules).map (fun rs => rs.map (fun j => (j.get "id").bind Json.strVal)) =
      some ((firstOfId (located fs) []).map (fun f => some f.id)) := by
  have hp : jsonParse (serializeSarif name version fs) = some (withVersion (doc name version fs)) := by
    rw [serializeSarif_eq]; exact json_serialize_roundtrip _
  refine ⟨hp, ?_, ?_⟩
  · rw [hp]
    have : reportResults (withVersion (doc name version fs)) = some (results fs) := by
      simp only [reportResults, withVersion, doc, get_cons, String.reduceEq, if_true, if_false]
    simp only [Option.bind_some, this, Option.map_some]
    rw [sarif_results_tree]
  · rw [hp]
    have : reportRules (withVersion (doc name version fs)) = some (rules fs) := by
      simp only [reportRules, withVersion, doc, get_cons, String.reduceEq, if_true, if_false, Option.bind_some]
    simp only [Option.bind_some, this, Option.map_some]
    rw [(sarif_rules_tree fs).1]

/-- the level clause is the documented table, not the implementation's own function -/
theorem sarif_level_spec (f : Finding) : sarifSeverity f = Spec.level f := sarifSeverity_eq_spec f

/-- **Text = simultaneous substitution** (partial: the full statement is refuted below).
    For every finding, every message template `tf` and location template `tl` that tokenize (`parseTemplate`: no
    '{' inside a marker, no unterminated marker), if no substituted field value contains a '{', the text
    `ErrorMessage::toString` returns (`some`) and produces the one simultaneous substitution of the documented fields
    (`brk`: with or without the `pos2 == npos` guard in the `{inconclusive:` loop — see `render_hang_counterexample`). -/
theorem render_eq_spec_partial (brk : Bool) (src : Loc → Str) (f : Finding) (verbose : Bool) (tf tl : Str) (segsF segsL : List Seg)
    (hF : parseTemplate tf = some segsF) (hL : parseTemplate tl = some segsL) (hv : valuesOK f verbose = true) :
    toString brk src f verbose tf tl = some (Spec.render src f verbose segsF segsL) := by
  obtain ⟨wF, eF⟩ := parseTemplate_spec tf segsF hF
  obtain ⟨wL, eL⟩ := parseTemplate_spec tl segsL hL
  unfold valuesOK fieldValues at hv
  rw [List.all_eq_true] at hv
  have h0 := fun v hm => openFree_noOpen (hv v hm)
  have hfiles : ∀ l ∈ f.stack, noOpen l.file := fun l hl => h0 l.file (by
    simp only [List.mem_append, List.mem_map]; exact Or.inl (Or.inr ⟨l, hl, rfl⟩))
  have hinfos : ∀ l ∈ f.stack, noOpen (if l.info = [] then f.shortMsg else l.info) := fun l hl => h0 _ (by
    simp only [List.mem_append, List.mem_map]; exact Or.inr ⟨l, hl, rfl⟩)
  have hV : ValuesOK f verbose :=
    { id := h0 _ (by simp), cls := h0 _ (by simp), msg := h0 _ (by simp), remark := h0 _ (by simp), files := hfiles }
  rw [← eF, ← eL]
  exact toString_eq_spec brk src f verbose segsF segsL wF wL hV (fun _ => hinfos)

/-- the hypotheses are satisfiable by a non-trivial case: the `gcc`-like template with a two-location finding -/
example : ∃ segsF segsL,
    parseTemplate "{file}:{line}:{column}: warning: {message} [{id}]\n{code}".toList = some segsF ∧
    parseTemplate "{file}:{line}: note: {info}".toList = some segsL ∧
    valuesOK { id := "nullPointer".toList, severity := 1, shortMsg := "Null pointer dereference: p".toList,
               verboseMsg := "Null pointer dereference: p".toList,
               stack := [⟨"a.c".toList, "a.c".toList, 8, 5, "Assignment 'p=0'".toList⟩, ⟨"a.c".toList, "a.c".toList, 3, 6, []⟩] } false = true := by
  simp only [← Option.isSome_iff_exists, exists_and_left, exists_and_right]
  decide +kernel

def f10Witness : Finding :=
  { id := "preprocessorErrorDirective".toList, severity := 1, shortMsg := "#error see {line}".toList,
    verboseMsg := "#error see {line}".toList, stack := [⟨"a.c".toList, "a.c".toList, 3, 2, []⟩] }

/-- **F10** — the full statement is false of the code: the passes are sequential, so a `{line}` inside the message
    is rewritten by the later `{line}` pass (`#error see {line}` with `--template={message}` prints `#error see 3`). -/
theorem render_injection_counterexample (brk : Bool) :
    ¬ ∀ (f : Finding) (tf : Str) (segs : List Seg), parseTemplate tf = some segs →
        toString brk (fun _ => []) f false tf [] = some (Spec.render (fun _ => []) f false segs []) := by
  intro h
  have := h f10Witness "{message}".toList [.mk "message".toList] (by decide +kernel)
  revert this
  cases brk <;> decide +kernel

/-- what the code prints / what the documented meaning is, for the witness -/
example : toString false (fun _ => []) f10Witness false "{message}".toList [] = some "#error see 3".toList := by decide +kernel
example : Spec.render (fun _ => []) f10Witness false [.mk "message".toList] [] = "#error see {line}".toList := by decide +kernel

/-- **F26f** — a template that does not tokenize can keep `toString` from returning: without the `pos2 == npos` guard an
    unterminated `{inconclusive:` at offset 0 makes the search string empty (`npos - 0 + 1` wraps to 0) and
    `findAndReplace(result, "", "")` never advances; with the guard the text is left as written. -/
theorem render_hang_counterexample :
    toString false (fun _ => []) f10Witness false "{inconclusive:".toList [] = none ∧
    toString true (fun _ => []) f10Witness false "{inconclusive:".toList [] = some "{inconclusive:".toList ∧
    parseTemplate "{inconclusive:".toList = none := by decide +kernel

/-! ## the `{code}` field reads the original file -/

theorem srcOf_rewrite (files : Str → Int → Str) (g : Str → Str) (l : Loc) :
    srcOf files { l with file := g l.file } = srcOf files l := rfl

/-- the `{code}` template on a finding with a call stack: source line of the ORIGINAL file, line end, caret -/
theorem code_field (brk : Bool) (files : Str → Int → Str) (f : Finding) (verbose : Bool) (last : Loc)
    (h : f.stack.getLast? = some last) :
    mainText brk (srcOf files) f verbose "{code}".toList =
      some (readCode (files last.origFile last.line) last.column ['\n']) := by
  have hfind : find mInc "{code}".toList 0 = none := by decide +kernel
  have hendl : endlOf "{code}".toList = ['\n'] := by decide +kernel
  unfold mainText
  -- no pass before the last finds its marker in `{code}`; the last replaces the whole text
  simp only [
    far_mark_ne marker_id marker_code (by decide +kernel),
    far_mark_ne marker_severity marker_code (by decide +kernel),
    far_mark_ne marker_cwe marker_code (by decide +kernel),
    far_mark_ne marker_message marker_code (by decide +kernel),
    far_mark_ne marker_remark marker_code (by decide +kernel),
    far_mark_ne marker_callstack marker_code (by decide +kernel),
    far_mark_ne marker_file marker_code (by decide +kernel),
    far_mark_ne marker_line marker_code (by decide +kernel),
    far_mark_ne marker_column marker_code (by decide +kernel),
    far_mark_self marker_code, hfind, inconclusiveLoop, h, hendl, srcOf]

theorem loc_code_field (files : Str → Int → Str) (shortMsg : Str) (l : Loc) :
    locText (srcOf files) shortMsg "{code}".toList l = readCode (files l.origFile l.line) l.column ['\n'] := by
  have hendl : endlOf "{code}".toList = ['\n'] := by decide +kernel
  unfold locText
  simp only [
    far_mark_ne marker_file marker_code (by decide +kernel),
    far_mark_ne marker_line marker_code (by decide +kernel),
    far_mark_ne marker_column marker_code (by decide +kernel),
    far_mark_ne marker_info marker_code (by decide +kernel),
    far_mark_self marker_code, hendl, srcOf]

/-- **the `{code}` field does not depend on the display path**: rewriting the display names of all locations (as
    `-rp=<base>` / `setfile` do) leaves the text of the `{code}` templates unchanged — the line shown is read from the
    original file -/
theorem toString_code_independent_of_display_path (brk : Bool) (files : Str → Int → Str) (f : Finding) (verbose : Bool)
    (g : Str → Str) :
    Template.toString brk (srcOf files) (rewriteDisplay g f) verbose "{code}".toList "{code}".toList =
      Template.toString brk (srcOf files) f verbose "{code}".toList "{code}".toList := by
  have hm : mainText brk (srcOf files) (rewriteDisplay g f) verbose "{code}".toList =
      mainText brk (srcOf files) f verbose "{code}".toList := by
    cases h : f.stack.getLast? with
    | some last =>
      have h' : (rewriteDisplay g f).stack.getLast? = some { last with file := g last.file } := by
        simp [rewriteDisplay, List.getLast?_map, h]
      rw [code_field brk files f verbose last h, code_field brk files _ verbose _ h']
    | none =>
      have hs : f.stack = [] := List.getLast?_eq_none_iff.mp h
      have : rewriteDisplay g f = f := by
        cases f; simp only [rewriteDisplay] at *; simp [hs]
      rw [this]
  unfold Template.toString
  rw [hm]
  cases mainText brk (srcOf files) f verbose "{code}".toList with
  | none => rfl
  | some r =>
    simp only [rewriteDisplay, List.length_map, List.flatMap_map, loc_code_field]

/-- **Each finding once**: the renderings handed to the writer are pairwise distinct, and the rendering of every
    non-internal finding of the run is among them. -/
theorem each_once (render : Finding → Str) (fs : List Finding) :
    ((stdLogger render fs).map render).Nodup ∧
    ∀ f ∈ fs, f.severity ≠ 8 → render f ∈ (stdLogger render fs).map render := by
  rw [stdLogger_eq]
  exact ⟨FirstOfKey.nodup_keys_firsts render [] _, fun f hf hsev => (FirstOfKey.mem_keys_firsts render [] _ _).2
    ⟨List.not_mem_nil, List.mem_map_of_mem (List.mem_filter.2 ⟨hf, by simpa using hsev⟩)⟩⟩

/-- when the text renderings of the non-internal findings are pairwise distinct, no finding is dropped — the
    hypothesis under which the XML / SARIF writers receive every finding (they share the text-keyed filter) -/
theorem stdLogger_all_partial (render : Finding → Str) (fs : List Finding)
    (h : ((fs.filter (fun f => f.severity ≠ 8)).map render).Nodup) :
    stdLogger render fs = fs.filter (fun f => f.severity ≠ 8) :=
  stdLogger_eq render fs ▸ FirstOfKey.firsts_eq_self render [] _ (fun _ _ => List.not_mem_nil) h

example : (([{ id := "a".toList, severity := 1, shortMsg := "x".toList, verboseMsg := "x".toList },
             { id := "b".toList, severity := 2, shortMsg := "y".toList, verboseMsg := "y".toList }] : List Finding).filter
            (fun f => f.severity ≠ 8)).map (fun f => (toString true (fun _ => []) f false "{id}:{message}".toList []).getD []) |>.Nodup := by
  decide +kernel

/-- **Report level (XML)**: the `<error>` elements of a report are `toXML` of the findings the duplicate filter lets
    through, in order.  If every finding of the run has plain unsanitised strings (`RawOK`), each of these elements is
    accepted by the reader and carries exactly `sanitize f`; if moreover the text renderings of the non-internal
    findings are pairwise distinct, the elements are those of *all* non-internal findings of the run, each once.
    (Header and footer are two literals of `getXMLHeader/getXMLFooter`; they are composed with the real functions in
    the CLI tie C5, not in Lean.) -/
theorem xml_report_partial (render : Finding → Str) (fs : List Finding) (hraw : ∀ f ∈ fs, RawOK f = true) :
    (stdLogger render fs).map (fun f => parseError (toXML f)) = (stdLogger render fs).map (fun f => some (sanitize f)) ∧
    (((fs.filter (fun f => f.severity ≠ 8)).map render).Nodup →
      (stdLogger render fs).map (fun f => parseError (toXML f)) =
        (fs.filter (fun f => f.severity ≠ 8)).map (fun f => some (sanitize f))) := by
  have h1 : (stdLogger render fs).map (fun f => parseError (toXML f)) = (stdLogger render fs).map (fun f => some (sanitize f)) := by
    apply List.map_congr_left
    intro f hf
    rw [stdLogger_eq] at hf
    exact toXML_roundtrip_partial f (hraw f (List.mem_filter.1 ((FirstOfKey.firsts_sublist render [] _).subset hf)).1)
  refine ⟨h1, fun hnd => ?_⟩
  rw [h1, stdLogger_all_partial render fs hnd]

/-- the filter key is the *text*: two findings that differ only in a field the template does not show (here the CWE
    number under `{file}:{line}: {message} [{id}]`) reach the XML / SARIF writer as one -/
theorem xml_dedup_by_text_counterexample :
    ∃ f g : Finding, f ≠ g ∧ toXML f ≠ toXML g ∧
      stdLogger (fun x => (toString true (fun _ => []) x false "{file}:{line}: {message} [{id}]".toList []).getD []) [f, g] = [f] := by
  refine ⟨{ id := "a".toList, severity := 1, cwe := 1, shortMsg := "m".toList, verboseMsg := "m".toList },
          { id := "a".toList, severity := 1, cwe := 2, shortMsg := "m".toList, verboseMsg := "m".toList }, ?_, ?_, ?_⟩ <;> decide +kernel

end Cppcheck.C26
