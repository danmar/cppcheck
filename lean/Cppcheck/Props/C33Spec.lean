import Cppcheck.Proofs.MatchSpec
/-
C33 (audit item M4) — the classification the compiler model uses IS the documented grammar.

`DocCmd` / `PlainLit` / `DocAtom` / `DocWord` / `DocPattern` (Proofs/MatchSpec.lean, top of the file) transcribe the
doc comment of `Token::Match` in lib/token.h as inductive relations between a text and its meaning;
they do not mention `Word.ofStr`, `Atom.ofStr`, `Cmd.ofStr`, `words` or `parse`.  The theorems below say
that a text is a documented word / pattern with meaning `W` exactly when it is well-formed
(`wordWF` / `patternWF`, the decidable predicate T2 checks on every pattern literal of lib/*.cpp) and
the classification function — the one `compile` calls and `lang` is evaluated on — returns `W`.
So `compiled_eq_language_partial` and `interpreted_eq_language` are statements about the documented
language, not about the compiler's own reading of it, and a misclassification in `Word.ofStr`
(e.g. `!!` tested before `|`, a missing `%cmd%`) would make these theorems fail.
-/
namespace Cppcheck.Match
open Cppcheck.Wire

/-- **a text is a documented word with meaning `W` iff it is well-formed and classified as `W`** -/
theorem docWord_iff_ofStr (w : Str) (W : Word) (hsp : ' ' ∉ w) :
    DocWord w W ↔ (wordWF w = true ∧ Word.ofStr w = W) :=
  ⟨docWord_ofStr w W, fun ⟨h1, h2⟩ => h2 ▸ ofStr_docWord w hsp h1⟩

/-- **a text is a documented pattern with meaning `Ws` iff it is well-formed and parsed as `Ws`** -/
theorem docPattern_iff_parse (p : Str) (Ws : List Word) :
    DocPattern p Ws ↔ (patternWF p = true ∧ parse p = Ws) :=
  ⟨docPattern_parse p Ws, fun ⟨h1, h2⟩ => h2 ▸ parse_docPattern p h1⟩

/-- the grammar is unambiguous: a pattern text has at most one meaning -/
theorem docPattern_unique (p : Str) (Ws Ws' : List Word) (h : DocPattern p Ws) (h' : DocPattern p Ws') : Ws = Ws' := by
  rw [← ((docPattern_iff_parse p Ws).1 h).2, ← ((docPattern_iff_parse p Ws').1 h').2]

/-! the grammar derives the documented examples (built by hand from the constructors, not through
    `parse`), and each disambiguation rule matters -/

example : DocPattern ") const|void {".toList
    [.one (.lit [')']), .alts [.lit "const".toList, .lit "void".toList] false, .one (.lit ['{'])] := by
  rw [show ") const|void {".toList = [')'] ++ ' ' :: (bars ["const".toList, "void".toList] ++ ' ' :: ['{'])
    by decide +kernel]
  exact .word [')'] _ _ _ (.one _ _ (.lit (by decide +kernel)) (by decide +kernel) (by decide +kernel))
    (.word _ _ _ _
      (.alts ["const".toList, "void".toList] _ (by decide +kernel) (by decide +kernel)
        (.cons (.lit (by decide +kernel)) (.cons (.lit (by decide +kernel)) .nil)) (by decide +kernel) (by decide +kernel))
      (.last ['{'] _ (.one _ _ (.lit (by decide +kernel)) (by decide +kernel) (by decide +kernel))))

example : DocWord "%var%|%num%|)".toList (.alts [.cmd .var, .cmd .num, .lit [')']] false) := by
  rw [show "%var%|%num%|)".toList = bars ["%var%".toList, "%num%".toList, [')']] by decide +kernel]
  exact .alts ["%var%".toList, "%num%".toList, [')']] _ (by decide +kernel) (by decide +kernel)
    (.cons (.cmd .var) (.cons (.cmd .num) (.cons (.lit (by decide +kernel)) .nil))) (by decide +kernel) (by decide +kernel)

example : DocWord "int|void|".toList (.alts [.lit "int".toList, .lit "void".toList] true) := by
  rw [show "int|void|".toList = bars ["int".toList, "void".toList, []] by decide +kernel]
  exact .alts ["int".toList, "void".toList, []] _ (by decide +kernel) (by decide +kernel)
    (.cons (.lit (by decide +kernel)) (.cons (.lit (by decide +kernel)) .nil)) (by decide +kernel) (by decide +kernel)

example : DocWord "!!else".toList (.neg "else".toList) := by
  rw [show "!!else".toList = '!' :: '!' :: "else".toList by decide +kernel]
  exact .neg _ (by decide +kernel) (by decide +kernel) (by decide +kernel)
example : DocWord "[;{}]".toList (.cls [';', '{', '}']) := DocWord.cls [';', '{', '}'] (by decide +kernel) (by decide +kernel)
-- `[a|b]` is a character class, not the alternatives `[a` / `b]` (rule `Bracketed`)
example : Word.ofStr "[a|b]".toList = .cls ['a', '|', 'b'] ∧ wordWF "[a|b]".toList = true := by decide +kernel
-- `%foo%` is not a documented word (neither a command nor a plain text)
example : wordWF "%foo%".toList = false := by decide +kernel

end Cppcheck.Match
