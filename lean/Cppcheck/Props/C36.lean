import Cppcheck.Proofs.HtmlReport
/-
C36 — property theorems about the model of cppcheck-htmlreport (the script after fix b935e01): escaping; the index, its
rows and their columns; the per-file pages and their annotations; no string of the results file reaches the output
unencoded. M1, M2, M4 in the section titles are the audit items of docs/C36.md.
-/
namespace Cppcheck.Html
open List

/-- text that is `wellEscaped` contains none of `<`, `>`, `"`, `'`: this is what `Piece.ok` (below) buys for the
    rendering of an encoded piece -/
theorem wellEscaped_no_markup : ∀ s : Str, wellEscaped s = true → ∀ c ∈ s, special c = false := by
  intro s
  fun_induction wellEscaped s with
  | case1 r ih => simp only [List.forall_mem_cons]; exact fun h => ⟨rfl, rfl, rfl, rfl, rfl, ih h⟩
  | case2 r ih => simp only [List.forall_mem_cons]; exact fun h => ⟨rfl, rfl, rfl, rfl, ih h⟩
  | case3 r ih => simp only [List.forall_mem_cons]; exact fun h => ⟨rfl, rfl, rfl, rfl, ih h⟩
  | case4 r ih => simp only [List.forall_mem_cons]; exact fun h => ⟨rfl, rfl, rfl, rfl, rfl, rfl, ih h⟩
  | case5 r ih => simp only [List.forall_mem_cons]; exact fun h => ⟨rfl, rfl, rfl, rfl, rfl, rfl, ih h⟩
  | case6 c r _ _ _ _ _ ih =>
    simp only [List.forall_mem_cons, Bool.and_eq_true]
    exact fun h => ⟨special_of_plain h.1, ih h.2⟩
  | case7 => simp

/-- escaped text carries no markup character: `<`, `>` and both quotes never survive -/
theorem escape_no_markup (s : Str) : ∀ c ∈ htmlEscape s, special c = false :=
  wellEscaped_no_markup _ (escape_wellEscaped s)

/-- the class attribute derived from the id is markup-free -/
theorem css_no_markup (s : Str) : ∀ c ∈ toCssSelector s, special c = false :=
  fun c hc => special_of_plain (css_plain s c hc)

/-- the last equation of `unescape`, as `wellEscaped_cons` -/
theorem unescape_cons {c : Char} (h : c ≠ '&') (r : Str) : unescape (c :: r) = c :: unescape r := by
  apply unescape.eq_6 <;> intro _ hc <;> exact absurd hc h

theorem unescape_escChar_append (c : Char) (t : Str) : unescape (escChar c ++ t) = c :: unescape t := by
  unfold escChar
  split
  · simp only [String.reduceToList]; rfl
  · simp only [String.reduceToList]; rfl
  · simp only [String.reduceToList]; rfl
  · simp only [String.reduceToList]; rfl
  · simp only [String.reduceToList]; rfl
  · next h _ _ _ _ => rw [List.singleton_append, unescape_cons h]

/-- escaping loses nothing: an HTML parser reading the entities back recovers the original text -/
theorem unescape_escape (s : Str) : unescape (htmlEscape s) = s := by
  induction s with
  | nil => rfl
  | cons c r ih => rw [htmlEscape, List.flatMap_cons, unescape_escChar_append, ← htmlEscape, ih]

/-- **every finding appears exactly once in the index**: the findings of the rows of index.html,
    in output order, are a permutation of the findings of the results file (any number of
    findings, files and locations; unreadable sources included — no hypothesis on the sources) -/
theorem index_rows_perm (es : List Err) : (indexRows es).map (·.err) ~ es := by
  have h1 : (indexRows es).map (·.err) = (sortedGroups es).flatMap sortedErrs := by
    simp [indexRows, List.map_flatMap, Function.comp_def]
  rw [h1]
  have h2 : (sortedGroups es).flatMap sortedErrs ~ (groups es).flatMap sortedErrs :=
    Perm.flatMap_right _ (stableSort_perm _ _)
  refine h2.trans ?_
  have h3 : (groups es).flatMap sortedErrs ~ (groups es).flatMap (·.errs) := by
    apply flatMap_perm_congr
    intro g _
    exact stableSort_perm _ _
  exact h3.trans (groups_perm es)

/-- each row sits under the file of its finding's first location -/
theorem row_file (es : List Err) : ∀ r ∈ indexRows es, r.err.file = r.group.file := by
  intro r hr
  simp only [indexRows, List.mem_flatMap, List.mem_map] at hr
  obtain ⟨g, hg, e, he, rfl⟩ := hr
  exact sortedGroups_file es g hg e ((stableSort_perm _ _).subset he)

/-! ### every column of an index row (M2) -/

/-- shape lemma: the message cell is the escaped message; nothing else in the row depends on the message -/
theorem row_message_cell (g : Group) (d rt : Bool) (ts : Str) (e : Err) :
    ∃ pre post, ∀ m, rowPieces g d rt ts { e with msg := m } = pre ++ [.esc m] ++ post := by
  refine ⟨[L "<tr class=\"", .css e.id, L " sev_", .esc (shownSeverity rt e), L " class_", .esc (shownCls rt e), L " issue\">"]
      ++ (rowCells g d rt e).flatMap tdP
      ++ msgOpen e,
   [L "</td>"] ++ (if ts = [] then [] else [L "<td>", .raw ts, L "</td>"]) ++ [L "</tr>"], ?_⟩
  intro m
  have h1 : rowCells g d rt { e with msg := m } = rowCells g d rt e := rfl
  have h2 : msgOpen { e with msg := m } = msgOpen e := rfl
  have h3 : shownSeverity rt { e with msg := m } = shownSeverity rt e := rfl
  have h4 : shownCls rt { e with msg := m } = shownCls rt e := rfl
  simp only [rowPieces, h1, h2, h3, h4, List.append_assoc, List.cons_append, List.nil_append]

/-- the second cell of every row is the escaped id -/
theorem row_id_cell (g : Group) (d rt : Bool) (e : Err) : (rowCells g d rt e)[1]? = some [.esc e.id] := by
  simp [rowCells]

/-- the third cell is the cwe link (escaped cwe, twice) or empty -/
theorem row_cwe_cell (g : Group) (d rt : Bool) (e : Err) : (rowCells g d rt e)[2]? = some (cweCell e) := by
  simp [rowCells]

/-- **line**: when the group is a file whose source could be decoded, the first cell is the line number of the
    finding's first location, linked to the anchor of that line on the file's page -/
theorem row_line_cell (g : Group) (d rt : Bool) (e : Err) (h : isFileGroup g d = true) :
    (rowCells g d rt e)[0]? =
      some [L "<a href=\"", .num g.no, L ".html#line-", .num e.line, L "\">", .num e.line, L "</a>"] := by
  simp [rowCells, h]

/-- … and it is EMPTY for a finding whose source file is undecodable, starred, or that has no location: the line
    number is nowhere in the row (finding F36c for the undecodable / starred case) -/
theorem row_line_cell_nofile (g : Group) (d rt : Bool) (e : Err) (h : isFileGroup g d = false) :
    (rowCells g d rt e)[0]? = some [] := by
  simp [rowCells, h]

theorem row_line_undecodable_counterexample :
    ¬ ∀ (g : Group) (d rt : Bool) (ts : Str) (e : Err), e ∈ g.errs → e.locs ≠ [] → .num e.line ∈ rowPieces g d rt ts e := by
  intro h
  have := h ⟨"bad.c".toList, 0, [⟨"i".toList, "style".toList, "m".toList, none, none, none, [], [], [⟨"bad.c".toList, 7, none⟩]⟩]⟩
    true false [] ⟨"i".toList, "style".toList, "m".toList, none, none, none, [], [], [⟨"bad.c".toList, 7, none⟩]⟩ (by simp) (by simp)
  exact absurd this (by decide +kernel)

/-- **severity**: in a report without classifications the fourth cell is the escaped severity (with `, inconcl.`
    appended for an inconclusive finding), provided the severity is not the empty string -/
theorem row_severity_cell (g : Group) (d : Bool) (e : Err) (h : sev0 e ≠ []) :
    (rowCells g d false e)[3]? = some [.esc (sev0 e)] := by
  simp [rowCells, shownSeverity, h]

/-- … and in a classification report (any finding of the file carries a classification) NO row shows its severity:
    the fourth and fifth cells are classification and guideline (finding F36b) -/
theorem row_classification_cells (g : Group) (d : Bool) (e : Err) :
    (rowCells g d true e)[3]? = some [.esc (shownCls true e)] ∧ (rowCells g d true e)[4]? = some [.esc (shownGuide true e)] ∧
    (rowCells g d true e).length = 5 := by
  have h : shownCls true e ≠ [] := by
    simp only [shownCls, if_true]; split <;> simp_all
  simp [rowCells, shownSeverity, h]

theorem row_severity_classification_counterexample :
    ¬ ∀ (g : Group) (d rt : Bool) (ts : Str) (e : Err), .esc (sev0 e) ∈ rowPieces g d rt ts e := by
  intro h
  have := h ⟨"a.c".toList, 0, []⟩ false true [] ⟨"i".toList, "style".toList, "m".toList, none, none, none, [], [], [⟨"a.c".toList, 7, none⟩]⟩
  exact absurd this (by decide +kernel)

/-- the number of cells in front of the message: line, id, cwe; the severity when it is shown; classification and
    guideline, both or neither (in a report without classifications: iff the finding has one) -/
theorem row_cells_length (g : Group) (d rt : Bool) (e : Err) :
    (rowCells g d rt e).length = 3 + (if shownSeverity rt e ≠ [] then 1 else 0) + (if shownCls rt e ≠ [] then 2 else 0) := by
  simp only [rowCells, List.length_append, List.length_cons, List.length_nil]
  split <;> split <;> simp

/-! ### per-file pages (M1) -/

/-- **the entries of a per-file page**: every finding of the group is listed once PER LOCATION that lies in the
    file (in the order of the results file) — not once per finding -/
theorem page_entries (g : Group) :
    (pageLocs g).map (·.1) = g.errs.flatMap fun e => List.replicate (e.locs.filter (fun l => l.file = g.file)).length e := by
  simp only [pageLocs, List.map_flatMap, List.map_map, Function.comp_def, List.map_const']

/-- the menu of the page lists exactly these entries (sorted by line, stable) -/
theorem menu_entries_perm (g : Group) :
    stableSort (fun (a b : Err × Loc) => a.2.line < b.2.line) (pageLocs g) ~ pageLocs g := stableSort_perm _ _

/-- **no finding is missing from the page of its file**: every finding with a location is listed on the page of
    the file of its first location, at the line of that location -/
theorem page_lists_every_finding (es : List Err) (g : Group) (hg : g ∈ sortedGroups es) (e : Err) (he : e ∈ g.errs)
    (hl : e.locs ≠ []) : ∃ l, (e, l) ∈ pageLocs g ∧ l.line = e.line ∧ l.file = g.file := by
  have hf : e.file = g.file := sortedGroups_file es g hg e he
  cases hloc : e.locs with
  | nil => exact absurd hloc hl
  | cons l r =>
    refine ⟨l, ?_, by simp [Err.line, hloc], by simpa [Err.file, hloc] using hf⟩
    simp only [pageLocs, List.mem_flatMap, List.mem_map, List.mem_filter, decide_eq_true_eq]
    refine ⟨e, he, l, ⟨by simp [hloc], by simpa [Err.file, hloc] using hf⟩, rfl⟩

/-- "every finding appears exactly once" is FALSE of the per-file pages: a finding with two locations in one file has
    two entries (menu and annotations) on that file's page (finding F36a) -/
theorem page_exactly_once_counterexample :
    ¬ ∀ (es : List Err) (g : Group), g ∈ sortedGroups es → (pageLocs g).length = g.errs.length := by
  intro h
  let e1 : Err := ⟨"idA".toList, "style".toList, "m".toList, none, none, none, [], [], [⟨"a.c".toList, 3, none⟩, ⟨"a.c".toList, 9, none⟩]⟩
  have := h [e1] ⟨"a.c".toList, 0, [e1]⟩ (by simp [sortedGroups, groups, groupsAux, addErr, stableSort, insertFront, e1, Err.file])
  exact absurd this (by decide)

/-- … and TRUE when every finding of the group has exactly one location in the group's file: the entries of the
    page are exactly the findings of the group, each once, in the order of the results file -/
theorem page_exactly_once_partial (g : Group)
    (h : ∀ e ∈ g.errs, (e.locs.filter (fun l => l.file = g.file)).length = 1) :
    (pageLocs g).map (·.1) = g.errs := by
  rw [page_entries]
  exact flatMap_eq_self fun e he => by rw [h e he, List.replicate_one]

/-- **the annotation of an entry carries its escaped message** (the `info` of the location when it has one):
    whenever the finding has no `inconclusive` attribute or it is `true` -/
theorem annot_shows_message (p : PageErr) (h : p.err.inconclusive = none ∨ p.err.inconclusive = some "true".toList) :
    ∃ b ps, annotPieces p = some (b, ps) ∧ .esc p.msg ∈ ps := by
  unfold annotPieces
  -- attribute absent or `true`, expandable or not: four lists of pieces, each with `.esc p.msg` in it
  rcases h with h | h <;> rw [h] <;> cases p.expandable <;>
    exact ⟨_, _, by simp only [if_true]; rfl, by simp only [List.mem_cons, true_or, or_true]⟩

/-- … and there is NO annotation when the attribute is present with any other value (finding F36d; cppcheck itself
    only ever writes `inconclusive="true"`) -/
theorem annot_missing_counterexample :
    ¬ ∀ p : PageErr, (annotPieces p).isSome = true := by
  intro h
  have := h ⟨⟨"i".toList, "style".toList, "m".toList, none, some "false".toList, none, [], [], []⟩, 3, "m".toList, none⟩
  exact absurd this (by decide)

/-- a line with a single entry: what is written behind the line is exactly that entry's annotation -/
theorem lineAnnot_single (g : Group) (n : Nat) (p : PageErr) (b : Bool) (x : List Piece)
    (h1 : (pageErrs g).filter (fun q => q.line = n) = [p]) (h2 : annotPieces p = some (b, x)) :
    lineAnnot g n = render x := by
  rw [lineAnnot, h1, annotateLine_cons, annot_render_ends_nl p b x h2]
  simpa [annotBody, h2, annotateLine] using annotStep_nl (acc := []) (by simp) p

/-- only source lines exist on a page: an entry whose line is 0 or beyond the end of the file is in the menu but
    has no annotation (`lineAnnot` is consulted for the lines 1..N of the source only) -/
theorem lineAnnot_none (g : Group) (n : Nat) (h : ∀ p ∈ pageErrs g, p.line ≠ n) : lineAnnot g n = ['\n'] := by
  have : (pageErrs g).filter (fun q => q.line = n) = [] := by
    simp only [List.filter_eq_nil_iff, decide_eq_true_eq]; exact h
  simp [lineAnnot, this, annotateLine]

/-- **every entry of a source line is annotated exactly once, in page order**: when no annotation text has a
    newline of its own, what is written behind line `n` is the concatenation of the annotations of the page entries of
    that line (one per location of a finding in the file), each once, in the order of the results file -/
theorem page_annotations_in_order (g : Group) (n : Nat)
    (h : ∀ p ∈ (pageErrs g).filter (fun p => p.line = n), ∀ y, annotBody p = some y → '\n' ∉ y) :
    lineAnnot g n = (((pageErrs g).filter (fun p => p.line = n)).filterMap annotBody).flatten ++ ['\n'] := by
  have := annotateLine_concat _ [] (by simp) h
  simpa [lineAnnot] using this

/-- … and FALSE without that hypothesis: a verbose text containing `\012` (cppcheck's spelling of a newline in the
    XML) becomes a real newline inside the expandable annotation, and the NEXT plain annotation of the same line,
    which replaces every newline, is written twice — once inside the earlier finding's verbose text (finding F36e) -/
theorem page_annotations_counterexample :
    ¬ ∀ (g : Group) (n : Nat),
      lineAnnot g n = (((pageErrs g).filter (fun p => p.line = n)).filterMap annotBody).flatten ++ ['\n'] := by
  intro h
  have := h ⟨"a.c".toList, 0,
    [⟨"A".toList, "error".toList, "s".toList, some "l\\012t".toList, none, none, [], [], [⟨"a.c".toList, 4, none⟩]⟩,
     ⟨"B".toList, "error".toList, "x".toList, none, none, none, [], [], [⟨"a.c".toList, 4, none⟩]⟩]⟩ 4
  exact absurd this (by decide +kernel)

/-! ### whole-output injection freedom (M4) -/

/-- every literal the templates of the script contribute to rows, file rows, menus and annotations -/
def templateLits : List Str := [
  "<tr class=\"", " sev_", " class_", " issue\">", "<td>", "</td>", "<td class=\"", "\">", "error", "warning", "inconclusive",
  "</tr>", "<a href=\"", ".html#line-", "</a>", "<a href=\"https://cwe.mitre.org/data/definitions/", ".html\">",
  "<tr><td colspan=\"6\">", "</td></tr>", "\"> ", " ",
  "<div class=\"verbose expandable\"><span class=\"", "<span class=\"", "error2", "inconclusive2", "\">&lt;--- ",
  " <span class=\"marker\">[+]</span></span><div class=\"content\">", "</div></div>\n", "</span>\n"].map String.toList

/-- a piece is harmless: a literal of the templates, the time stamp of the results file (`time.ctime`, not a string
    of the results file), or an encoded string whose rendering is `wellEscaped` -/
def Piece.ok (ts : Str) : Piece → Bool
  | .lit s => templateLits.contains s
  | .raw s => s == ts
  | p => wellEscaped p.render

/-- the encoded pieces are harmless whatever string of the results file they carry -/
theorem dynamic_ok (ts : Str) : (∀ s, (Piece.esc s).ok ts = true) ∧ (∀ s, (Piece.css s).ok ts = true) ∧ (∀ n, (Piece.num n).ok ts = true) :=
  ⟨fun s => escape_wellEscaped s, fun s => plain_wellEscaped _ (css_plain s), fun n => plain_wellEscaped _ (natStr_plain n)⟩

theorem raw_ok (ts : Str) : (Piece.raw ts).ok ts = true := beq_self_eq_true ts

/-- In the four theorems below this is unfolded once into one equation per template literal, which `simp` then
    looks up by the string: evaluation would unpack every string of `templateLits` again for each piece. -/
theorem lit_ok (ts : Str) : ∀ s ∈ templateLits, (Piece.lit s).ok ts = true :=
  fun _ h => List.contains_iff_mem.mpr h

theorem all_ite {α} (p : α → Bool) (c : Prop) [Decidable c] (a b : List α) :
    (if c then a else b).all p = if c then a.all p else b.all p := by
  split <;> rfl

/-- **no string of the results file reaches a finding row unencoded**: `rowHtml` is the rendering of pieces each of
    which is a fixed template literal, the time stamp, or an `html_escape`d / `to_css_selector`ed / decimal value —
    for every finding, group, flag and time stamp -/
theorem row_injection_free (g : Group) (d rt : Bool) (ts : Str) (e : Err) :
    rowHtml g d rt ts e = render (rowPieces g d rt ts e) ∧ (rowPieces g d rt ts e).all (Piece.ok ts) = true := by
  refine ⟨rfl, ?_⟩
  obtain ⟨esc, css, num⟩ := dynamic_ok ts
  have lit := lit_ok ts
  simp only [templateLits, List.map_cons, List.map_nil, List.forall_mem_cons] at lit
  have cwe : (cweCell e).all (Piece.ok ts) = true := by
    unfold cweCell
    split
    · simp only [all_ite, List.all_cons, List.all_nil, L, lit, esc, Bool.and_self, ite_self]
    · rfl
  have msg : (msgOpen e).all (Piece.ok ts) = true := by
    unfold msgOpen
    cases messageClass e with
    | none => simp only [List.all_cons, List.all_nil, L, lit, Bool.and_self]
    | some c => cases c <;> simp only [MsgClass.name, List.all_cons, List.all_nil, L, lit, Bool.and_self]
  simp only [rowPieces, rowCells, tdP, List.all_append, List.all_flatMap, List.all_cons, List.all_nil, all_ite, L, lit, esc,
    css, num, raw_ok, cwe, msg, Bool.and_self, ite_self]

theorem fileRow_injection_free (g : Group) (d : Bool) (ts : Str) :
    fileRowHtml g d = render (fileRowPieces g d) ∧ (fileRowPieces g d).all (Piece.ok ts) = true := by
  refine ⟨rfl, ?_⟩
  obtain ⟨esc, _, num⟩ := dynamic_ok ts
  have lit := lit_ok ts
  simp only [templateLits, List.map_cons, List.map_nil, List.forall_mem_cons] at lit
  simp only [fileRowPieces, List.all_append, List.all_cons, List.all_nil, all_ite, L, lit, esc, num, Bool.and_self, ite_self]

theorem menu_injection_free (g : Group) (ts : Str) :
    menuHtml g = render (menuPieces g) ∧ (menuPieces g).all (Piece.ok ts) = true := by
  refine ⟨rfl, ?_⟩
  obtain ⟨esc, _, num⟩ := dynamic_ok ts
  have lit := lit_ok ts
  simp only [templateLits, List.map_cons, List.map_nil, List.forall_mem_cons] at lit
  simp only [menuPieces, menuEntryPieces, List.all_flatMap, List.all_cons, List.all_nil, L, lit, esc, num, Bool.and_self,
    List.all_eq_true, implies_true]

/-- the annotation written into a per-file page (the place of F13): message, location info and verbose text only
    ever appear `html_escape`d inside fixed markup -/
theorem annot_injection_free (p : PageErr) (ts : Str) (b : Bool) (x : List Piece) (h : annotPieces p = some (b, x)) :
    x.all (Piece.ok ts) = true := by
  obtain ⟨esc, _, _⟩ := dynamic_ok ts
  have lit := lit_ok ts
  simp only [templateLits, List.map_cons, List.map_nil, List.forall_mem_cons] at lit
  unfold annotPieces at h
  simp only at h
  split at h
  · cases h
  · next c hc =>
    have hcl : c = "error2" ∨ c = "inconclusive2" := by
      split at hc
      · split at hc <;> cases hc; exact Or.inr rfl
      · cases hc; exact Or.inl rfl
    -- expandable or not, either class: four lists of template literals and escaped strings
    split at h <;> cases h <;> rcases hcl with rfl | rfl <;>
      simp only [List.all_cons, List.all_nil, L, lit, esc, Bool.and_self]

/-! non-vacuity / concrete instances -/
example : htmlEscape "a<b>&\"c'".toList = "a&lt;b&gt;&amp;&quot;c&apos;".toList := by decide +kernel
example : unescape "x &amp;lt; y".toList = "x &lt; y".toList := by decide +kernel
-- a finding with two locations in a.c: two menu entries
example : (pageLocs ⟨"a.c".toList, 0, [⟨"idA".toList, "style".toList, "m".toList, none, none, none, [], [],
    [⟨"a.c".toList, 3, none⟩, ⟨"a.c".toList, 9, none⟩]⟩]⟩).length = 2 := by decide +kernel
example : isFileGroup ⟨"a.c".toList, 0, []⟩ false = true := by decide
example : sev0 ⟨"i".toList, "style".toList, "m".toList, none, some "true".toList, none, [], [], []⟩ = "style, inconcl.".toList := by decide +kernel

end Cppcheck.Html

