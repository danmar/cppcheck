import Cppcheck.Proofs.Shell
import Cppcheck.Proofs.GccArgs
/-
C32 — property theorems: the compilation-database import recovers the options the compile command
specifies.

* `Shell.split_quote_partial`    command-string form: splitting what a build system quoted (piecewise, five styles) gives the vector back
* `Shell.split_quote`            the same for whole-argument quoting
* `GccArgs.parseArgs_eq_spec_partial`   argument-vector form: `parseArgs` = GCC's reading, on `clean` vectors
* `GccArgs.parseArgs_eq_spec_counterexample`   the unrestricted statement is false of the code (F12)
* `GccArgs.defines_normal_form_partial`  `fsSetDefines` on the string `parseArgs` builds
* `GccArgs.import_eq_spec_partial`      the whole import (`Import.importEntries`, the function the driver runs) = what the database specifies
* `GccArgs.fix_0f74657_conservative`    the out-of-bounds repair changed no defined behaviour
-/
namespace Cppcheck.Shell
open Cppcheck.Wire

/-- **C32, command-string half, piecewise quoting (partial).**  Every argument is written as a sequence of
    pieces, each in its own style — bare (no blank, quote character, backslash), `"…"` with `\\ \"`, `'…'` with
    `'\''`, shlex `'"'"'`, or backslash-escaped characters outside quotes (`\\ \" \' \␣`) — so a quote may open in
    the middle of an argument (`-DMSG="a b"`, `-DV=\"1.0\"`, `a\ b`).  Splitting the command string returns
    exactly the arguments, for every vector of non-empty arguments.  What is excluded is what the code gets
    wrong: backslash escapes of other characters (`dollar_escape_kept`) and empty arguments. -/
theorem split_quote_partial (l : List (Nat × List (Style × Str))) (h : ∀ x ∈ l, segsOk x = true) :
    collectArgs (quoteCmd l) = .ok (l.map fun x => segText x.2) := by
  cases l with
  | nil => simp [collectArgs, quoteCmd, go, flush]
  | cons x r =>
    obtain ⟨pad, segs⟩ := x
    have hx := h (pad, segs) (by simp)
    simp only [segsOk, Bool.and_eq_true, Bool.not_eq_true', List.isEmpty_eq_false_iff, List.all_eq_true] at hx
    have hr : ∀ x ∈ r, segsOk x = true := fun x hx' => h x (by simp [hx'])
    simp only [collectArgs, quoteCmd]
    rw [go_quoteSegs segs hx.2, go_cmdTail r hr ([] ++ segText segs) (by simpa using hx.1)]
    simp

/-- **C32, command-string half.**  Splitting the command string written from ANY argument vector — each
    argument non-empty, in any of the five quoting styles (bare only when it contains no blank, quote
    character or backslash), separated by one or more blanks — returns exactly that vector. -/
theorem split_quote (l : List (Style × Nat × Str)) (h : ∀ x ∈ l, argOk x = true) :
    collectArgs (quote l) = .ok (l.map (·.2.2)) := by
  rw [quote_eq_quoteCmd, split_quote_partial _ fun x hx => by
    obtain ⟨y, hy, rfl⟩ := List.mem_map.1 hx
    rw [segsOk_onePiece]; exact h y hy]
  simp [onePiece, segText]

/-- CMake's Unix style: `cc -DV=\"1.0\" -DMSG="a b" a\ b.c` -/
example :
    let l : List (Nat × List (Style × Str)) :=
      [(0, [(.bare, "cc".toList)]),
       (0, [(.bare, "-DV=".toList), (.esc, "\"".toList), (.bare, "1.0".toList), (.esc, "\"".toList)]),
       (0, [(.bare, "-DMSG=".toList), (.dq, "a b".toList)]),
       (1, [(.bare, "a".toList), (.esc, " ".toList), (.bare, "b.c".toList)])]
    l.all segsOk = true ∧ quoteCmd l = "cc -DV=\\\"1.0\\\" -DMSG=\"a b\"  a\\ b.c".toList ∧
    collectArgs (quoteCmd l) = .ok ["cc".toList, "-DV=\"1.0\"".toList, "-DMSG=a b".toList, "a b.c".toList] := by
  decide +kernel

/-- the hypothesis is satisfiable by arguments that need every kind of quoting -/
example : ([(.bare, 0, "cc".toList), (.dq, 2, "-DMSG=\"a b\\\"".toList), (.sq, 0, "it's".toList),
            (.shlex, 1, "-I/x y/'q'".toList)] : List (Style × Nat × Str)).all argOk = true := by decide +kernel

example : collectArgs (quote [(.bare, 0, "cc".toList), (.dq, 2, "-DMSG=\"a b\\\"".toList), (.sq, 0, "it's".toList)])
    = .ok ["cc".toList, "-DMSG=\"a b\\\"".toList, "it's".toList] := by decide +kernel

/-- why an empty argument is excluded: `""` vanishes -/
theorem empty_arg_dropped : collectArgs (quote [(.bare, 0, "cc".toList), (.dq, 0, [])]) = .ok ["cc".toList] := by
  decide +kernel

/-- a quoting style that is NOT covered: POSIX double quotes also escape `$` and the back quote, and the
    shell removes that backslash; `collectArgs` keeps it -/
theorem dollar_escape_kept : collectArgs "\"a\\$b\"".toList = .ok ["a\\$b".toList] := by decide +kernel

end Cppcheck.Shell

namespace Cppcheck.GccArgs
open Cppcheck.Wire Spec

/-- **C32, `fsSetDefines`.**  For every list of representable definitions (`defOk`: non-empty, no `;`, not
    starting with `=`, `(` or `%(`) the string `parseArgs` accumulates is normalised to the `;`-separated
    list in which every value-less definition got `=1`. -/
theorem defines_normal_form_partial (ds : List Str) (h : ∀ d ∈ ds, defOk d = true) :
    fsSetDefines (joinDefs ds) = normal ds :=
  fsSetDefines_joinDefs ds h

example : (["A", "B=2", "F(x)=x+1", "S=\"a b\""].map String.toList).all defOk = true := by decide +kernel

/-- why `;` is excluded: cppcheck's `defines` string cannot represent it, `-D'X=a;b'` becomes two definitions -/
theorem semicolon_define_counterexample :
    fsSetDefines (joinDefs ["X=a;b".toList]) = "X=a;b=1".toList ∧ normal ["X=a;b".toList] = "X=a;b".toList := by
  decide +kernel

/-- Test vectors read by the specification, evaluated together: `Spec.gcc` and `clean` look every plain argument
    up in the table `sepOpts`, and unfolding its string literals is most of the work of each evaluation.
    In order: `sepOpts`, the F12 vector, the `-DX -I` vector, the `-isystem` import, the realistic command line, the
    rendered option list (the last two are the `example`s below, which take them from here). -/
theorem spec_vectors :
    sepOpts.all otherOk = true ∧
    gcc (["cc", "-c", "a.c", "-o", "/Downloads/a.o", "-DREAL=1"].map String.toList) {} = { defines := ["REAL=1".toList] } ∧
    clean (["cc", "-c", "a.c", "-DX", "-I"].map String.toList) = true ∧
    (Import.specImport [⟨"/w".toList, some "a.c".toList, .arguments (["cc", "-isystem", "sys", "-c", "a.c"].map String.toList)⟩] []).map
        (fun f => f.fs.systemIncludePaths) = [["/w/sys".toList]] ∧
    (let args := ["/usr/bin/c++", "-DNDEBUG", "-D", "MSG=\"a b\"", "-I", "/home/u/include", "-Iinc", "-isystem",
                 "/opt/x/include", "-UFOO", "-std=c++17", "-fPIC", "-O2", "-MF", "/tmp/b/a.d", "-o", "/tmp/b/a.o",
                 "-c", "/home/u/src/a.cpp"].map String.toList
     clean args = true ∧ (gcc args {}).defines.all defOk = true ∧
     (gcc args {}).toFS = { includePaths := ["/home/u/include".toList, "inc".toList],
                            systemIncludePaths := ["/opt/x/include".toList],
                            defs := "NDEBUG=1;MSG=\"a b\";__PIC__=1".toList,
                            undefs := ["FOO".toList], standard := "c++17".toList }) ∧
    (let l : List Opt := [.other "cc".toList, .define "A".toList true, .define "B=2".toList false,
       .inc "/home/u/inc".toList false, .sysinc "sys".toList true, .undef "C".toList true, .std "c11".toList,
       .flag "-fpie".toList, .sepOther "-o".toList "/tmp/a.o".toList, .other "-c".toList, .other "/home/u/a.c".toList]
     l.all Opt.wf = true ∧ clean (render l) = true ∧ (meaning l {}).defines.all defOk = true) := by
  decide +kernel

/-- **C32, argument-vector half (partial).**  For EVERY argument vector that is `clean` — separate
    `-I -isystem -D -U` have a non-empty value, no bare `-f`/`-m`, no bare `-std=` before another argument, and
    no input file, other option or value of a `-o`-like option starts with a prefix `parseArgs` would (mis)read,
    i.e. `/I /D /U /std:` for paths — and whose `-D` values are representable, `parseArgs` yields exactly the
    include paths, system include paths, definitions, undefinitions and standard that GCC's reading of the
    vector specifies. -/
theorem parseArgs_eq_spec_partial (args : List Str) (h : clean args = true)
    (hd : ∀ d ∈ (gcc args {}).defines, defOk d = true) :
    parseArgs args = (gcc args {}).toFS :=
  parseArgs_eq_gcc args h hd

/-- the hypotheses are satisfiable by a realistic command line using every option form -/
example :
    let args := ["/usr/bin/c++", "-DNDEBUG", "-D", "MSG=\"a b\"", "-I", "/home/u/include", "-Iinc", "-isystem",
                 "/opt/x/include", "-UFOO", "-std=c++17", "-fPIC", "-O2", "-MF", "/tmp/b/a.d", "-o", "/tmp/b/a.o",
                 "-c", "/home/u/src/a.cpp"].map String.toList
    clean args = true ∧ (gcc args {}).defines.all defOk = true ∧
    (gcc args {}).toFS = { includePaths := ["/home/u/include".toList, "inc".toList],
                           systemIncludePaths := ["/opt/x/include".toList],
                           defs := "NDEBUG=1;MSG=\"a b\";__PIC__=1".toList,
                           undefs := ["FOO".toList], standard := "c++17".toList } := by
  obtain ⟨_, _, _, _, hcmd, _⟩ := spec_vectors
  exact hcmd

/-- **the specification is the inverse of writing a command line**: for every list of options (any length)
    whose values are non-empty and whose "other" arguments are not spelled like an interpreted option,
    GCC's reading of the rendered vector is the meaning of the list -/
theorem spec_of_render (l : List Opt) (h : ∀ x ∈ l, x.wf = true) : gcc (render l) {} = meaning l {} :=
  gcc_render l h {}

/-- **C32 in generator form**: the options `parseArgs` recovers from a rendered command line are the options
    that were put into it -/
theorem parseArgs_render_partial (l : List Opt) (hwf : ∀ x ∈ l, x.wf = true) (hc : clean (render l) = true)
    (hd : ∀ d ∈ (meaning l {}).defines, defOk d = true) :
    parseArgs (render l) = (meaning l {}).toFS := by
  have := parseArgs_eq_spec_partial (render l) hc (by rw [spec_of_render l hwf]; exact hd)
  rw [spec_of_render l hwf] at this
  exact this

example :
    let l : List Opt := [.other "cc".toList, .define "A".toList true, .define "B=2".toList false,
      .inc "/home/u/inc".toList false, .sysinc "sys".toList true, .undef "C".toList true, .std "c11".toList,
      .flag "-fpie".toList, .sepOther "-o".toList "/tmp/a.o".toList, .other "-c".toList, .other "/home/u/a.c".toList]
    l.all Opt.wf = true ∧ clean (render l) = true ∧ (meaning l {}).defines.all defOk = true := by
  obtain ⟨_, _, _, _, _, hrender⟩ := spec_vectors
  exact hrender

/-- every option name in `sepOpts` is itself harmless to `parseArgs` -/
theorem sepOpts_otherOk : sepOpts.all otherOk = true := spec_vectors.1

/-- **F12.**  The unrestricted statement is false of the code: `-o /Downloads/a.o` — an output path — is
    read as `/D` + `ownloads/a.o`. -/
theorem slash_prefix_counterexample :
    parseArgs (["cc", "-c", "a.c", "-o", "/Downloads/a.o", "-DREAL=1"].map String.toList)
      = { defs := "ownloads/a.o=1;REAL=1".toList }
    ∧ (gcc (["cc", "-c", "a.c", "-o", "/Downloads/a.o", "-DREAL=1"].map String.toList) {}).toFS
      = { defs := "REAL=1".toList } := by
  rw [spec_vectors.2.1]
  decide +kernel

theorem parseArgs_eq_spec_counterexample :
    ¬ ∀ args : List Str, (∀ d ∈ (gcc args {}).defines, defOk d = true) → parseArgs args = (gcc args {}).toFS := by
  intro h
  have h1 := h (["cc", "-c", "a.c", "-o", "/Downloads/a.o", "-DREAL=1"].map String.toList)
    (by rw [spec_vectors.2.1]; decide +kernel)
  rw [slash_prefix_counterexample.1, slash_prefix_counterexample.2] at h1
  exact absurd h1 (by decide +kernel)

/-- the same class hits every macOS database: a source under `/Users` becomes the undef `sers/…` -/
theorem slash_prefix_users_example :
    parseArgs (["clang", "-c", "/Users/me/a.c"].map String.toList) = { undefs := ["sers/me/a.c".toList] } := by
  decide +kernel

/-- a vector ending in a bare option name: the trailing name is ignored (commit 0f74657), as in the specification -/
theorem trailing_bare_option_ignored :
    parseArgs (["cc", "-c", "a.c", "-DX", "-I"].map String.toList) = { defs := "X=1".toList } ∧
    clean (["cc", "-c", "a.c", "-DX", "-I"].map String.toList) = true :=
  ⟨by decide +kernel, spec_vectors.2.2.1⟩

/-- before commit 0f74657 the same vector made `getOptArg` bind `args[args.size()]` -/
theorem trailing_bare_option_oob_before_0f74657 :
    Before0f74657.loop (["cc", "-c", "a.c", "-DX", "-I"].map String.toList) {} = none := by
  decide +kernel

/-- the repair is conservative: wherever the old loop had defined behaviour the new one gives the same result -/
theorem fix_0f74657_conservative (args : List Str) (fs r : FS) (h : Before0f74657.loop args fs = some r) :
    loop args fs = r := by
  fun_induction Before0f74657.loop args fs
  case case1 => simpa [loop] using h
  case case2 => simp at h
  case case3 hx ih => rw [loop_next_false (before_runChecks hx)]; exact ih h
  case case4 hx => simpa [loop, before_runChecks hx] using h
  case case5 hx ih => rw [loop_next_true (before_runChecks hx)]; exact ih h

open Cppcheck.Shell Import

/-- a "command" string written piecewise from a vector is read back as that vector by the import -/
theorem entryArgs_command_quote (l : List (Nat × List (Style × Str))) (h : ∀ x ∈ l, segsOk x = true) :
    entryArgs (.command (quoteCmd l)) = some (l.map fun x => segText x.2) := by
  simp only [entryArgs, split_quote_partial l h]

/-- **C32, whole import (partial).**  `Import.importEntries` is the model of `importCompileCommands` that the
    driver executes against the real function.  For EVERY database whose entries are `goodEntry` — an accepted
    source file, "arguments" array or "command" string that `collectArgs` splits, `clean` vector, representable
    `-D` values, plain `-I` values, absolute `-isystem` values — the import succeeds without error and yields, per entry and in order, the
    path of the file, its per-path index, and exactly the settings the entry specifies: `Spec.gcc`'s
    definitions, undefinitions, standard and system include paths, and the `-I` values de-duplicated (first
    wins) and resolved against `directory` (`Import.incSpec`). -/
theorem import_eq_spec_partial (es : List Entry) (h : ∀ e ∈ es, goodEntry e = true) :
    importEntries es 0 [] = ⟨true, 0, specImport es []⟩ :=
  importEntries_eq_spec es h 0 []

/-- an instance with both forms and a repeated file: `-Iinc` in `/w` is `/w/inc/` -/
example :
    let es : List Entry :=
      [⟨"/w".toList, some "a.c".toList, .command (quoteCmd [(0, [(.bare, "cc".toList)]), (0, [(.bare, "-Iinc".toList)]),
          (0, [(.bare, "-DMSG=".toList), (.dq, "a b".toList)]), (0, [(.bare, "-c".toList)]), (0, [(.bare, "a.c".toList)])])⟩,
       ⟨"/w/".toList, some "/w/a.c".toList, .arguments (["cc", "-I", "/opt/i", "-I../x/inc", "-Iinc", "-UY", "-std=c99", "-c", "a.c"].map String.toList)⟩]
    es.all goodEntry = true ∧
    specImport es [] =
      [⟨"/w/a.c".toList, 0, { includePaths := ["/w/inc/".toList], defs := "MSG=a b".toList }⟩,
       ⟨"/w/a.c".toList, 1, { includePaths := ["/opt/i/".toList, "/x/inc/".toList, "/w/inc/".toList],
                              undefs := ["Y".toList], standard := "c99".toList }⟩] := by
  decide +kernel

/-- why `-isystem` values must be absolute: the import keeps them verbatim, the compiler resolves a relative one
    against `directory` (finding `isystem-relative-not-resolved`) -/
theorem isystem_relative_counterexample :
    (importEntries [⟨"/w".toList, some "a.c".toList, .arguments (["cc", "-isystem", "sys", "-c", "a.c"].map String.toList)⟩] 0 []).files.map
        (fun f => f.fs.systemIncludePaths) = [["sys".toList]] ∧
    (specImport [⟨"/w".toList, some "a.c".toList, .arguments (["cc", "-isystem", "sys", "-c", "a.c"].map String.toList)⟩] []).map
        (fun f => f.fs.systemIncludePaths) = [["/w/sys".toList]] :=
  ⟨by decide +kernel, by obtain ⟨_, _, _, hisystem, _⟩ := spec_vectors; exact hisystem⟩

/-- F12 at import level: the statement without `goodEntry` (here: `clean`) is false of the code -/
theorem import_eq_spec_counterexample :
    ¬ ∀ es : List Entry, importEntries es 0 [] = ⟨true, 0, specImport es []⟩ := by
  intro h
  have h1 := congrArg (fun r => r.files.map fun f => f.fs.defs)
    (h [⟨"/w".toList, some "a.c".toList,
      .arguments (["cc", "-c", "a.c", "-o", "/Downloads/a.o", "-DREAL=1"].map String.toList)⟩])
  -- the two sides differ in `defs`, which are those of `slash_prefix_counterexample`
  rw [importEntries_step _ _ _ _ _ _ rfl rfl (by decide +kernel)] at h1
  simp only [importEntries, specImport, entryArgs, specSettings, slash_prefix_counterexample.1,
    slash_prefix_counterexample.2] at h1
  exact absurd h1 (by decide +kernel)

end Cppcheck.GccArgs
