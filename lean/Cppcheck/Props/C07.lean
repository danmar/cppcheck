import Cppcheck.Proofs.AstUnary
import Cppcheck.Gen.AstLadder
/-
C07 — expression trees follow the C/C++ operator grammar: property theorems.

Objects (Model/AstLadder.lean, Model/AstUnary.lean):
  `Ladder`            a precedence table as cppcheck's compile* ladder encodes it; `Gen.AstLadder.astLadder` is the table
                      extracted from the current lib/tokenlist.cpp
  `PExpr`             parse trees of the expression grammar, parentheses explicit; `print`, `toAst` (the tree cppcheck
                      should store), `strip` (forget parentheses), `minParen` (fewest parentheses)
  `Gram L false ls e` e is derivable from the non-terminal of level list `ls` (ISO grammar shape: left-associative
                      levels, the right-associative assignment / conditional level, middle operand of ?: a full expression,
                      prefix operators - ! ~ * & on cast-expressions, parentheses, variables, literals)
  `astOf L cpp ts`    model of prepareTernaryOpForAST (twice) + createAst (compileExpression) on a token list

All theorems are for every tree of any size and nesting; `need e ≤ L.maxDepth` is the AST_MAX_DEPTH guard (deeper
inputs are rejected by cppcheck, so the property says nothing about them).  `declFine L e` = `L.declVarGuard || e.declOK`:
true for every tree once skipDecl has the early return for variables (`declFine_extracted`), the `declOK` restriction
otherwise (`createAst_follows_grammar_prefix_partial` / `_prefix_counterexample`: the code before fix 1fbcd63).
-/
namespace Cppcheck.AstLadder
open PExpr

/-- the table extracted from the working tree is the ISO C++20 [expr] table (which contains C17 6.5.5–6.5.17):
same levels in the same order, same operators per level, same associativity -/
theorem extracted_table_is_C : tableEq Gen.AstLadder.astLadder.toTable isoTable = true := by decide +kernel

/-- the extracted functions really form a ladder (each level's callee is the next level) and the table is well-formed -/
theorem extracted_ladder_wf : Gen.AstLadder.astLadder.chain = true ∧ Gen.AstLadder.astLadder.WF = true := by decide +kernel

/-- skipDecl of the working tree returns at once when the name behind `(` is a variable (commit 1fbcd63, extracted by
the translator from the body of skipDecl on every run) -/
theorem extracted_skipDecl_guard : Gen.AstLadder.astLadder.declVarGuard = true := by decide

/-- MAIN THEOREM.  For every well-formed table whose skipDecl has the early return for variables, every parse tree `e` of
the expression grammar over it (any parenthesisation the grammar admits, any size): `print e` followed by `)`, `]`, `;`
or nothing is turned by prepareTernaryOpForAST + createAst into exactly one tree, `toAst e`, each operator with the
operands the grammar gives it.  The only hypothesis besides "e is a tree of the grammar" is the depth guard
(AST_MAX_DEPTH: deeper input is rejected by cppcheck). -/
theorem createAst_follows_grammar {L : Ladder} (hL : L.WF = true) (hcode : L.declVarGuard = true) (cpp : Bool) (e : PExpr)
    (hg : Gram L false L.levels e = true) (hn : e.need ≤ L.maxDepth)
    (rest : List Tok) (hr : endOK rest = true) (ha : rest.all Tok.inAlphabet = true) (hq : ∀ t ∈ rest, t ≠ Tok.op ['?']) :
    astOf L cpp (e.print ++ rest) = .ok ⟨(prepE e).print.reverse, rest, [⟨(prepE e).rootOff, e.toAst⟩], 0⟩ :=
  astOf_print hL cpp e hg (by simp [declFine, hcode]) hn rest hr ha hq

/-- the main theorem for the table of the working tree (all side conditions on the table decided) -/
theorem createAst_follows_grammar_extracted (cpp : Bool) (e : PExpr)
    (hg : Gram Gen.AstLadder.astLadder false Gen.AstLadder.astLadder.levels e = true)
    (hn : e.need ≤ Gen.AstLadder.astLadder.maxDepth) :
    astOf Gen.AstLadder.astLadder cpp (e.print ++ [Tok.op [';']]) =
      .ok ⟨(prepE e).print.reverse, [Tok.op [';']], [⟨(prepE e).rootOff, e.toAst⟩], 0⟩ :=
  createAst_follows_grammar extracted_ladder_wf.2 extracted_skipDecl_guard cpp e hg hn _ rfl rfl (by simp)

/-- the code BEFORE fix 1fbcd63 (`Ladder.preFix`: skipDecl without the early return): the statement only holds with the
extra hypothesis `declOK` (no `(` is followed by something skipDecl takes for a declaration: `( a * b =`, `( a * b (`) -/
theorem createAst_follows_grammar_prefix_partial {L : Ladder} (hL : L.WF = true) (cpp : Bool) (e : PExpr)
    (hg : Gram L false L.levels e = true) (hd : (prepE e).declOK = true) (hn : e.need ≤ L.maxDepth)
    (rest : List Tok) (hr : endOK rest = true) (ha : rest.all Tok.inAlphabet = true) (hq : ∀ t ∈ rest, t ≠ Tok.op ['?']) :
    astOf L cpp (e.print ++ rest) = .ok ⟨(prepE e).print.reverse, rest, [⟨(prepE e).rootOff, e.toAst⟩], 0⟩ :=
  astOf_print hL cpp e hg (by simp [declFine, hd]) hn rest hr ha hq

/-- … and `declOK` could not be dropped there: with the pre-fix skipDecl, `( a * b = c ) ;` (a tree of the grammar, in
C++ `(a * b) = c`) lost `a *` and came out as `=`(b, c) (finding F7a, fixed by 1fbcd63; the real-code witnesses stay in
corpus/C07 and now pass) -/
theorem createAst_follows_grammar_prefix_counterexample :
    ¬ ∀ (e : PExpr), Gram Gen.AstLadder.astLadder.preFix false Gen.AstLadder.astLadder.preFix.levels e = true →
        e.need ≤ Gen.AstLadder.astLadder.preFix.maxDepth →
        astOf Gen.AstLadder.astLadder.preFix true (e.print ++ [Tok.op [';']]) =
          .ok ⟨(prepE e).print.reverse, [Tok.op [';']], [⟨(prepE e).rootOff, e.toAst⟩], 0⟩ := by
  intro h
  have h1 := h declWitness (by decide +kernel) (by decide)
  -- well-formedness does not look at `declVarGuard`
  rw [declWitness_parse (L := Gen.AstLadder.astLadder.preFix) extracted_ladder_wf.2 true (by decide +kernel) (by decide) rfl] at h1
  have h2 := congrArg (fun r => match r with | .ok st => st.stk.map Entry.ast | .error _ => []) h1
  revert h2
  decide

/-- the fixed code handles that witness: the hypotheses of the main theorem hold for it although `declOK` fails -/
example : Gram Gen.AstLadder.astLadder false Gen.AstLadder.astLadder.levels declWitness = true ∧
    (prepE declWitness).declOK = false ∧ declWitness.need ≤ Gen.AstLadder.astLadder.maxDepth := by decide +kernel

/-- for the table of the working tree the skipDecl side condition `declFine` of the corollaries below is always met -/
theorem declFine_extracted (e : PExpr) : declFine Gen.AstLadder.astLadder e = true := by
  simp [declFine, extracted_skipDecl_guard]

/-- round trip: printing a parenthesis-free tree with the fewest parentheses and parsing it back gives the tree -/
theorem ladder_roundtrip {L : Ladder} (hL : L.WF = true) (cpp : Bool) (e : PExpr) (he : over L e = true)
    (hd : declFine L (prepE (minParen L L.levels e)) = true) (hn : e.need ≤ L.maxDepth) :
    ∃ st, astOf L cpp ((minParen L L.levels e).print ++ [Tok.op [';']]) = .ok st ∧
      st.inp = [Tok.op [';']] ∧ st.stk.map Entry.ast = [e.toAst] := by
  have hg := gram_minParen hL e he L.levels List.suffix_rfl
  have hn' : (minParen L L.levels e).need ≤ L.maxDepth := by
    rw [← need_strip, strip_minParen L e he]; exact hn
  refine ⟨_, astOf_print hL cpp _ hg hd hn' _ rfl rfl (by simp), rfl, ?_⟩
  simp only [List.map_cons, List.map_nil]
  rw [← toAst_strip, strip_minParen L e he]

/-- redundant parentheses never change the tree: two grammatical strings that differ only in parentheses give the
same tree, namely that of the parenthesis-free tree -/
theorem ladder_respects_parens {L : Ladder} (hL : L.WF = true) (cpp : Bool) (e : PExpr)
    (hg : Gram L false L.levels e = true) (hd : declFine L (prepE e) = true) (hn : e.need ≤ L.maxDepth) :
    ∃ st, astOf L cpp (e.print ++ [Tok.op [';']]) = .ok st ∧ st.stk.map Entry.ast = [(strip e).toAst] := by
  refine ⟨_, astOf_print hL cpp e hg hd hn _ rfl rfl (by simp), ?_⟩
  simp [toAst_strip]

/-- "the expression in the middle of the conditional operator is parsed as if parenthesised": with or without
parentheses around the middle operand (whatever it contains: commas, assignments, other conditionals) the tree is
`?`(c, `:`(t, e)) -/
theorem ternary_middle_as_parenthesised {L : Ladder} (hL : L.WF = true) (cpp : Bool) (c t e : PExpr)
    (hg : Gram L false L.levels (tern c t e) = true)
    (hd1 : declFine L (prepE (tern c t e)) = true) (hd2 : declFine L (prepE (tern c (paren t) e)) = true)
    (hn : (tern c t e).need ≤ L.maxDepth) :
    ∃ st1 st2, astOf L cpp ((tern c t e).print ++ [Tok.op [';']]) = .ok st1 ∧
      astOf L cpp ((tern c (paren t) e).print ++ [Tok.op [';']]) = .ok st2 ∧
      st1.stk.map Entry.ast = [.node ['?'] c.toAst (.node [':'] t.toAst e.toAst)] ∧
      st2.stk.map Entry.ast = st1.stk.map Entry.ast := by
  have hg2 : Gram L false L.levels (tern c (paren t) e) = true := by
    simp only [Gram] at hg ⊢; exact hg
  refine ⟨_, _, astOf_print hL cpp _ hg hd1 hn _ rfl rfl (by simp),
    astOf_print hL cpp _ hg2 hd2 (by simpa [need] using hn) _ rfl rfl (by simp), ?_, ?_⟩ <;> simp [toAst]

/-- assignment is right-associative in the table of the working tree: `a o1 b o2 c` is `a o1 (b o2 c)` for all
assignment operators -/
theorem assign_right_assoc (cpp : Bool) (a b c o1 o2 : Wire.Str) (h1 : o1 ∈ assignOps) (h2 : o2 ∈ assignOps) :
    ∃ st, astOf Gen.AstLadder.astLadder cpp [Tok.var a, Tok.op o1, Tok.var b, Tok.op o2, Tok.var c, Tok.op [';']] = .ok st ∧
      st.stk.map Entry.ast = [.node o1 (.leaf a) (.node o2 (.leaf b) (.leaf c))] := by
  obtain ⟨lv, below, hf, hops⟩ : ∃ lv below, findTern Gen.AstLadder.astLadder.levels = some (lv, below) ∧
      ∀ o ∈ assignOps, lookupOp o lv.ops = some Guard.always := ⟨_, _, rfl, by decide⟩
  have hg := gram_assign_chain extracted_ladder_wf.2 false hf (hops o1 h1) rfl (hops o2 h2) rfl a b c
  refine ⟨_, astOf_print extracted_ladder_wf.2 cpp _ hg rfl (by simp [need, Gen.AstLadder.astLadder]) _ rfl rfl (by simp), ?_⟩
  simp [toAst, Ast.leaf]

/-- the hypotheses of the theorems are satisfiable by non-trivial trees: `a = b + c * (d, e) ? f : g` -/
example : let e := bin ['='] (var ['a']) (tern (bin ['+'] (var ['b']) (bin ['*'] (var ['c']) (paren (bin [','] (var ['d']) (var ['e'])))))
                    (var ['f']) (var ['g']))
    Gram Gen.AstLadder.astLadder false Gen.AstLadder.astLadder.levels e = true ∧ (prepE e).declOK = true ∧
      e.need ≤ Gen.AstLadder.astLadder.maxDepth := by decide +kernel

/-- … and with prefix operators: `- a * ! ( b , c ) ? * p & ~ d : - - e` -/
example : let e := tern (bin ['*'] (pre ['-'] (var ['a'])) (pre ['!'] (paren (bin [','] (var ['b']) (var ['c'])))))
                    (bin ['&'] (pre ['*'] (var ['p'])) (pre ['~'] (var ['d']))) (pre ['-'] (pre ['-'] (var ['e'])))
    Gram Gen.AstLadder.astLadder false Gen.AstLadder.astLadder.levels e = true ∧ (prepE e).declOK = true ∧
      e.need ≤ Gen.AstLadder.astLadder.maxDepth := by decide +kernel

example : over Gen.AstLadder.astLadder (bin ['*'] (bin ['+'] (var ['a']) (var ['b'])) (tern (var ['c']) (bin [','] (var ['d']) (var ['e'])) (var ['f']))) = true := by
  decide +kernel

end Cppcheck.AstLadder
