import Cppcheck.Proofs.LibValid
/-
C30 — library configuration semantics are applied as declared.

`v : ValidExpr` ranges over the documented grammar `range ::= n | n:m | n: | :m`, non-empty lists by `,`, with
arbitrary integer bounds; `v.render` is its text; `v.mem x` is the union of the intervals.  `isCompliant`,
`tokenize`, `isIntArgValid`, `isFloatArgValid` are the copies of the code (Model/LibValid.lean).
-/
namespace Cppcheck.LibValid
open Cppcheck.Wire

/-! ## 1. loading -/

/-- every expression of the documented grammar passes the load-time check of `<arg><valid>` -/
theorem render_compliant (v : ValidExpr) : isCompliant v.render = true :=
  isCompliant_renderRanges v.ranges (by simp [ValidExpr.ranges])

/-- a text with a character outside `0-9 : , + - . e E !` (e.g. any white space) is rejected at load time;
the empty text is rejected as well -/
theorem load_rejects_foreign (s : Str) (c : Char) (hc : c ∈ s) (hf : inAlphabet c = false) (x : Int) :
    isCompliant s = false ∧ loadAndCheckInt s x = .rejected := by
  have h : isCompliant s = false := by
    cases h : isCompliant s
    · rfl
    · have := (isCompliant_alphabet s h).2 c hc
      rw [this] at hf
      cases hf
  exact ⟨h, by simp [loadAndCheckInt, h]⟩

theorem load_rejects_empty (x : Int) : loadAndCheckInt [] x = .rejected := rfl

example : inAlphabet ' ' = false ∧ inAlphabet '\t' = false ∧ inAlphabet 'x' = false ∧ inAlphabet '_' = false := by decide

/-! ## 2. tokenisation and parsing -/

/-- the token list the acceptance loops see for a rendered expression (any length, any bounds) -/
theorem tokenize_render (v : ValidExpr) : tokenize v.render = rangesToks v.ranges :=
  tokenize_renderRanges v.ranges (by simp [ValidExpr.ranges])

/-- parsing the tokens of a rendered expression gives the expression back -/
theorem render_parse (v : ValidExpr) : parseValid v.render = some v :=
  (parseValid_eq_some_iff _ v).mpr (tokenize_render v)

/-! ## 3. Library::isIntArgValid -/

/-- Exact behaviour of the code on every expression whose bounds std::stoull accepts (|bound| < 2^64), for
every integer `x`: `x` is accepted iff it lies in the union of the intervals of the expression whose bounds are
reduced modulo 2^64 into int64 (`wrap64`); no InternalError is thrown. -/
theorem intValid_exact_wrap (v : ValidExpr) (hb : v.bounded65 = true) (x : Int) :
    isIntArgValid v.render x = .ok ((v.ranges.map (Range.mapB wrap64)).any (Range.memB x)) :=
  isIntArgValid_renderRanges_val v.ranges (by simp [ValidExpr.ranges]) wrap64 (by
    intro r hr n hn
    have h1 := List.all_eq_true.mp hb r hr
    exact toBigNumber_renderInt_wrap n (List.all_eq_true.mp h1 n hn)) x

/-- With all bounds in int64: the verdict is the decision of membership in the union of the intervals. -/
theorem intValid_exact (v : ValidExpr) (hb : v.bounded = true) (x : Int) :
    isIntArgValid v.render x = .ok (v.ranges.any (Range.memB x)) :=
  isIntArgValid_renderRanges v.ranges (by simp [ValidExpr.ranges]) hb x

theorem Range.memB_iff (x : Int) (r : Range) : r.memB x = true ↔ r.mem x := by
  cases r <;> simp [Range.memB, Range.mem]

theorem ValidExpr.any_memB (v : ValidExpr) (x : Int) : v.ranges.any (Range.memB x) = decide (v.mem x) := by
  rw [Bool.eq_iff_iff, decide_eq_true_iff]
  simp only [List.any_eq_true, Range.memB_iff, ValidExpr.mem]

/-- the verdict is the decision of membership in the union of the intervals -/
theorem intValid_eq_partial (v : ValidExpr) (hb : v.bounded = true) (x : Int) :
    isIntArgValid v.render x = .ok (decide (v.mem x)) := by
  rw [intValid_exact v hb x, v.any_memB]

/-- The property for `<valid>`: for every expression of the grammar (any length; single values, closed ranges —
also with swapped bounds, i.e. empty —, open ranges, negative bounds) whose bounds fit int64, and every integer
`x` (in particular every 64-bit value): the code accepts `x` exactly when `x` lies in the union of the intervals,
and never throws. -/
theorem intValid_iff_partial (v : ValidExpr) (hb : v.bounded = true) (x : Int) :
    (isIntArgValid v.render x = .ok true ↔ v.mem x) ∧ isIntArgValid v.render x ≠ .err := by
  rw [intValid_eq_partial v hb x]
  simp

/-- what the loader and the check do together with a rendered expression: never rejected, verdict as above -/
theorem loadAndCheck_render_partial (v : ValidExpr) (hb : v.bounded = true) (x : Int) :
    loadAndCheckInt v.render x = .verdict (.ok (decide (v.mem x))) := by
  unfold loadAndCheckInt
  rw [render_compliant, intValid_eq_partial v hb x]
  rfl

/-- checker layer, **value message only** (`Token::getInvalidValue` → "The value is x but the valid values are …"):
with a Known constant argument `x` that message is reported exactly when `x` lies outside the declared ranges.
The same finding id is also produced by the boolean block of invalidFunctionUsage; see section 3b for the id. -/
theorem invalidValueMsg_reported_iff_partial (v : ValidExpr) (hb : v.bounded = true) (x : Int) :
    reportsInvalidArg v.render x = some true ↔ ¬ v.mem x := by
  unfold reportsInvalidArg
  rw [intValid_eq_partial v hb x]
  by_cases h : v.mem x <;> simp [h]

-- the hypotheses are satisfiable by non-trivial expressions (swapped bounds included)
example : (⟨.closed (-7) 0, [.single 8, .from 100, .upto (-9223372036854775808), .closed 5 1]⟩ : ValidExpr).bounded = true := by decide
example : (⟨.closed 0 18446744073709551615, []⟩ : ValidExpr).bounded65 = true := by decide

/-- The full-strength statement (arbitrary integer bounds) is false of the code: `0:18446744073709551615`
contains 5, the code reads the upper bound as -1 (std::stoull, then the conversion to int64) and rejects 5. -/
theorem intValid_iff_counterexample_wide :
    ¬ ∀ (v : ValidExpr) (x : Int), inInt64 x = true → (isIntArgValid v.render x = .ok true ↔ v.mem x) := by
  intro h
  have h1 := h ⟨.closed 0 18446744073709551615, []⟩ 5 (by decide)
  rw [intValid_exact_wrap _ (by decide)] at h1
  have hm : ValidExpr.mem 5 ⟨.closed 0 18446744073709551615, []⟩ :=
    ⟨.closed 0 18446744073709551615, by simp [ValidExpr.ranges], by simp [Range.mem]⟩
  have h2 := h1.mpr hm
  revert h2
  decide

/-- History (repaired by commit 279e2e4): with the first clause as it was — `tok->isNumber() && argvalue ==
toBigNumber(tok)` on every number token — the swapped range `5:1`, which denotes the empty set, accepted its end
point 5; the code as it is now rejects it. -/
theorem old_single_value_clause_counterexample :
    scanIntOld 5 none (rangesToks [.closed 5 1]) = .ok true
    ∧ ¬ ValidExpr.mem 5 ⟨.closed 5 1, []⟩
    ∧ isIntArgValid (ValidExpr.render ⟨.closed 5 1, []⟩) 5 = .ok false := by
  refine ⟨?_, by decide, ?_⟩
  · have h5 : toBigNumber (renderInt 5) = some 5 := toBigNumber_renderInt 5 (by decide)
    simp [rangesToks, Range.toks, scanIntOld, intStepOld, isNumber_renderInt, h5, clause]
  · rw [intValid_exact _ (by decide)]
    decide

/-- Any accepted text that tokenises into the documented grammar behaves like the rendered expression: the
statement is about the text, not only about texts produced by `render`. -/
theorem intValid_of_parse_partial (s : Str) (v : ValidExpr) (hs : s.isEmpty = false) (hd : s.contains '.' = false)
    (hp : parseValid s = some v) (hb : v.bounded = true) (x : Int) :
    isIntArgValid s x = .ok (v.ranges.any (Range.memB x)) := by
  rw [isIntArgValid_of_toks hs hd ((parseValid_eq_some_iff s v).mp hp) (fun n => n) (toBigNumber_of_bounded hb),
    Range.mapB_id, List.map_id]

/-! ## 3b. the declared restrictions of one argument are checked independently -/

/-- invalidFunctionArgBool is reported exactly when the argument is a boolean expression and `<not-bool/>` is declared —
whatever the `<valid>` text says and whatever the value of the argument is -/
theorem argDecision_notBool (valid : Str) (notbool isBool : Bool) (known : Option Int) (r : ArgReport)
    (h : argDecision valid notbool isBool known = some r) : r.notBool = (isBool && notbool) := by
  unfold argDecision at h
  simp only at h
  split at h
  · injection h with h; subst h; rfl
  · cases h

/-- the not-bool verdict does not depend on the `<valid>` verdict: two arguments that differ only in their `<valid>`
text and their value get the same invalidFunctionArgBool decision -/
theorem argDecision_notBool_independent (valid valid' : Str) (notbool isBool : Bool) (known known' : Option Int)
    (r r' : ArgReport) (h : argDecision valid notbool isBool known = some r)
    (h' : argDecision valid' notbool isBool known' = some r') : r.notBool = r'.notBool := by
  rw [argDecision_notBool _ _ _ _ _ h, argDecision_notBool _ _ _ _ _ h']

/-- the value message of invalidFunctionArg is reported exactly when the Known value is refused by isIntArgValid —
whatever `<not-bool/>` says and whether or not the argument is a boolean expression -/
theorem argDecision_invalidValue (valid : Str) (notbool isBool : Bool) (known : Option Int) (r : ArgReport)
    (h : argDecision valid notbool isBool known = some r) : r.invalidValue = knownRefused valid known := by
  unfold argDecision at h
  simp only at h
  split at h
  · rename_i a rr ha hr
    injection h with h; subst h
    simp only
    unfold knownRefused
    cases known with
    | none => simp at ha; simpa using ha.symm
    | some x =>
      simp only at ha ⊢
      cases hv : isIntArgValid valid x with
      | err => rw [hv] at ha; cases ha
      | ok b => rw [hv] at ha; injection ha with ha; subst ha; cases b <;> rfl
  · cases h

theorem argDecision_invalidValue_independent (valid : Str) (notbool notbool' isBool isBool' : Bool) (known : Option Int)
    (r r' : ArgReport) (h : argDecision valid notbool isBool known = some r)
    (h' : argDecision valid notbool' isBool' known = some r') : r.invalidValue = r'.invalidValue := by
  rw [argDecision_invalidValue _ _ _ _ _ h, argDecision_invalidValue _ _ _ _ _ h']

theorem argDecision_of_total (valid : Str) (p : Int → Bool) (hx : ∀ x, isIntArgValid valid x = .ok (p x))
    (notbool isBool : Bool) (known : Option Int) :
    argDecision valid notbool isBool known =
      some { invalidValue := (match known with | none => false | some x => !p x), notBool := isBool && notbool,
             boolRange := isBool && !notbool && (!p 0 || !p 1) } := by
  unfold argDecision
  simp only [hx]
  -- a truth table: `known` and the four Booleans
  cases known <;> cases isBool <;> cases notbool <;> cases p 0 <;> cases p 1 <;> rfl

/-- for an expression of the grammar with int64 bounds the decision never fails and both verdicts are as declared:
value message ⇔ the Known value lies outside the ranges; bool message ⇔ boolean expression ∧ not-bool -/
theorem argDecision_render_partial (v : ValidExpr) (hb : v.bounded = true) (notbool isBool : Bool) (known : Option Int) :
    ∃ r, argDecision v.render notbool isBool known = some r
      ∧ r.notBool = (isBool && notbool)
      ∧ (r.invalidValue = true ↔ ∃ x, known = some x ∧ ¬ v.mem x) := by
  refine ⟨_, argDecision_of_total _ _ (intValid_eq_partial v hb) notbool isBool known, rfl, ?_⟩
  cases known <;> simp

/-- closed form of the third output: the "0 or 1 (boolean)" message of invalidFunctionArg is produced exactly for a
boolean expression without `<not-bool/>` whose declared ranges miss 0 or miss 1 — whatever the value of the argument is -/
theorem argDecision_boolRange_partial (v : ValidExpr) (hb : v.bounded = true) (notbool isBool : Bool) (known : Option Int)
    (r : ArgReport) (h : argDecision v.render notbool isBool known = some r) :
    r.boolRange = (isBool && !notbool && (!decide (v.mem 0) || !decide (v.mem 1))) := by
  rw [argDecision_of_total _ _ (intValid_eq_partial v hb)] at h
  injection h with h
  subst h
  rfl

/-- Exact rule for the id: reported ⇔ the Known value is outside the ranges, **or** the argument is a boolean expression
without `<not-bool/>` and the ranges do not contain both 0 and 1. -/
theorem invalidArg_id_exact_partial (v : ValidExpr) (hb : v.bounded = true) (notbool isBool : Bool) (known : Option Int)
    (r : ArgReport) (h : argDecision v.render notbool isBool known = some r) :
    r.idInvalidArg = true ↔ (∃ x, known = some x ∧ ¬ v.mem x) ∨ (isBool = true ∧ notbool = false ∧ (¬ v.mem 0 ∨ ¬ v.mem 1)) := by
  rw [argDecision_of_total _ _ (intValid_eq_partial v hb)] at h
  injection h with h
  subst h
  cases known <;> cases isBool <;> cases notbool <;> simp [ArgReport.idInvalidArg]

/-- The property as the text states it — for a constant argument, invalidFunctionArg ⇔ the constant lies outside the declared
ranges — holds for arguments that are not boolean expressions (and for boolean ones with `<not-bool/>`). -/
theorem invalidArg_id_iff_partial (v : ValidExpr) (hb : v.bounded = true) (notbool isBool : Bool) (x : Int)
    (hnb : isBool = false ∨ notbool = true) (r : ArgReport) (h : argDecision v.render notbool isBool (some x) = some r) :
    r.idInvalidArg = true ↔ ¬ v.mem x := by
  rw [invalidArg_id_exact_partial v hb notbool isBool (some x) r h]
  constructor
  · rintro (⟨y, hy, hm⟩ | ⟨h1, h2, -⟩)
    · injection hy with hy; subst hy; exact hm
    · rcases hnb with h' | h' <;> simp_all
  · intro hm; exact Or.inl ⟨x, rfl, hm⟩

example : (false = false ∨ true = true) := Or.inl rfl

/-- … and is **false of the code** for boolean expressions: `f(1==1)` with `<valid>1:5</valid>` has the Known value 1,
which lies inside 1:5, yet invalidFunctionArg ("The value is 0 or 1 (boolean) …") is reported because 0 is outside
(known finding `bool-arg-range-message-constant-inside`). -/
theorem invalidArg_id_counterexample_bool :
    ¬ ∀ (v : ValidExpr) (notbool isBool : Bool) (x : Int) (r : ArgReport), v.bounded = true →
        argDecision v.render notbool isBool (some x) = some r → (r.idInvalidArg = true ↔ ¬ v.mem x) := by
  intro h
  obtain ⟨r, hr, -, -⟩ := argDecision_render_partial ⟨.closed 1 5, []⟩ (by decide) false true (some 1)
  have h1 := h ⟨.closed 1 5, []⟩ false true 1 r (by decide) hr
  have h2 := (invalidArg_id_exact_partial ⟨.closed 1 5, []⟩ (by decide) false true (some 1) r hr).mpr
    (Or.inr ⟨rfl, rfl, Or.inl (by decide)⟩)
  exact absurd (by decide : ValidExpr.mem 1 ⟨.closed 1 5, []⟩) (h1.mp h2)

/-! ## 4. Library::isFloatArgValid with integer bounds -/

/-- For every expression whose bounds are integers of magnitude < 2^53 (exactly representable) and **every**
finite double `x` (given exactly as the integer `x·2^1074`): the code accepts `x` iff it lies in one of the
*ranges* of the expression, compared exactly; an integer-formatted *single value* is never matched by a float argument
(the clause `%num% && MathLib::isFloat(tok->str())`, asserted by test/testlibrary.cpp for `1:5,8` and 8.0). -/
theorem floatValid_intBounds_partial (v : ValidExpr) (hb : v.bounded53 = true) (x : Dbl) :
    isFloatArgValid v.render x = .ok (v.ranges.any (Range.memFloatB x)) :=
  isFloatArgValid_renderRanges v.ranges (by simp [ValidExpr.ranges]) hb x

example : (⟨.closed (-7) 0, [.from 9007199254740991, .upto (-3)]⟩ : ValidExpr).bounded53 = true := by decide

/-! ## 5. not-bool / not-null / not-uninit -/

/-- which declaration a call argument is checked against: its own `<arg nr="k">`, else `<arg nr="any|variadic">`,
and only when the call matches the configured argument count -/
theorem getarg_eq (f : FuncCfg) (ncall : Nat) (k : Int) :
    getarg f ncall k = if matchArguments f ncall = true then
        (match lookup f.args k with | some a => some a | none => lookup f.args (-1)) else none := by
  unfold getarg
  cases matchArguments f ncall
  · simp
  · simp only [Bool.not_true, Bool.false_eq_true, if_false, if_true]
    cases lookup f.args k <;> rfl

theorem isboolargbad_iff (f : FuncCfg) (ncall : Nat) (k : Int) :
    isboolargbad f ncall k = true ↔ ∃ a, getarg f ncall k = some a ∧ a.notbool = true := by
  unfold isboolargbad
  cases getarg f ncall k <;> simp

theorem isnullargbad_iff (f : FuncCfg) (ncall : Nat) (k : Int) :
    isnullargbad f ncall k = true ↔
      (getarg f ncall k = none ∧ f.fmt = 1) ∨ ∃ a, getarg f ncall k = some a ∧ a.notnull = true := by
  unfold isnullargbad
  cases getarg f ncall k <;> simp

theorem isuninitargbad_iff (f : FuncCfg) (ncall : Nat) (k : Int) (indirect : Int) :
    isuninitargbad f ncall k indirect = true ↔
      (getarg f ncall k = none ∧ f.fmt = 2) ∨ ∃ a, getarg f ncall k = some a ∧ indirect ≤ a.notuninit := by
  unfold isuninitargbad
  cases getarg f ncall k <;> simp

/-- what the loader stores: the entry under key `k` has `not-bool` iff some `<arg nr=k>` element (there may be
several) carries `<not-bool/>`; likewise `not-null`; an entry exists iff some element has that key -/
theorem loadArgs_notbool (ds : List ArgDecl) (k : Int) :
    nbAt (loadArgs ds) k = ds.any (fun d => decide (d.nr = k) && d.notbool) := by
  exact flagAt_loadArgs (·.notbool) (·.notbool) (fun o d => by cases o <;> rfl) ds k

theorem loadArgs_notnull (ds : List ArgDecl) (k : Int) :
    nnAt (loadArgs ds) k = ds.any (fun d => decide (d.nr = k) && d.notnull) := by
  exact flagAt_loadArgs (·.notnull) (·.notnull) (fun o d => by cases o <;> rfl) ds k

theorem loadArgs_has (ds : List ArgDecl) (k : Int) :
    hasAt (loadArgs ds) k = ds.any (fun d => decide (d.nr = k)) := by
  have e : ∀ m, hasAt m k = flagAt (fun _ => true) m k := fun m => by
    unfold hasAt flagAt; cases lookup m k <;> rfl
  rw [e, flagAt_loadArgs (fun _ => true) (fun _ => true) (fun o d => by cases o <;> rfl)]
  simp

/-- on a call that matches the configured argument count, `getarg` reads the entry loaded from the `<arg nr=k>` elements
if there are any, and otherwise the any/variadic entry (`nr = -1`) -/
theorem getarg_loadArgs (fmt : Nat) (ds : List ArgDecl) (ncall : Nat) (k : Int)
    (hma : matchArguments ⟨fmt, loadArgs ds⟩ ncall = true) :
    getarg ⟨fmt, loadArgs ds⟩ ncall k
      = lookup (loadArgs ds) (if ds.any (fun d => decide (d.nr = k)) = true then k else -1) := by
  rw [getarg_eq, if_pos hma, ← loadArgs_has, hasAt]
  cases h : lookup (loadArgs ds) k <;> simp [h]

/-- end to end over the loader (composition of `getarg_eq`, `loadArgs_notbool`, `loadArgs_has`): for the function built
from the `<arg>` elements `ds`, a call argument `k` is not-bool-restricted exactly when the call matches the configured
argument count and — if some element has `nr = k` — one of *those* declares `<not-bool/>`, otherwise one of the
any/variadic elements (`nr = -1`) does. -/
theorem isboolargbad_loadArgs_iff (fmt : Nat) (ds : List ArgDecl) (ncall : Nat) (k : Int) :
    isboolargbad ⟨fmt, loadArgs ds⟩ ncall k = true ↔
      matchArguments ⟨fmt, loadArgs ds⟩ ncall = true ∧
      (if ds.any (fun d => decide (d.nr = k)) = true then ds.any (fun d => decide (d.nr = k) && d.notbool) = true
       else ds.any (fun d => decide (d.nr = -1) && d.notbool) = true) := by
  by_cases hma : matchArguments ⟨fmt, loadArgs ds⟩ ncall = true
  · have e : isboolargbad ⟨fmt, loadArgs ds⟩ ncall k
        = nbAt (loadArgs ds) (if ds.any (fun d => decide (d.nr = k)) = true then k else -1) := by
      unfold isboolargbad nbAt
      rw [getarg_loadArgs fmt ds ncall k hma]
      cases lookup (loadArgs ds) _ <;> rfl
    rw [e, loadArgs_notbool]
    split <;> simp [hma]
  · simp [isboolargbad, getarg_eq, hma]

/-- the same for not-null, for a function without `formatstr` (`fmt = 0`, any `fmt ≠ 1` would do): with `fmt = 1` an
argument without entry is reported as well (`isnullargbad_iff`) -/
theorem isnullargbad_loadArgs_iff (ds : List ArgDecl) (ncall : Nat) (k : Int)
    (hma : matchArguments ⟨0, loadArgs ds⟩ ncall = true) :
    isnullargbad ⟨0, loadArgs ds⟩ ncall k = true ↔
      (if ds.any (fun d => decide (d.nr = k)) = true then ds.any (fun d => decide (d.nr = k) && d.notnull) = true
       else ds.any (fun d => decide (d.nr = -1) && d.notnull) = true) := by
  have e : isnullargbad ⟨0, loadArgs ds⟩ ncall k
      = nnAt (loadArgs ds) (if ds.any (fun d => decide (d.nr = k)) = true then k else -1) := by
    unfold isnullargbad nnAt
    rw [getarg_loadArgs 0 ds ncall k hma]
    cases lookup (loadArgs ds) _ <;> rfl
  rw [e, loadArgs_notnull]
  split <;> rfl

end Cppcheck.LibValid
