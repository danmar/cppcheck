import Cppcheck.Proofs.AstStore
import Cppcheck.Proofs.Links
import Cppcheck.Proofs.DumpXml
import Cppcheck.Gen.DumpEnums
/-
C14 — dump output is well-formed and self-consistent: the three mechanisms.

  AST     `Token::astOperand1/astOperand2/astParent/astTop` (Model/AstStore.lean)
  links   `Tokenizer::createLinks` (Model/Links.lean), then the link writers of the later passes
          (`createMutualLinks`, `link(nullptr)`)
  values  `ErrorLogger::toxml`, `id_string_i`, `std::to_string` (Model/DumpXml.lean) and the strings of the
          `enum` printers (Gen/DumpEnums.lean)
-/
namespace Cppcheck.C14
open Cppcheck.AstStore Cppcheck.Links Cppcheck.DumpXml

/-! ## AST pointer store -/

/-- One call of `astOperand1`, `astOperand2` or the `astTop` cache setter keeps the design invariant
    (acyclic ∧ an operand's parent points back ∧ a child is listed by its parent ∧ op1 ≠ op2) — whether the
    call returns, throws `InternalError` half-way, or (in a store whose `n` does not bound the parent chains - never a reachable
    one, see `setters_terminate`) the model's fuel runs out. -/
theorem setters_preserve_inv (s : Store) (h : Inv s) (o : Op) (ho : o.viaOperands = true) : Inv (step s o).1 :=
  step_inv s o h ho

/-- Every call of the public API, direct `astParent` included, keeps acyclicity, operand→parent agreement and op1 ≠ op2. -/
theorem setters_preserve_weak (s : Store) (h : WeakInv s) (o : Op) : WeakInv (step s o).1 :=
  step_weak s o h

/-- `Inv` is NOT preserved by the public API as a whole: a direct `x->astParent(t)` leaves `x` with a parent that
    does not list it.  (No caller in lib/ does this; `T-callers` in the check watches that.) -/
theorem direct_astParent_breaks_listed : ¬ ∀ (s : Store) (o : Op), Inv s → Inv (step s o).1 := by
  intro h
  have := (h (init 2) (.pa 0 (some 1)) (init_inv 2)).listed 0 1 (by decide)
  revert this
  decide

/-- Every client of any length that builds the AST through the operand setters (native frontend and clang import):
    the final store and every intermediate store satisfy the design invariant. -/
theorem reachable_inv (n : Nat) (ops : List Op) (h : ops.all Op.viaOperands = true) :
    Inv (run (init n) ops).1 ∧ ∀ p ∈ trace (init n) ops, Inv p.2 :=
  run_all Inv Op.viaOperands (fun s o hs ho => step_inv s o hs ho) ops (init n) (init_inv n) h

/-- Every client at all. -/
theorem reachable_weak (n : Nat) (ops : List Op) :
    WeakInv (run (init n) ops).1 ∧ ∀ p ∈ trace (init n) ops, WeakInv p.2 :=
  run_all WeakInv (fun _ => true) (fun s o hs _ => step_weak s o hs) ops (init n) (init_inv n).toWeakInv (by simp)

/-- The two unbounded pointer-chasing loops (`while (tok2)` in `astParent`, `while (mAstParent)` in `astTop`) end:
    no sequence of calls on existing tokens hangs. -/
theorem setters_terminate (n : Nat) (ops : List Op) (h : ops.all (Op.inRange n) = true) :
    (run (init n) ops).2 ≠ .hang :=
  run_total ops (init n) (init_inv n).toWeakInv (by intro i v hv; simp [init] at hv) h

/-- the hypotheses are satisfiable: a client that builds `(t0 (t1 t2))`, re-parents, and runs into the cycle check -/
example : [Op.o1 1 (some 2), .o1 0 (some 1), .o2 0 (some 3), .tp 2 (some 0), .o2 3 (some 2), .o1 2 (some 0)].all Op.viaOperands = true := by
  decide
example : [Op.o1 1 (some 2), .o1 0 (some 1), .pa 3 (some 0)].all (Op.inRange 4) = true := by decide
example : ∃ s : Store, Inv s ∧ s.op1 0 = some 1 ∧ s.op2 0 = some 3 ∧ s.parent 2 = some 1 :=
  ⟨(run (init 4) [.o1 1 (some 2), .o1 0 (some 1), .o2 0 (some 3)]).1,
   (reachable_inv 4 _ (by decide)).1, by decide, by decide, by decide⟩
/-- the throw really occurs in the model (so "also when the call throws" is not vacuous) -/
example : (step (run (init 3) [.o1 0 (some 1), .o2 0 (some 2)]).1 (.o1 1 (some 0))).2 = .throw := by decide

/-! ## bracket links -/

/-- Whenever the linker accepts a token list (any length, any token strings) the link vector is symmetric,
    joins an opening bracket to a later closing bracket of the same kind, covers exactly the bracket tokens,
    and no two pairs cross. -/
theorem links_symmetric_nested (ts : List Tok) (L : List (Option Nat)) (h : createLinks ts = .ok L) :
    Symmetric L ∧ ProperlyNested ts L :=
  (createLinks_spec ts).2 L h

/-- `type.top()` is never evaluated on an empty stack. -/
theorem links_never_ub (ts : List Tok) : createLinks ts ≠ .error .ub :=
  (createLinks_spec ts).1

/-- The linker throws its syntax error exactly on mismatch: a token list is accepted iff its bracket tokens
    (first character one of `( ) [ ] { }`) form a well-bracketed word. -/
theorem links_accepted_iff_balanced (ts : List Tok) : (∃ L, createLinks ts = .ok L) ↔ Balanced ts :=
  ⟨fun ⟨L, h⟩ => createLinks_ok_balanced ts L h, createLinks_balanced ts⟩

example : Balanced [['('], ['x'], ['['], [']'], [')'], ['{'], ['}']] :=
  .wrap ['('] [')'] .paren [['x'], ['['], [']']] [['{'], ['}']] rfl rfl
    (.plain ['x'] _ (by intro ⟨k, h⟩; cases k <;> simp [firstChar, openOf, closeOf] at h) (.wrap ['['] [']'] .square [] [] rfl rfl .nil .nil))
    (.wrap ['{'] ['}'] .brace [] [] rfl rfl .nil .nil)

example : createLinks [['('], ['x'], ['['], ['{', 'x'], ['}'], [']'], [')']]
    = .ok [some 6, none, some 5, some 4, some 3, some 2, some 0] := by rfl
example : createLinks [['('], ['['], [')'], [']']] = .error (.unmatched 1) := by rfl

/-! ## link writers after `createLinks`

Every pass between `createLinks` and the dump writes links only through `Token::createMutualLinks(a, b)` /
`a->link(b); b->link(a);` and `a->link(nullptr)` (obligation `T-link-writers`).  The theorems above describe the vector at
creation time; these say which later writes keep it symmetric, and which does not.  Nesting of the dumped links is checked per dump only. -/

/-- `createMutualLinks` on two distinct, currently unlinked tokens keeps the link vector symmetric. -/
theorem mutualLinks_preserve_symmetric (f : Nat → Option Nat) (a b : Nat) (h : SymF f) (hab : a ≠ b)
    (ha : f a = none) (hb : f b = none) : SymF (mutualLinks f a b) :=
  mutualLinks_symF f a b h hab ha hb

/-- Clearing both ends of a linked pair keeps it symmetric. -/
theorem clearPair_preserves_symmetric (f : Nat → Option Nat) (a b : Nat) (h : SymF f) (hl : f a = some b) :
    SymF (clearLink (clearLink f a) b) := by
  have hba := h.1 a b hl
  constructor
  · intro x y hxy
    simp only [clearLink, updLink_apply] at hxy ⊢
    by_cases hxb : x = b
    · simp [hxb] at hxy
    · by_cases hxa : x = a
      · simp [hxa] at hxy
      · simp only [hxb, hxa, if_false] at hxy
        have hyx := h.1 x y hxy
        have hyb : y ≠ b := by intro e; rw [e, hba] at hyx; exact hxa (Option.some.inj hyx).symm
        have hya : y ≠ a := by intro e; rw [e, hl] at hyx; exact hxb (Option.some.inj hyx).symm
        simp only [hyb, hya, if_false]
        exact hyx
  · intro x hx
    simp only [clearLink, updLink_apply] at hx
    by_cases hxb : x = b
    · simp [hxb] at hx
    · by_cases hxa : x = a
      · simp [hxa] at hx
      · simp only [hxb, hxa, if_false] at hx; exact h.2 x hx

/-- Clearing ONE end does not (the code relies on the partner being deleted or cleared next): not an invariant of the API. -/
theorem clearLink_alone_counterexample : ¬ ∀ (f : Nat → Option Nat) (a : Nat), SymF f → SymF (clearLink f a) := by
  intro h
  have hs : SymF (mutualLinks (fun _ => none) 0 1) :=
    mutualLinks_symF _ 0 1 symF_empty (by decide) rfl rfl
  exact absurd ((h _ 0 hs).1 1 0 (by decide)) (by decide)

/-- the hypotheses are met by a non-trivial vector: `( [ ] )` linked pair by pair, then the inner pair cleared -/
example : SymF (clearLink (clearLink (mutualLinks (mutualLinks (fun _ => none) 1 2) 0 3) 1) 2) :=
  clearPair_preserves_symmetric _ 1 2
    (mutualLinks_symF _ 0 3 (mutualLinks_symF _ 1 2 symF_empty (by decide) rfl rfl)
      (by decide) (by decide) (by decide))
    (by decide)

/-! ## attribute values -/

/-- For every byte string the output of `toxml` is a concatenation of the eight references and of characters in
    0x20..0x7f other than `< > & " '`: well-formed attribute content under either quote, and well-formed text. -/
theorem toxml_wellformed (s : Str) : AttrSafe (toxml s) := by
  induction s with
  | nil => exact .nil
  | cons c r ih => exact (toxmlChar_safe c).append ih

/-- in particular no markup character survives -/
theorem attrSafe_no_markup (o : Str) (h : AttrSafe o) : '<' ∉ o ∧ '>' ∉ o ∧ '"' ∉ o ∧ '\'' ∉ o := by
  obtain ⟨ps, rfl, hp⟩ := h
  have : ∀ c, (c = '<' ∨ c = '>' ∨ c = '"' ∨ c = '\'') → c ∉ ps.flatten := by
    intro c hc hm
    obtain ⟨p, hpm, hcp⟩ := List.mem_flatten.1 hm
    rcases hp p hpm with hr | ⟨d, hd, hok⟩
    · have : ∀ r ∈ refs, ∀ c ∈ r, ¬ (c = '<' ∨ c = '>' ∨ c = '"' ∨ c = '\'') := by decide
      exact this p hr c hcp hc
    · subst hd
      simp only [List.mem_singleton] at hcp
      subst hcp
      rcases hc with h | h | h | h <;> subst h <;> simp [plainOK] at hok
  exact ⟨this _ (.inl rfl), this _ (.inr (.inl rfl)), this _ (.inr (.inr (.inl rfl))), this _ (.inr (.inr (.inr rfl)))⟩

/-- On printable ASCII plus `\n \t \r` a conforming reader gets the original string back. -/
theorem toxml_roundtrip (s : Str) (h : s.all roundtripChar = true) : unescape (toxml s) = s := by
  unfold unescape
  induction s with
  | nil => simp [toxml, unescAux]
  | cons c r ih =>
    simp only [List.all_cons, Bool.and_eq_true] at h
    simp only [toxml]
    rw [unesc_toxmlChar c h.1, ih h.2]

/-- Outside that class `toxml` is lossy (NUL becomes the two characters `\0`, other bytes become `x`). -/
theorem toxml_roundtrip_counterexample : ¬ ∀ s : Str, unescape (toxml s) = s := by
  intro h
  exact absurd (h [Char.ofNat 200]) (by decide)

example : ("a<b && \"c\"\n".toList).all roundtripChar = true := by decide

/-- Distinct pointers get distinct ids, and an id is a plain hexadecimal numeral. -/
theorem idString_injective (a b : Nat) (h : idString a = idString b) : a = b := by
  have := congrArg hexValue h
  rwa [hexValue_idString, hexValue_idString] at this

theorem idString_wellformed (l : Nat) : AttrSafe (idString l) :=
  AttrSafe.of_plain _ (idString_plain l)

/-- `std::to_string` of an integer: sign and decimal digits only. -/
theorem number_wellformed (z : Int) : AttrSafe (intString z) :=
  AttrSafe.of_plain _ (intString_plain z)

/-- Every string an `enum` writer of the dump can return (the literals extracted from the current source of the twelve
    printers by the translator) is plain attribute content. -/
theorem enum_wellformed : ∀ p ∈ Cppcheck.Gen.DumpEnums.enumLiterals, ∀ s ∈ p.2, AttrSafe s := by
  have h : ∀ p ∈ Cppcheck.Gen.DumpEnums.enumLiterals, ∀ s ∈ p.2, s.all plainOK = true := by decide
  exact fun p hp s hs => AttrSafe.of_plain s (List.all_eq_true.1 (h p hp s hs))

example : intString (-1205) = ['-', '1', '2', '0', '5'] := by decide

end Cppcheck.C14
