import Cppcheck.Proofs.PPCond
import Cppcheck.Proofs.PPMacro
/-
C11 — property theorems (preprocessing matches a conforming preprocessor).  Part 1 (namespace `PPCond`): the `#if` evaluator;
part 2 (namespace `PPMacro`, with a head of its own below): macro replacement, conditional inclusion, -D / -U.

Model under the theorems (Cppcheck/Model/PPCond.lean): `evalIf` = the loop of simplecpp::preprocess that replaces
`defined X` / `defined ( X )`, followed by `evaluate` (simplifyName, simplifyNumbers, TokenList::constFold with its passes), a
copy of externals/simplecpp/simplecpp.cpp on token spellings.  Specification: `value` (C17 6.10.1p4 / 6.6 / 6.5 on intmax_t and
uintmax_t, short circuit, `defined`, remaining identifiers 0) on expression trees `E`; `print` = tokens with the minimal
parentheses of the C grammar, `printPF` = every binary / conditional operand parenthesised.

The full-strength statement  "for every tree with a value, simplecpp evaluates its printed form to that value"  is FALSE of the
code; each `ifeval_counterexample_*` below is a proved witness (replayed on the real simplecpp and on gcc by the check, recorded
as known findings F11a–F11g).  What holds is `ifeval_eq_spec_paren`.
-/
namespace Cppcheck.PPCond

-- for `decide` on `evalIf … = .error .div0` (F11f)
instance : DecidableEq (Except Err Int)
  | .ok a, .ok b => if h : a = b then isTrue (by rw [h]) else isFalse (by intro e; injection e with e; exact h e)
  | .error a, .error b => if h : a = b then isTrue (by rw [h]) else isFalse (by intro e; injection e with e; exact h e)
  | .ok _, .error _ => isFalse (by intro e; cases e)
  | .error _, .ok _ => isFalse (by intro e; cases e)

/-- no macro is defined -/
def noDef : Tok → Bool := fun _ => false

/-- the decimal literal `n` without suffix -/
def L (n : Nat) : E := .lit ⟨10, n, false, 0⟩

/-- The full-strength statement (for the record; refuted below).  It is deliberately the WEAKER form — a non-zero value may be
answered by any non-zero value, only the branch taken has to agree — so its refutation is the stronger result;
`ifeval_eq_spec_paren` proves exact equality of the value on its class. -/
def IfEvalEqSpec : Prop :=
  ∀ (e : E) (v : Val), value noDef e = some v → evalIf noDef (print e) = .ok v.v ∨ (v.v ≠ 0 ∧ ∃ w, w ≠ 0 ∧ evalIf noDef (print e) = .ok w)

/-- **Main theorem (partial).**  For every expression tree — arbitrary depth — whose literals are decimal, unsuffixed and
representable in intmax_t (`plainLits`), whose unary operators are applied to literals / `defined` / identifiers or to
parenthesised compound expressions and whose unary minus operands are positive (`unaryOk`), whose identifiers are identifiers
(`wfNames`) and whose strict evaluation (every operand evaluated, every intermediate result representable) is defined with
result `v`: simplecpp evaluates the fully parenthesised spelling to `v`, and `v` is the value C17 6.10.1 gives the tree. -/
theorem ifeval_eq_spec_paren (isDef : Tok → Bool) (e : E) (v : Int)
    (hw : wfNames e = true) (hl : plainLits e = true) (hu : unaryOk isDef e = true) (hv : valueStrict isDef e = some v) :
    evalIf isDef (printPF e) = .ok v ∧ value isDef e = some ⟨v, false⟩ :=
  ⟨evalIf_printPF isDef e v hw hl hu hv, (value_of_strict isDef e v hl hv).1⟩

/-- the hypotheses are satisfiable by a non-trivial tree: `! defined ( A ) && ( ( 3 + 4 ) * 2 > 13 ? 1 : 0 )` -/
example :
    let e : E := .bin .land (.un .not (.defd "A".toList true))
      (.cond (.bin .gt (.bin .mul (.bin .add (L 3) (L 4)) (L 2)) (L 13)) (L 1) (L 0))
    wfNames e = true ∧ plainLits e = true ∧ unaryOk noDef e = true ∧ valueStrict noDef e = some 1 := by decide +kernel

/-! ### counterexamples to the full statement (each is a known finding) -/

/-- F11a: `1 || 0 && 0` is 1 in C, simplecpp folds `||` and `&&` in one left-to-right pass: 0 -/
theorem ifeval_counterexample_or_and :
    value noDef (.bin .lor (L 1) (.bin .land (L 0) (L 0))) = some ⟨1, false⟩ ∧
    evalIf noDef (print (.bin .lor (L 1) (.bin .land (L 0) (L 0)))) = .ok 0 := by decide +kernel

/-- F11b: `2 == 1 < 1` is `2 == (1 < 1)` = 0 in C, simplecpp: `(2 == 1) < 1` = 1 -/
theorem ifeval_counterexample_eq_rel :
    value noDef (.bin .eq (L 2) (.bin .lt (L 1) (L 1))) = some ⟨0, false⟩ ∧
    evalIf noDef (print (.bin .eq (L 2) (.bin .lt (L 1) (L 1)))) = .ok 1 := by decide +kernel

/-- F11c: `! ! 1` is 1, simplecpp leaves `! 0` unfolded and answers 0; `- ( 1 - 2 )` is 1, simplecpp builds the spelling `--1` -/
theorem ifeval_counterexample_unary :
    value noDef (.un .not (.un .not (L 1))) = some ⟨1, false⟩ ∧
    evalIf noDef (print (.un .not (.un .not (L 1)))) = .ok 0 ∧
    value noDef (.un .neg (.bin .sub (L 1) (L 2))) = some ⟨1, false⟩ ∧
    evalIf noDef (print (.un .neg (.bin .sub (L 1) (L 2)))) = .ok 0 := by decide +kernel

/-- F11d: `- 1 < 0u` is 0 (the comparison is made in uintmax_t), simplecpp: 1 -/
theorem ifeval_counterexample_unsigned :
    value noDef (.bin .lt (.un .neg (L 1)) (.lit ⟨10, 0, true, 0⟩)) = some ⟨0, false⟩ ∧
    evalIf noDef (print (.bin .lt (.un .neg (L 1)) (.lit ⟨10, 0, true, 0⟩))) = .ok 1 := by decide +kernel

/-- F11e: `! 00` is 1, simplecpp compares the spelling with "0": 0 -/
theorem ifeval_counterexample_literal :
    value noDef (.un .not (.lit ⟨8, 0, false, 0⟩)) = some ⟨1, false⟩ ∧
    evalIf noDef (print (.un .not (.lit ⟨8, 0, false, 0⟩))) = .ok 0 := by decide +kernel

/-- F11f: `1 ? 2 : 1 / 0` is 2 (the third operand is not evaluated), simplecpp reports a division by zero -/
theorem ifeval_counterexample_unevaluated :
    value noDef (.cond (L 1) (L 2) (.bin .div (L 1) (L 0))) = some ⟨2, false⟩ ∧
    evalIf noDef (print (.cond (L 1) (L 2) (.bin .div (L 1) (L 0)))) = .error .div0 := by decide +kernel

/-- F11g: `1 ? 0 : 0 ? 3 : 1` is 0, simplecpp continues with `0 ? 3 : 1` = 1 -/
theorem ifeval_counterexample_chain :
    value noDef (.cond (L 1) (L 0) (.cond (L 0) (L 3) (L 1))) = some ⟨0, false⟩ ∧
    evalIf noDef (print (.cond (L 1) (L 0) (.cond (L 0) (L 3) (L 1)))) = .ok 1 := by decide +kernel

/-- the full-strength statement is refuted -/
theorem ifeval_eq_spec_counterexample : ¬ IfEvalEqSpec := by
  intro h
  have := h (.bin .lor (L 1) (.bin .land (L 0) (L 0))) ⟨1, false⟩ ifeval_counterexample_or_and.1
  rw [ifeval_counterexample_or_and.2] at this
  rcases this with h1 | ⟨_, w, hw, h2⟩
  · exact absurd h1 (by decide)
  · injection h2 with h2; exact hw h2.symm

end Cppcheck.PPCond

/-
Part 2: macro replacement, conditional inclusion, -D / -U  (model: Cppcheck/Model/PPMacro.lean)
-/
namespace Cppcheck.PPMacro
open Cppcheck.PPCond

/-! ### termination of macro replacement

`expand` is defined by well-founded recursion on the lexicographic measure `(free ms dis, ts.length)`:
`free ms dis` = number of macros of the table whose replacement is not being rescanned.  Lean accepts the definition only with
the three facts below (they are the `decreasing_by` obligations of the definition; the axiom audit of the check also covers
`Cppcheck.PPMacro.expand` itself). -/

/-- rescanning the replacement of `n` happens with `n` disabled: the first component of the measure decreases -/
theorem expand_terminates_rescan {ms : List Macro} {dis : List Tok} {n : Tok} {m : Macro}
    (hl : lookup ms n = some m) (hd : dis.contains n = false) : free ms (n :: dis) < free ms dis :=
  free_lt hl hd

/-- the arguments of an invocation and the tokens after it are shorter than the list that starts with the invocation -/
theorem expand_terminates_args {l : List XTok} {args : List (List XTok)} {rest : List XTok}
    (h : parseArgs l = some (args, rest)) : (∀ a ∈ args, a.length ≤ l.length) ∧ rest.length < l.length :=
  parseArgs_len h

/-- the measure is a well-founded order -/
theorem expand_terminates_wf : WellFounded (Prod.Lex (fun a b : Nat => a < b) (fun a b : Nat => a < b)) :=
  (Prod.lex ⟨_, Nat.lt_wfRel.wf⟩ ⟨_, Nat.lt_wfRel.wf⟩).wf

/-- **object-like macro replacement = substitution**: for a table of object-like macros whose replacement lists contain no
macro name and no `#` (`flatTable`), the replacement of any token list is the list with every macro name substituted by its
replacement list (C06: a macro invocation and its expansion are the same token sequence). -/
theorem expand_object_macro_eq_subst (q : Quirks) (ms : List Macro) (hf : flatTable ms = true) (ts : List XTok)
    (hb : ∀ t ∈ ts, t.blue = false) : expand q ms [] ts = .ok (ts.flatMap (substTok ms)) :=
  expand_flat q ms hf ts hb

example : flatTable [⟨"N".toList, none, false, ["4".toList, "+".toList, "x".toList]⟩, ⟨"T".toList, none, false, ["int".toList]⟩] = true := by
  decide +kernel

/-! ### conditional inclusion -/

/-- **the ifstates machine of simplecpp::preprocess implements the group semantics of 6.10.1**: for every tree of nested
if-sections (any nesting depth, any number of `#elif` groups, optional `#else`), the lines the machine keeps are exactly the
lines of the groups the standard selects. -/
theorem included_lines_eq_spec (t : Items) : runC [] t.flat = some (t.incl true) := by
  have := items_run t [] []
  simpa [runC, top] using this

/-- the same inside any enclosing conditional state and followed by any continuation -/
theorem included_lines_eq_spec_nested (t : Items) (st : IfStack) (k : List CLine) :
    runC st (t.flat ++ k) = (runC st k).map (t.incl (top st == .tru) ++ ·) :=
  items_run t st k

example : (Items.cons (.sect false (.cons (.text 0) .nil) (.elif true (.cons (.text 1) .nil) (.els (.cons (.text 2) .nil))))
    (.cons (.text 3) .nil)).incl true = [1, 3] := by decide +kernel

/-- **the directive loop is that machine** (audit M1): on ANY list of lines, from any state, the text lines the directive loop
of `runFile` keeps (`keptLines`: its `top st.ifs == tru` test, the state threaded by `stepLine` itself — `#define/#undef` in
skipped groups ignored, conditions consulted through `condOf` only) are exactly the lines `runC` keeps on the skeleton of the run
(`skelLines`: per line `#if.. c` / `#elif c` with `c` the value `condOf` gives at that point, `#else`, `#endif`, text). -/
theorem runLines_included_eq_runC (q : Quirks) (undefs : List Tok) (lines : List (List LTok)) (st : PState) (i : Nat)
    (sk : List CLine) (k : List Nat) (h1 : skelLines q undefs st i lines = .ok sk) (h2 : keptLines q undefs st i lines = .ok k) :
    runC st.ifs sk = some k :=
  runLines_kept_eq_runC q undefs lines st i sk k h1 h2

/-- hence: when the skeleton of a run is the flattening of a tree of if-sections, the directive loop keeps exactly the lines the
group semantics of 6.10.1 selects -/
theorem runLines_included_lines_eq_spec (q : Quirks) (undefs : List Tok) (lines : List (List LTok)) (st : PState) (i : Nat)
    (t : Items) (k : List Nat) (hst : st.ifs = []) (h1 : skelLines q undefs st i lines = .ok t.flat)
    (h2 : keptLines q undefs st i lines = .ok k) : k = t.incl true := by
  have a := runLines_included_eq_runC q undefs lines st i t.flat k h1 h2
  rw [hst, included_lines_eq_spec] at a
  injection a with a
  exact a.symm

/-- **a pass has no memory**: the result of the k-th pass over a source is a function of (source, dui of that pass) only — whatever
passes were made before.  Trivial for the pure model (that is the point: it is the specification of "no state survives a pass");
its force is the tie `preprocess-repeated-passes`, which runs the real simplecpp::preprocess repeatedly over ONE raw token list
(whose `Token::nextcond` skip chain is written by earlier passes) and compares every pass with `runPasses`. -/
theorem pass_independent_of_history (q : Quirks) (src : List Char) (duis : List (List (List Char) × List Tok)) (k : Nat) :
    (runPasses q src duis)[k]? = duis[k]?.map fun d => runFile q d.1 d.2 src := by
  simp [runPasses]

/-- in particular: the same dui gives the same result at any position of any sequence of passes -/
theorem pass_same_dui_same_result (q : Quirks) (src : List Char) (pre pre' : List (List (List Char) × List Tok))
    (d : List (List Char) × List Tok) :
    (runPasses q src (pre ++ [d]))[pre.length]? = (runPasses q src (pre' ++ [d]))[pre'.length]? := by
  simp [pass_independent_of_history]

/-! ### function-like macros (audit M4) -/

/-- **nested invocations in arguments** (C17 6.10.3.1): an invocation of a function-like macro in any context `dis` (the macros
whose replacement is being rescanned) is replaced by its replacement list with every parameter substituted by its argument, where
each argument has been completely macro replaced ON ITS OWN in the context of the caller: `argCtx q t.s dis = dis` for the code
and for the standard — the invocation being replaced contributes nothing, in particular not its own name, so `F ( G ( F ( x ) ) )`
expands all three.  Hypotheses: the replacement list contains no macro name and no `#`, the macro is not variadic, the argument
count fits, the replaced arguments are inert (their tokens name no macro or are painted). -/
theorem expand_function_macro_nested (q : Quirks) (ms : List Macro) (t lp : XTok) (m : Macro) (ps : List Tok) (dis : List Tok)
    (rest1 rest2 : List XTok) (args expd : List (List XTok))
    (hbody : ∀ x ∈ m.body, lookup ms x = none ∧ (x != ['#']) = true)
    (htn : isName t.s = true) (htb : t.blue = false) (hl : lookup ms t.s = some m) (hps : m.params = some ps)
    (hnv : m.variadic = false) (hne : ps.length ≠ 0) (hva : ps.contains (tokS "__VA_ARGS__") = false) (hlp : lp.s = ['('])
    (hpa : parseArgs rest1 = some (args, rest2)) (hlen : args.length = ps.length) (hdis : dis.contains t.s = false)
    (hel : expd.length = args.length)
    (hexp : ∀ i (h : i < args.length),
      (if plainUse ps m.body (min i (ps.length - 1)) then expand q ms (argCtx q t.s dis) args[i] else .ok args[i]) =
        .ok (expd[i]'(by omega)))
    (hin : ∀ e ∈ expd, ∀ x ∈ e, Inert ms x) :
    expand q ms dis (t :: lp :: rest1) = (expand q ms dis rest2).map (substParams ps expd m.body ++ ·) := by
  have hbind : bindArgs m ps args = some args := by simp [bindArgs, hne, hnv, hlen]
  have hbind2 : bindArgs m ps expd = some expd := by simp [bindArgs, hne, hnv, hel, hlen]
  have hmap : (args.zipIdx.attach.mapM fun (x : { x // x ∈ args.zipIdx }) =>
      if plainUse ps m.body (min x.1.2 (ps.length - 1)) then
        (if q.argInherit then expand q ms (t.s :: dis) x.1.1 else expand q ms dis x.1.1)
      else (.ok x.1.1 : Except XErr (List XTok))) = .ok expd := by
    apply mapM_ok_of_getElem _ _ _ (by simp [hel])
    intro i hi
    have hi' : i < args.length := by simpa using hi
    have e1 : (args.zipIdx.attach[i]).1.1 = args[i] := by simp
    have e2 : (args.zipIdx.attach[i]).1.2 = i := by simp
    have := hexp i hi'
    rw [argCtx, apply_ite (fun d => expand q ms d args[i])] at this
    simp only [e1, e2]
    exact this
  have hsub := subst_params q true ps args expd hva m.body [] (fun x hx => (hbody x hx).2)
  rw [List.reverse_nil, List.nil_append] at hsub
  have hnm : ∀ x ∈ substParams ps expd m.body, Inert ms x :=
    substParams_inert (fun x hx => (hbody x hx).1) hin
  have hexp2 := expand_inert q ms (substParams ps expd m.body) (t.s :: dis) hnm
  rw [expand, if_neg (by rw [htn, htb]; decide)]
  split
  · rename_i h0; rw [hl] at h0; cases h0
  · rename_i m' hl'
    obtain rfl : m = m' := Option.some.inj (hl.symm.trans hl')
    rw [dif_neg (by rw [hdis]; decide)]
    split
    · rename_i hpn; rw [hps] at hpn; cases hpn
    · rename_i ps' hps'
      obtain rfl : ps = ps' := Option.some.inj (hps.symm.trans hps')
      dsimp only
      rw [if_neg (by rw [hlp]; decide)]
      split
      · rename_i h0; rw [hpa] at h0; cases h0
      · rename_i args' rest2' hpa'
        obtain ⟨rfl, rfl⟩ : args = args' ∧ rest2 = rest2' := Prod.mk.inj (Option.some.inj (hpa.symm.trans hpa'))
        simp only [hbind]
        rw [hmap]
        simp only [hbind2, hsub, hexp2]
        -- the replacement ends in an inert token, which cannot take arguments from the tokens that follow
        refine if_neg (Bool.eq_false_iff.mp ?_)
        split
        · rename_i l n _ hlast
          rcases hnm l (List.mem_of_getLast? hlast) with h0 | h0 <;> simp [isFnName, h0]
        · rfl

/-- **function-like macro replacement = simultaneous parameter substitution**: for a table whose replacement lists contain no
macro name and no `#` (`flatBodies`; macros may be object- or function-like), an invocation `t ( args )` of a non-variadic
function-like macro with the right number of arguments, none of which contains a macro name, is replaced by the replacement list
with every parameter substituted by its argument; the tokens after the invocation are processed independently. -/
theorem expand_function_macro_eq_subst (q : Quirks) (ms : List Macro) (hf : flatBodies ms = true) (t lp : XTok) (m : Macro)
    (ps : List Tok) (rest1 rest2 : List XTok) (args : List (List XTok))
    (htn : isName t.s = true) (htb : t.blue = false) (hl : lookup ms t.s = some m) (hps : m.params = some ps)
    (hnv : m.variadic = false) (hne : ps.length ≠ 0) (hva : ps.contains (tokS "__VA_ARGS__") = false) (hlp : lp.s = ['('])
    (hpa : parseArgs rest1 = some (args, rest2)) (hlen : args.length = ps.length)
    (hargs : ∀ a ∈ args, ∀ x ∈ a, lookup ms x.s = none) :
    expand q ms [] (t :: lp :: rest1) = (expand q ms [] rest2).map (substParams ps args m.body ++ ·) :=
  expand_function_macro_nested q ms t lp m ps [] rest1 rest2 args args (flatBodies_facts hf hl) htn htb hl hps hnv hne hva hlp hpa hlen
    (hdis := by simp) (hel := rfl)
    (hexp := fun i h => by
      split
      · exact expand_inert q ms _ _ (fun x hx => Or.inl (hargs _ (List.getElem_mem h) x hx))
      · rfl)
    (hin := fun e he x hx => Or.inl (hargs e he x hx))

/-- the hypotheses are met by `#define MAX(a,b) ( a > b ? a : b )` and the invocation `MAX ( x , 3 ) ;` -/
example :
    let mx : Macro := ⟨"MAX".toList, some ["a".toList, "b".toList], false,
      ["(", "a", ">", "b", "?", "a", ":", "b", ")"].map String.toList⟩
    let tk (s : String) : XTok := ⟨s.toList, false⟩
    expand Quirks.code [mx] [] (tk "MAX" :: tk "(" :: [tk "x", tk ",", tk "3", tk ")", tk ";"]) =
      (expand Quirks.code [mx] [] [tk ";"]).map
        (substParams ["a".toList, "b".toList] [[tk "x"], [tk "3"]] mx.body ++ ·) :=
  expand_function_macro_eq_subst Quirks.code _ (hf := by decide +kernel) (htn := by decide +kernel) (htb := by decide +kernel)
    (hl := by decide +kernel) (hps := by decide +kernel) (hnv := by decide +kernel) (hne := by decide +kernel)
    (hva := by decide +kernel) (hlp := by decide +kernel) (hpa := by decide +kernel) (hlen := by decide +kernel)
    (hargs := by decide +kernel)

/-! #### the indirect pattern `INC ( DBL ( INC ( 3 ) ) )` -/

def mINC : Macro := ⟨"INC".toList, some ["x".toList], false, ["(", "x", "+", "1", ")"].map String.toList⟩
def mDBL : Macro := ⟨"DBL".toList, some ["y".toList], false, ["(", "y", "*", "2", ")"].map String.toList⟩
def tk (s : String) : XTok := ⟨s.toList, false⟩
def tb (s : String) : XTok := ⟨s.toList, true⟩
/-- the variant in which the arguments inherit the name of the invocation they belong to -/
def qInherit : Quirks := { Quirks.code with argInherit := true }

/-- one invocation of a one-parameter macro whose argument `a` is replaced by inert `e`; the closed facts about the table are
one conjunction `hm`, for a single `decide +kernel` -/
theorem step1 (q : Quirks) (ms : List Macro) (m : Macro) (nm p : Tok) (dis : List Tok) (a e : List XTok)
    (hm : (∀ x ∈ m.body, lookup ms x = none ∧ (x != ['#']) = true) ∧ isName nm = true ∧ lookup ms nm = some m ∧
      m.params = some [p] ∧ m.variadic = false ∧ [p].contains (tokS "__VA_ARGS__") = false ∧ plainUse [p] m.body 0 = true)
    (hpa : parseArgs (a ++ [tk ")"]) = some ([a], [])) (hdis : dis.contains nm = false)
    (he : expand q ms (argCtx q nm dis) a = .ok e) (hin : ∀ x ∈ e, Inert ms x) :
    expand q ms dis (⟨nm, false⟩ :: tk "(" :: (a ++ [tk ")"])) = .ok (substParams [p] [e] m.body) := by
  obtain ⟨hbody, hn, hl, hps, hnv, hva, hplain⟩ := hm
  have hexp : ∀ i (h : i < [a].length),
      (if plainUse [p] m.body (min i ([p].length - 1)) then expand q ms (argCtx q nm dis) [a][i] else .ok [a][i]) =
        .ok ([e][i]'(by simpa using h)) := by
    intro i h
    have : i = 0 := by simpa using h
    subst this
    rw [show min 0 ([p].length - 1) = 0 from rfl, if_pos hplain]
    exact he
  have hin' : ∀ l ∈ [e], ∀ x ∈ l, Inert ms x := by
    intro l hl
    rw [List.mem_singleton.mp hl]
    exact hin
  have h0 : expand q ms dis [] = .ok [] := by rw [expand]
  rw [expand_function_macro_nested q ms ⟨nm, false⟩ (tk "(") m [p] dis _ [] [a] [e] (hbody := hbody) (htn := hn) (htb := rfl)
    (hl := hl) (hps := hps) (hnv := hnv) (hne := by simp) (hva := hva) (hlp := rfl) (hpa := hpa) (hlen := rfl) (hdis := hdis)
    (hel := rfl) (hexp := hexp) (hin := hin'), h0]
  simp [Except.map]

/-- the code (and the standard): all three invocations are replaced -/
theorem expand_indirect_nesting :
    expand Quirks.code [mINC, mDBL] [] ([tk "INC", tk "(", tk "DBL", tk "(", tk "INC", tk "(", tk "3", tk ")", tk ")", tk ")"]) =
      .ok (["(", "(", "(", "3", "+", "1", ")", "*", "2", ")", "+", "1", ")"].map tk) := by
  have s0 : expand Quirks.code [mINC, mDBL] [] [tk "3"] = .ok [tk "3"] :=
    expand_inert _ _ _ _ (by unfold Inert; decide +kernel)
  -- innermost first; each step's argument is the invocation replaced by the step before
  have s1 := step1 Quirks.code _ mINC "INC".toList "x".toList [] [tk "3"] _ (by decide +kernel) (by decide +kernel)
    (by decide +kernel) s0 (by unfold Inert; decide +kernel)
  have s2 := step1 Quirks.code _ mDBL "DBL".toList "y".toList [] [tk "INC", tk "(", tk "3", tk ")"] _ (by decide +kernel)
    (by decide +kernel) (by decide +kernel) s1 (by unfold Inert; decide +kernel)
  have s3 := step1 Quirks.code _ mINC "INC".toList "x".toList [] [tk "DBL", tk "(", tk "INC", tk "(", tk "3", tk ")", tk ")"] _
    (by decide +kernel) (by decide +kernel) (by decide +kernel) s2 (by unfold Inert; decide +kernel)
  exact s3.trans (congrArg Except.ok (by decide +kernel))

/-- the inherited-set variant: the innermost `INC` is painted and stays a literal call -/
theorem expand_indirect_nesting_inherit :
    expand qInherit [mINC, mDBL] [] ([tk "INC", tk "(", tk "DBL", tk "(", tk "INC", tk "(", tk "3", tk ")", tk ")", tk ")"]) =
      .ok [tk "(", tk "(", tb "INC", tk "(", tk "3", tk ")", tk "*", tk "2", tk ")", tk "+", tk "1", tk ")"] := by
  -- innermost: INC is disabled in the inherited context [DBL, INC]
  have s1 : expand qInherit [mINC, mDBL] ["DBL".toList, "INC".toList] [tk "INC", tk "(", tk "3", tk ")"] =
      .ok [tb "INC", tk "(", tk "3", tk ")"] := by
    rw [expand_blue qInherit _ _ (tk "INC") _ mINC (by decide +kernel) rfl (by decide +kernel) (by decide +kernel),
      expand_inert qInherit _ [tk "(", tk "3", tk ")"] _ (by unfold Inert; decide +kernel)]
    rfl
  have s2 := step1 qInherit _ mDBL "DBL".toList "y".toList ["INC".toList] [tk "INC", tk "(", tk "3", tk ")"] _
    (by decide +kernel) (by decide +kernel) (by decide +kernel) s1 (by unfold Inert; decide +kernel)
  have s3 := step1 qInherit _ mINC "INC".toList "x".toList [] [tk "DBL", tk "(", tk "INC", tk "(", tk "3", tk ")", tk ")"] _
    (by decide +kernel) (by decide +kernel) (by decide +kernel) s2 (by unfold Inert; decide +kernel)
  exact s3.trans (congrArg Except.ok (by decide +kernel))

/-- **counterexample for the inherited-set variant**: if the arguments of an invocation inherited the invocation's own name as
"already expanding", `INC ( DBL ( INC ( 3 ) ) )` would keep a literal `INC ( 3 )` — the token sequence differs from that of the
code / of C17 6.10.3.1 (`argCtx` adds nothing).  This is exactly the seeded change
`C06-macro-arg-preexpansion-inherits-expanding-set`. -/
theorem expand_arg_inherit_counterexample :
    (expand qInherit [mINC, mDBL] [] ([tk "INC", tk "(", tk "DBL", tk "(", tk "INC", tk "(", tk "3", tk ")", tk ")", tk ")"])).toOption.map
        (List.map (·.s)) ≠
    (expand Quirks.code [mINC, mDBL] [] ([tk "INC", tk "(", tk "DBL", tk "(", tk "INC", tk "(", tk "3", tk ")", tk ")", tk ")"])).toOption.map
        (List.map (·.s)) := by
  rw [expand_indirect_nesting_inherit, expand_indirect_nesting]
  decide +kernel

/-! ### -D / -U -/

/-- **-D is applied**: every piece of `Settings::userDefines` (`-D`) whose name is not undefined by `-U` is a defined macro
when the file starts (createDUI + the `dui.defines` loop), whatever the configuration adds. -/
theorem D_applied (ud cfg : List Char) (undefs : List Tok) (ms : List Macro) (d : List Char)
    (hok : entriesOK (duiDefines ud cfg) = true) (hd : d ∈ splitcfg ud ['1']) (hnu : undefs.contains (defName d) = false)
    (h : initMacros (duiDefines ud cfg) undefs = .ok ms) : (lookup ms (defName d)).isSome = true :=
  initFrom_defines undefs (duiDefines ud cfg) [] ms d hok (by simp [duiDefines, hd]) hnu h

/-- **-U is applied**: a name given with `-U` is defined neither when the file starts nor after any sequence of lines
(`#define` of such a name is ignored).  The statement is about runs that do not stop with an error (`.ok`): when a line fails
(`#error`, an `#include` — outside the model —, a malformed `#define`) simplecpp clears its output and the theorem says nothing. -/
theorem U_applied (q : Quirks) (defines : List (List Char)) (undefs : List Tok) (x : Tok) (hx : undefs.contains x = true)
    (hok : entriesOK defines = true) (ms : List Macro) (h0 : initMacros defines undefs = .ok ms)
    (lines : List (List LTok)) (st' : PState) (h : runLines q undefs ⟨ms, [], []⟩ lines = .ok st') :
    lookup st'.macros x = none :=
  runLines_undef q undefs x hx lines ⟨ms, [], []⟩ st' (initFrom_undef undefs x hx defines [] ms hok rfl h0) h

example : entriesOK (duiDefines "A=1;B;f(x)=x".toList "C=2".toList) = true := by decide +kernel

/-- without `entriesOK` the statement fails: the entry `A B=1` is looked up as `A B` in the `-U` set but defines `A` -/
theorem U_applied_counterexample :
    ∃ ms, initMacros ["A B=1".toList] ["A".toList] = .ok ms ∧ (lookup ms "A".toList).isSome = true := by
  exact ⟨_, rfl, by decide +kernel⟩

end Cppcheck.PPMacro
