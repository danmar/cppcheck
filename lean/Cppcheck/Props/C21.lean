import Cppcheck.Proofs.ProcFaults
/-
C21 — a crashing worker process is contained (process executor, cli/processexecutor.cpp).

Model: `Cppcheck.Model.ProcFaults` (the parent loop of `ProcessExecutor::check` as a transition system, worker
progress and death interleaved with the parent's spawn / select / waitpid phases).

The `_partial` theorems carry the hypothesis `noMidFrame`: workers die only at pipe-message boundaries, the property's own
granularity.  Without it the statement is refuted (`contained_needs_frame_boundaries` / `midframe_not_contained`, F14: a death
inside a frame makes the parent exit with EXIT_FAILURE and the findings of the other files are lost).  `terminates` needs
no such hypothesis; its `Fair` is defined in Proofs/ProcFaults.lean.
-/
namespace Cppcheck.ProcFaults

/-- (Fairness gives every spawned worker a turn again and again: a worker that HANGS — neither writes nor dies — is outside;
the property is about workers that die.)
Every fair schedule of the process executor reaches a final state (the loop is left or the parent aborted),
whatever the workers do: any frame lists, any faults (also mid-frame), any job count ≥ 1.
Measure: `Cppcheck.ProcFaults.measure`. -/
theorem terminates (cfg : Config) (hj : 1 ≤ cfg.jobs) (σ : Nat → Label) (hfair : Fair cfg σ) :
    ∃ n, (run cfg σ n).final = true :=
  terminates_aux cfg hj σ hfair _ 0 rfl

/-- the fairness hypothesis is satisfiable: round robin is fair -/
theorem roundRobin_fair (cfg : Config) : Fair cfg (roundRobin cfg.workers.length) := by
  constructor
  · intro n
    refine ⟨(n + 1) * (cfg.workers.length + 1), ?_, (n + 1) * (cfg.workers.length + 1), ?_⟩
    · have : (n + 1) * 1 ≤ (n + 1) * (cfg.workers.length + 1) := Nat.mul_le_mul_left _ (by omega)
      omega
    · simp [roundRobin]
  · intro i hi n
    refine ⟨(n + 1) * (cfg.workers.length + 1) + (i + 1), ?_, ?_⟩
    · have : (n + 1) * 1 ≤ (n + 1) * (cfg.workers.length + 1) := Nat.mul_le_mul_left _ (by omega)
      omega
    · have hlt : i + 1 < cfg.workers.length + 1 := by omega
      have hm : ((n + 1) * (cfg.workers.length + 1) + (i + 1)) % (cfg.workers.length + 1) = i + 1 := by
        rw [Nat.add_comm, Nat.add_mul_mod_self_right, Nat.mod_eq_of_lt hlt]
      simp [roundRobin, hm]

theorem final_done {cfg : Config} (hmid : noMidFrame cfg = true) (σ : Nat → Label) (n : Nat)
    (hfin : (run cfg σ n).final = true) :
    Inv cfg.workers (run cfg σ n) ∧ (run cfg σ n).done = true := by
  have inv := Inv.run cfg hmid σ n
  refine ⟨inv, ?_⟩
  simp only [State.final, Bool.or_eq_true] at hfin
  rcases hfin with h | h
  · exact h
  · rw [inv.not_aborted] at h; cases h

/-- **Containment.**  If workers die only at frame boundaries, then in EVERY final state reachable under ANY schedule
(any interleaving of worker progress, deaths, pipe readiness and `waitpid` results, any job count):
the parent did not abort, nothing is logged twice, the log contains exactly the reports of the closed form
(findings delivered before each death + one internal error per crashed worker) and the result is the closed-form sum. -/
theorem contained_partial (cfg : Config) (hmid : noMidFrame cfg = true) (σ : Nat → Label) (n : Nat)
    (hfin : (run cfg σ n).final = true) :
    (run cfg σ n).aborted = false ∧ (run cfg σ n).log.Nodup ∧
    (∀ r, r ∈ (run cfg σ n).log ↔ r ∈ expectedReports cfg) ∧
    (run cfg σ n).result = expectedResult cfg := by
  obtain ⟨inv, hdone⟩ := final_done hmid σ n hfin
  exact ⟨inv.not_aborted, inv.nodup, inv.final_log hdone, inv.final_result hdone⟩

theorem mem_reports (w : Worker) (r : Report) :
    r ∈ w.reports ↔ (∃ x, x ∈ w.delivered ∧ r = .finding x) ∨ (w.crashed = true ∧ r = .internal w.file w.endStatus) := by
  unfold Worker.reports
  cases w.crashed <;> simp [eq_comm]

/-- exactly one internal error per crashed file (file names pairwise distinct) -/
theorem internal_errors_exact_partial (cfg : Config) (hmid : noMidFrame cfg = true)
    (hfiles : (cfg.workers.map (·.file)).Nodup) (σ : Nat → Label) (n : Nat) (hfin : (run cfg σ n).final = true) :
    ((run cfg σ n).log.filter Report.isInternal).Perm
      ((cfg.workers.filter Worker.crashed).map (fun w => Report.internal w.file w.endStatus)) := by
  obtain ⟨_, hnd, hlog, _⟩ := contained_partial cfg hmid σ n hfin
  rw [List.perm_ext_iff_of_nodup (hnd.sublist List.filter_sublist)]
  · intro r
    simp only [List.mem_filter, hlog, expectedReports, List.mem_flatMap, List.mem_map]
    constructor
    · rintro ⟨⟨w, hw, hr⟩, hi⟩
      rcases (mem_reports w r).mp hr with ⟨x, _, rfl⟩ | ⟨hc, rfl⟩
      · cases hi
      · exact ⟨w, ⟨hw, hc⟩, rfl⟩
    · rintro ⟨w, ⟨hw, hc⟩, rfl⟩
      exact ⟨⟨w, hw, (mem_reports w _).mpr (Or.inr ⟨hc, rfl⟩)⟩, rfl⟩
  · -- distinct file names give distinct internal errors
    have hsub : ((cfg.workers.filter Worker.crashed).map (·.file)).Nodup := hfiles.sublist (List.filter_sublist.map _)
    rw [List.Nodup, List.pairwise_map] at hsub ⊢
    exact hsub.imp fun hne h => hne (Report.internal.inj h).1

theorem noMidFrame_faultFree (cfg : Config) : noMidFrame (faultFree cfg) = true := by
  simp [noMidFrame, faultFree, Worker.partialFrame]

theorem mem_findingsUpTo (w : Worker) (n x : Nat) (h : x ∈ w.findingsUpTo n) : some x ∈ w.body := by
  unfold Worker.findingsUpTo at h
  simp only [List.mem_filterMap, id] at h
  obtain ⟨a, ha, rfl⟩ := h
  exact List.mem_of_mem_take ha

theorem delivered_faultfree (w : Worker) (h : w.fault = none) (x : Nat) : x ∈ w.delivered ↔ some x ∈ w.body := by
  unfold Worker.delivered Worker.findingsUpTo Worker.limit Worker.total
  simp only [h]
  rw [List.take_of_length_le (Nat.le_succ _)]
  simp [List.mem_filterMap]

/-- (Membership only; "exactly once" comes from `contained_partial`'s `log.Nodup`.  A finding is identified with the text
`hasToLog` compares, so equal texts from different files collapse in the model exactly as in the code.)
Findings compared with the fault-free run of the same files (`s0`: any final state of `faultFree cfg`):
(1) no finding is reported that the fault-free run does not report, (2) every finding of a worker without fault is
reported, (3) the fault-free run reports no internal error. -/
theorem findings_vs_faultfree_partial (cfg : Config) (hmid : noMidFrame cfg = true) (σ σ0 : Nat → Label) (n n0 : Nat)
    (hfin : (run cfg σ n).final = true) (hfin0 : (run (faultFree cfg) σ0 n0).final = true) :
    (∀ x, Report.finding x ∈ (run cfg σ n).log → Report.finding x ∈ (run (faultFree cfg) σ0 n0).log) ∧
    (∀ w ∈ cfg.workers, w.fault = none → ∀ x, some x ∈ w.body → Report.finding x ∈ (run cfg σ n).log) ∧
    (∀ r ∈ (run (faultFree cfg) σ0 n0).log, r.isInternal = false) := by
  have hmid0 := noMidFrame_faultFree cfg
  obtain ⟨_, _, hlog, _⟩ := contained_partial cfg hmid σ n hfin
  obtain ⟨_, _, hlog0, _⟩ := contained_partial (faultFree cfg) hmid0 σ0 n0 hfin0
  refine ⟨?_, ?_, ?_⟩
  · intro x hx
    rw [hlog0]
    rw [hlog] at hx
    simp only [expectedReports, List.mem_flatMap] at hx ⊢
    obtain ⟨w, hw, hr⟩ := hx
    rcases (mem_reports w _).mp hr with ⟨y, hy, hxy⟩ | ⟨_, h⟩
    · cases hxy
      refine ⟨{ w with fault := none }, by simp only [faultFree, List.mem_map]; exact ⟨w, hw, rfl⟩, ?_⟩
      refine (mem_reports _ _).mpr (Or.inl ⟨x, ?_, rfl⟩)
      rw [delivered_faultfree _ rfl]
      exact mem_findingsUpTo w _ x hy
    · cases h
  · intro w hw hf x hx
    rw [hlog]
    simp only [expectedReports, List.mem_flatMap]
    exact ⟨w, hw, (mem_reports w _).mpr (Or.inl ⟨x, (delivered_faultfree w hf x).mpr hx, rfl⟩)⟩
  · intro r hr
    rw [hlog0] at hr
    simp only [expectedReports, List.mem_flatMap, faultFree, List.mem_map] at hr
    obtain ⟨w', ⟨w, _, rfl⟩, hr⟩ := hr
    rcases (mem_reports _ r).mp hr with ⟨y, _, rfl⟩ | ⟨hc, _⟩
    · rfl
    · simp [Worker.crashed, Worker.endStatus, Status.isCrash] at hc

theorem contribution_pos_iff (w : Worker) :
    0 < w.contribution ↔ (w.crashed = true ∨ w.limit < w.total ∨ w.rc ≠ 0) := by
  have := limit_le_total w
  unfold Worker.contribution
  cases w.crashed <;> by_cases h : w.limit = w.total <;> simp [h] <;> omega

/-- what the code does, exactly: the executor's result is non-zero iff some worker crashed (non-zero exit status or
signal), or its CHILD_END never arrived (also: premature `exit(0)`), or it returned a non-zero result itself -/
theorem exit_status_nonzero_iff_partial (cfg : Config) (hmid : noMidFrame cfg = true) (σ : Nat → Label) (n : Nat)
    (hfin : (run cfg σ n).final = true) :
    (run cfg σ n).result ≠ 0 ↔ ∃ w ∈ cfg.workers, w.crashed = true ∨ w.limit < w.total ∨ w.rc ≠ 0 := by
  obtain ⟨_, _, _, hres⟩ := contained_partial cfg hmid σ n hfin
  rw [hres, expectedResult, ← Nat.pos_iff_ne_zero, List.sum_pos_iff_exists_pos_nat]
  simp only [List.mem_map]
  constructor
  · rintro ⟨a, ⟨w, hw, rfl⟩, ha⟩
    exact ⟨w, hw, (contribution_pos_iff w).mp ha⟩
  · rintro ⟨w, hw, h⟩
    exact ⟨_, ⟨w, hw, rfl⟩, (contribution_pos_iff w).mpr h⟩

/-- a crashed worker makes cppcheck return the `--error-exitcode` value -/
theorem crash_sets_exit_status_partial (cfg : Config) (hmid : noMidFrame cfg = true) (σ : Nat → Label) (n : Nat)
    (hfin : (run cfg σ n).final = true) (exitCode : Nat) (hcrash : ∃ w ∈ cfg.workers, w.crashed = true) :
    exitStatus exitCode (run cfg σ n) = exitCode := by
  obtain ⟨w, hw, hc⟩ := hcrash
  have hne := (exit_status_nonzero_iff_partial cfg hmid σ n hfin).mpr ⟨w, hw, Or.inl hc⟩
  obtain ⟨ha, _⟩ := contained_partial cfg hmid σ n hfin
  simp [exitStatus, ha, hne]

/-- without faults the result is non-zero iff some file's own result is (the fault-free reference) -/
theorem faultfree_exit_status (cfg : Config) (σ : Nat → Label) (n : Nat) (hfin : (run (faultFree cfg) σ n).final = true) :
    (run (faultFree cfg) σ n).result ≠ 0 ↔ ∃ w ∈ cfg.workers, w.rc ≠ 0 := by
  have hmid0 := noMidFrame_faultFree cfg
  rw [exit_status_nonzero_iff_partial (faultFree cfg) hmid0 σ n hfin]
  simp only [faultFree, List.mem_map]
  constructor
  · rintro ⟨w', ⟨w, hw, rfl⟩, h⟩
    refine ⟨w, hw, ?_⟩
    simpa [Worker.crashed, Worker.endStatus, Status.isCrash, Worker.limit, Worker.total] using h
  · rintro ⟨w, hw, h⟩
    exact ⟨_, ⟨w, hw, rfl⟩, Or.inr (Or.inr h)⟩

/-! ### hypotheses are satisfiable; concrete witnesses -/

/-- two files, the first one (two findings, an output frame) segfaults after its first frame, the second is clean -/
def exampleCfg : Config :=
  { jobs := 2, workers := [⟨0, [some 10, none, some 11], 1, some ⟨1, false, .signaled 11⟩⟩, ⟨1, [none], 0, none⟩] }

example : noMidFrame exampleCfg = true := by decide
example : (exampleCfg.workers.map (·.file)).Nodup := by decide
example : 1 ≤ exampleCfg.jobs := by decide
example : expectedReports exampleCfg = [.finding 10, .internal 0 (.signaled 11)] := by decide
example : expectedResult exampleCfg = 2 := by decide

set_option maxRecDepth 4000 in
/-- a complete round-robin run of `exampleCfg` reaches a final state with the closed-form outcome -/
example : let s := runList 2 ((List.range 26).map (roundRobin 2)) (init exampleCfg)
    s.final = true ∧ s.log = [.finding 10, .internal 0 (.signaled 11)] ∧ s.result = 2 := by decide +kernel

/-- one clean file whose worker dies AFTER it has sent CHILD_END (crash point "after the last message") -/
def afterEndCfg : Config := { jobs := 2, workers := [⟨0, [], 0, some ⟨1, false, .signaled 11⟩⟩] }

def afterEndSchedule : List Label :=
  [.parent 0, .worker 0, .worker 0, .parent 0, .parent 0, .parent 0, .parent 0, .parent 0]

/-- The loop as it was before the `fix:` commit (no `++result` in the `waitpid` branch): the internal error is
reported, the loop is left, and the result is 0 — `crash_sets_exit_status_partial` was false of that code. -/
theorem legacy_exit_status_counterexample :
    let s := runListLegacy afterEndCfg.jobs afterEndSchedule (init afterEndCfg)
    s.done = true ∧ s.log = [.internal 0 (.signaled 11)] ∧ s.result = 0 ∧ exitStatus 7 s = 0 := by decide

/-- the same schedule on the current loop: result 1, exit status = --error-exitcode -/
example : let s := runList afterEndCfg.jobs afterEndSchedule (init afterEndCfg)
    s.done = true ∧ s.log = [.internal 0 (.signaled 11)] ∧ s.result = 1 ∧ exitStatus 7 s = 7 := by decide

/-- F14: worker 0 dies inside its second frame, worker 1 has a finding (20) -/
def midFrameCfg : Config :=
  { jobs := 2, workers := [⟨0, [some 10, some 11], 0, some ⟨1, true, .signaled 11⟩⟩, ⟨1, [some 20], 1, none⟩] }

def midFrameSchedule : List Label :=
  [.parent 0, .worker 0, .parent 0, .parent 0, .parent 0, .worker 0, .parent 0]

/-- **F14 (outside the claimed statement).**  A death inside a frame is not contained: the parent leaves through
`std::exit(EXIT_FAILURE)`; no internal error names the crashed file, the finding of the other file is lost and the exit
status is 1 instead of the --error-exitcode value. -/
theorem midframe_not_contained :
    let s := runList midFrameCfg.jobs midFrameSchedule (init midFrameCfg)
    noMidFrame midFrameCfg = false ∧ s.final = true ∧ s.aborted = true ∧
    Report.internal 0 (.signaled 11) ∉ s.log ∧ Report.finding 20 ∉ s.log ∧
    Report.finding 20 ∈ expectedReports (faultFree midFrameCfg) ∧ exitStatus 7 s = 1 := by decide

/-- … and `contained_partial` does not hold without its hypothesis -/
theorem contained_needs_frame_boundaries :
    ¬ ∀ (cfg : Config) (σ : Nat → Label) (n : Nat), (run cfg σ n).final = true → (run cfg σ n).aborted = false := by
  intro h
  have := h midFrameCfg (fun t => midFrameSchedule.getD t (.parent 0)) 7 (by decide)
  revert this
  decide

end Cppcheck.ProcFaults
