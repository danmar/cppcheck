import Cppcheck.Model.Unmatched
import Cppcheck.Proofs.Unmatched
/-!
C24 — unmatched suppressions are reported exactly.

The verdict of one suppression on one message (`v : Suppr → Msg → Res`, the real `Suppression::isSuppressed`) is a
parameter: every theorem holds for every `v` that reads no flag (`FlagFree`).  `MatchedBy v ops s` / `CheckedBy v ops s`
are the history facts the `matched` / `checked` flags are meant to record; they, `FlagFree`, `Origin` and `Acceptable` are defined
in Proofs/Unmatched.lean.
-/
namespace Cppcheck.Unmatched
open Cppcheck.Wire (Str)

/- Sample data for the `example`s.  The concrete runs are closed terms, evaluated by the kernel only (`decide +kernel`): the
   elaborator's evaluation of their string literals is slow. -/

def mkSuppr (id file : String) (line : Int) (inl : Bool := false) : Suppr :=
  { errorId := id.toList, fileName := file.toList, lineNumber := line, symbolName := [], macroName := [], hash := 0, thisAndNextLine := false,
    type := .unique, lineBegin := noLine, lineEnd := noLine, column := if inl then 1 else 0, isInline := inl, isPolyspace := false,
    checked := false, matched := false }

/-- a toy verdict: same id ⇒ Matched when the message tag is the line (or the suppression has no line), Checked on the line
    with another id, None elsewhere.  It reads no flag. -/
def toyVerdict (s : Suppr) (m : Msg) : Res :=
  if s.lineNumber != noLine && s.lineNumber != Int.ofNat m.tag then .none
  else if s.errorId == m.id then .matched else .checked

example : FlagFree toyVerdict := fun _ _ => rfl

/-- **The flags are exactly the history facts.**  After any sequence of `addSuppression` / `isSuppressed` /
    `markUnmatchedInlineSuppressionsAsChecked` calls, every entry of the list stems from the initial list or from an `add`,
    kept its parameters, and its `checked` (`matched`) flag is set iff it was set initially or one of the calls *after it
    entered the list* checked (matched) it. -/
theorem flags_exact (v : Suppr → Msg → Res) (hv : FlagFree v) (st0 : State) (ops : List Op) (e : Suppr)
    (he : e ∈ runOps v st0 ops) :
    ∃ s0 after, Origin st0 ops s0 after ∧ clear e = clear s0 ∧
      (e.checked = true ↔ s0.checked = true ∨ CheckedBy v after s0) ∧
      (e.matched = true ↔ s0.matched = true ∨ MatchedBy v after s0) := by
  rcases runOps_origin v ops st0 e he with ⟨s0, after, ho, rfl⟩
  have h := evolve_raised v hv after s0
  exact ⟨s0, after, ho, h.clear, h.checked, h.matched⟩

example : (runOps toyVerdict [] [.add (mkSuppr "nullPointer" "a.c" 3), .sup true ⟨"uninitvar".toList, 3⟩,
    .add (mkSuppr "zerodiv" "" noLine), .sup true ⟨"zerodiv".toList, 9⟩]).map (fun s => (s.checked, s.matched))
    = [(true, false), (true, true)] := by decide +kernel

/-- **The reported set, exactly.**  An entry is named by an unmatchedSuppression message iff the run did not bail out on a
    global `unmatchedSuppression` suppression, the entry never matched, carries no hash, is not filtered (disabled
    checks), is not silenced by an `unmatchedSuppression` entry of its own group, and
    * (file-local, not inline) one of the analysed files matches its file name, and it has no line or was checked;
    * (inline, with `--inline-suppr`) it was checked;
    * (global or wildcard, not inline) it is not a wildcard or was checked. -/
theorem unmatched_exact {F : Type} (files : List F) (pm : F → Suppr → Bool) (inl : Bool) (filt : Suppr → Bool) (st : State) (s : Suppr) :
    s ∈ report files pm inl filt st ↔
      bail st = false ∧ s ∈ recopy st ∧ s.matched = false ∧ s.hash = 0 ∧ filt s = false ∧
      ((s.isInline = false ∧ s.isLocal = true ∧ s.type ≠ .macro ∧ s.errorId ≠ checkersReportId ∧
          (s.lineNumber = noLine ∨ s.checked = true) ∧
          ∃ f ∈ files, pm f s = true ∧ selfSuppressed (unmatchedLocal (pm f) (recopy st)) s = false) ∨
       (s.isInline = true ∧ inl = true ∧ s.checked = true ∧ selfSuppressed (unmatchedInline (recopy st)) s = false) ∨
       (s.isInline = false ∧ s.isLocal = false ∧ s.errorId ≠ checkersReportId ∧ (s.checked = true ∨ s.isWildcard = false) ∧
          selfSuppressed (unmatchedGlobal (recopy st)) s = false)) := by
  change s ∈ (if bail st then [] else _) ↔ _
  cases bail st
  case true => simp
  simp only [Bool.false_eq_true, if_false, List.mem_append, List.mem_flatMap, List.mem_ite_nil_right, mem_toReport, mem_unmatchedLocal,
    mem_unmatchedGlobal, mem_unmatchedInline, true_and]
  constructor
  · rintro ((⟨f, hf, ⟨h0, h1, h2, h3, h4, h5, h6, h7, h8⟩, h9, h10⟩ | ⟨hi, ⟨h0, h1, h2, h3, h4⟩, h9, h10⟩) |
      ⟨⟨h0, h1, h2, h3, h4, h5, h6⟩, h9, h10⟩)
    · exact ⟨h0, h2, h5, h10, Or.inl ⟨h1, h7, h4, h6, h3, f, hf, h8, h9⟩⟩
    · exact ⟨h0, h3, h4, h10, Or.inr (Or.inl ⟨h1, hi, h2, h9⟩)⟩
    · exact ⟨h0, h2, h4, h10, Or.inr (Or.inr ⟨h1, h6, h5, h3, h9⟩)⟩
  · rintro ⟨h0, h2, h5, h10, (⟨h1, h7, h4, h6, h3, f, hf, h8, h9⟩ | ⟨h1, hi, h2', h9⟩ | ⟨h1, h6, h5', h3, h9⟩)⟩
    · exact Or.inl (Or.inl ⟨f, hf, ⟨h0, h1, h2, h3, h4, h5, h6, h7, h8⟩, h9, h10⟩)
    · exact Or.inl (Or.inr ⟨hi, ⟨h0, h1, h2', h2, h5⟩, h9, h10⟩)
    · exact Or.inr ⟨⟨h0, h1, h2, h3, h5, h5', h6⟩, h9, h10⟩

/-- a suppression whose `matched` flag is set is never named, whatever the files, options and filters -/
theorem not_reported_of_matched {F : Type} (files : List F) (pm : F → Suppr → Bool) (inl : Bool) (filt : Suppr → Bool)
    (st : State) (s : Suppr) (h : s.matched = true) : s ∉ report files pm inl filt st := fun hm =>
  Bool.false_ne_true (((unmatched_exact files pm inl filt st s).mp hm).2.2.1.symm.trans h)

/-- **The property, composed**: reported ⇔ applied to analysed code ∧ matched no finding, in terms of the *history* only.
    For an entry with origin `s0` (initial list or an `add`) that lived through the calls `after`: it is named by an
    unmatchedSuppression message iff no bail-out, it survived into the copy list, it started unmatched and **no call matched
    it**, it has no hash, is not filtered, and, by scope:
    file-local — an analysed file matches and (no line number ∨ it started checked ∨ **some call or token line checked it**);
    inline — `--inline-suppr` and it was checked;  global / wildcard — not a wildcard, or it was checked. -/
theorem reported_iff_history {F : Type} (v : Suppr → Msg → Res) (hv : FlagFree v) (st0 : State) (ops : List Op)
    (files : List F) (pm : F → Suppr → Bool) (inl : Bool) (filt : Suppr → Bool) (s0 : Suppr) (after : List Op) :
    let st := runOps v st0 ops
    let e := evolve v s0 after
    e ∈ report files pm inl filt st ↔
      bail st = false ∧ e ∈ recopy st ∧ ¬ (s0.matched = true ∨ MatchedBy v after s0) ∧ s0.hash = 0 ∧ filt e = false ∧
      ((s0.isInline = false ∧ s0.isLocal = true ∧ s0.type ≠ .macro ∧ s0.errorId ≠ checkersReportId ∧
          (s0.lineNumber = noLine ∨ s0.checked = true ∨ CheckedBy v after s0) ∧
          ∃ f ∈ files, pm f e = true ∧ selfSuppressed (unmatchedLocal (pm f) (recopy st)) e = false) ∨
       (s0.isInline = true ∧ inl = true ∧ (s0.checked = true ∨ CheckedBy v after s0) ∧
          selfSuppressed (unmatchedInline (recopy st)) e = false) ∨
       (s0.isInline = false ∧ s0.isLocal = false ∧ s0.errorId ≠ checkersReportId ∧
          ((s0.checked = true ∨ CheckedBy v after s0) ∨ s0.isWildcard = false) ∧
          selfSuppressed (unmatchedGlobal (recopy st)) e = false)) := by
  intro st e
  have hfl := evolve_raised v hv after s0
  have hc : clear e = clear s0 := hfl.clear
  have h1 : e.hash = s0.hash := congrArg (·.hash) hc
  have h2 : e.isInline = s0.isInline := congrArg (·.isInline) hc
  have h3 : e.isLocal = s0.isLocal := congrArg (·.isLocal) hc
  have h4 : e.type = s0.type := congrArg (·.type) hc
  have h5 : e.errorId = s0.errorId := congrArg (·.errorId) hc
  have h6 : e.lineNumber = s0.lineNumber := congrArg (·.lineNumber) hc
  have h7 : e.isWildcard = s0.isWildcard := congrArg (·.isWildcard) hc
  have hm : e.matched = false ↔ ¬ (s0.matched = true ∨ MatchedBy v after s0) := by
    rw [← hfl.matched]; cases e.matched <;> simp
  rw [unmatched_exact, hm, h1, h2, h3, h4, h5, h6, h7, hfl.checked]

/-- the history theorem is about entries that are really in the list: every entry of the final list has such an origin -/
theorem reported_has_origin (v : Suppr → Msg → Res) (st0 : State) (ops : List Op) (e : Suppr) (he : e ∈ runOps v st0 ops) :
    ∃ s0 after, Origin st0 ops s0 after ∧ e = evolve v s0 after :=
  runOps_origin v ops st0 e he

/-- **Never for a suppression that matched**: an entry of the list whose `matched` flag is set is in no report, and (history
    form) neither is an entry that some call after its origin matched. -/
theorem never_for_matched {F : Type} (v : Suppr → Msg → Res) (hv : FlagFree v) (st : State)
    (files : List F) (pm : F → Suppr → Bool) (inl : Bool) (filt : Suppr → Bool) :
    (∀ e, e.matched = true → e ∉ report files pm inl filt st) ∧
    (∀ s0 after, MatchedBy v after s0 → evolve v s0 after ∉ report files pm inl filt st) := by
  refine ⟨fun e h => not_reported_of_matched files pm inl filt st e h, fun s0 after hm => ?_⟩
  apply not_reported_of_matched
  exact (evolve_raised v hv after s0).matched.mpr (Or.inr hm)

/-- **Every token position is marked**: after `markUnmatchedInlineSuppressionsAsChecked` over a token stream, every entry whose
    scope contains the (file, line) of some token is checked — whatever the neighbouring tokens are (in particular when the
    stream changes file at an unchanged line number).  `markStream` is the loop with its current-position variables. -/
theorem mark_complete (toks : List (Str × Int)) (st : State) (l : Str × Int) (hl : l ∈ toks) (s : Suppr) (hs : s ∈ st)
    (hit : markHit l s = true) :
    ∃ s' ∈ markStream none toks st, clear s' = clear s ∧ s'.checked = true := by
  rw [markStream_eq_mark, mark_map]
  have h := markFold_raised toks s
  exact ⟨evolve1 (fun _ _ => Res.none) s (.mark toks), List.mem_map.mpr ⟨s, hs, rfl⟩, h.clear, h.checked.mpr (Or.inr ⟨l, hl, hit⟩)⟩

example : ((markStream none [("h.h".toList, 3), ("a.c".toList, 3)] [mkSuppr "nullPointer" "a.c" 3]).map (·.checked)) = [true] := by
  decide +kernel

/-- **The worker's logger leaves the flags of the single call** (thread / process executor, cc259cb): asking the file-local
    suppressions first and then all of them = asking all of them once. -/
theorem worker_reportErr_equals_single_call (v : Suppr → Msg → Res) (hv : FlagFree v) (st : State) (m : Msg) :
    workerReportErr true v st m = stepOp v st (.sup true m) := by
  have h1 : (isSuppressedWith false m.id st (st.map (v · m))).1 = st.map (fun s => evolve1 v s (.sup false m)) := sup_map v false m st
  have h2 : ∀ st', (isSuppressedWith true m.id st' (st'.map (v · m))).1 = st'.map (fun s => evolve1 v s (.sup true m)) := sup_map v true m
  unfold workerReportErr
  simp only [if_true, stepOp]
  have : (isSuppressedWith true m.id (isSuppressedWith false m.id st (st.map (v · m))).1
      ((isSuppressedWith false m.id st (st.map (v · m))).1.map (v · m))).1 = (isSuppressedWith true m.id st (st.map (v · m))).1 := by
    rw [h2, h1, h2, List.map_map]
    apply List.map_congr_left
    intro s _
    exact evolve1_local_then_global v hv s m
  split <;> exact this

/-- **At the suppression's own location**: the message names the suppression's id, carries its file, line (0 when it has none)
    and column, and has no location at all when the suppression has no file name. -/
theorem message_location (s : Suppr) :
    message s = (s.isPolyspace, s.errorId, s.fileName, (if s.lineNumber == noLine then 0 else s.lineNumber),
      (if s.fileName.isEmpty then 0 else s.column)) := rfl

example : (report [()] (fun _ s => s.fileName == "a.c".toList) false (fun _ => false)
    (runOps toyVerdict [] [.add (mkSuppr "nullPointer" "a.c" 3), .add (mkSuppr "zerodiv" "a.c" noLine), .add (mkSuppr "memleak" "" noLine),
      .sup true ⟨"nullPointer".toList, 3⟩])).map (·.errorId) = ["zerodiv".toList, "memleak".toList] := by decide +kernel

/-- **Merging worker states is order independent.**  The parent folds every REPORT_SUPPR message into its list
    (`recv`); for any two arrival orders the flags stored under every key are the same. -/
theorem merge_commutes (st : State) (ms ms' : List Suppr) (hp : ms.Perm ms') (ha : ∀ m ∈ ms, Acceptable m) (k) :
    flagsAt (ms.foldl (recv true) st) k = flagsAt (ms'.foldl (recv true) st) k := by
  have ha' : ∀ m ∈ ms', Acceptable m := fun m hm => ha m (hp.symm.subset hm)
  rw [foldl_recv_flagsAt k ms st ha, foldl_recv_flagsAt k ms' st ha']
  exact foldl_mergeFlags_perm (hp.filter _) _

example : Acceptable (wire (mkSuppr "nullPointer" "a.c" 3)) := by decide +kernel

/-- a flag `f` of `s0` after all ops = the flag before, or the flag of one of the copies the workers send back — for a flag
    whose history fact `H` splits over the workers' op lists and makes the copy checked, hence sent -/
theorem flag_of_sent_copies (v : Suppr → Msg → Res) (s0 : Suppr) (opss : List (List Op)) (f : Suppr → Bool)
    (hw : ∀ e, f (wire e) = f e) (H : List Op → Prop)
    (hf : ∀ ops, f (evolve v s0 ops) = true ↔ f s0 = true ∨ H ops)
    (hflat : H opss.flatten ↔ ∃ ops ∈ opss, H ops)
    (hsent : ∀ ops, H ops → (evolve v s0 ops).checked = true) :
    f (evolve v s0 opss.flatten) =
      (f s0 || (((opss.map (evolve v s0)).filter (fun e => e.isInline || e.checked)).map wire).any f) := by
  rw [Bool.eq_iff_iff, hf, hflat]
  simp only [Bool.or_eq_true, List.any_eq_true, List.mem_map, List.mem_filter]
  constructor
  · rintro (h | ⟨ops, h1, h2⟩)
    · exact Or.inl h
    · exact Or.inr ⟨wire (evolve v s0 ops), ⟨evolve v s0 ops, ⟨⟨ops, h1, rfl⟩, by simp [hsent ops h2]⟩, rfl⟩,
        (hw _).trans ((hf ops).mpr (Or.inr h2))⟩
  · rintro (h | ⟨w, ⟨e, ⟨⟨ops, h1, rfl⟩, _⟩, rfl⟩, h3⟩)
    · exact Or.inl h
    · exact ((hf ops).mp ((hw _).symm.trans h3)).imp_right fun h4 => ⟨ops, h1, h4⟩

/-- **… and equals the sequential run.**  For an entry `s0` of the initial list: folding the copies the workers send
    back (each worker ran its own ops on its own copy; a non-inline copy is only sent when checked) into the parent's
    flags gives exactly the flags `s0` has after the sequential run of all ops. -/
theorem merge_equals_sequential (v : Suppr → Msg → Res) (hv : FlagFree v) (s0 : Suppr) (opss : List (List Op)) :
    (((opss.map (evolve v s0)).filter (fun e => e.isInline || e.checked)).map wire).foldl mergeFlags (some (s0.checked, s0.matched))
      = some ((evolve v s0 opss.flatten).checked, (evolve v s0 opss.flatten).matched) := by
  have hfl := fun ops => evolve_raised v hv ops s0
  rw [foldl_mergeFlags_closed,
    flag_of_sent_copies v s0 opss (·.checked) (fun _ => rfl) (CheckedBy v · s0) (fun ops => (hfl ops).checked)
      (CheckedBy_flatten v opss s0) (fun ops h => (hfl ops).checked.2 (Or.inr h)),
    flag_of_sent_copies v s0 opss (·.matched) (fun _ => rfl) (MatchedBy v · s0) (fun ops => (hfl ops).matched)
      (MatchedBy_flatten v opss s0) (fun ops h => (hfl ops).checked.2 (Or.inr (MatchedBy_CheckedBy h)))]
  split
  · rename_i he
    rw [List.isEmpty_iff.1 he]
    simp
  · rfl

example : (((([[Op.sup true ⟨"uninitvar".toList, 3⟩], [Op.sup true ⟨"nullPointer".toList, 3⟩], []] : List (List Op)).map
      (evolve toyVerdict (mkSuppr "nullPointer" "a.c" 3))).filter (fun e => e.isInline || e.checked)).map wire).map
      (fun s => (s.checked, s.matched)) = [(true, false), (true, true)] := by decide +kernel

/-- a.c: three lines of code, no finding; `--suppress=uninitvar:a.c:3` -/
def lineRun : FileRun :=
  { path := "a.c".toList, inlineSupprs := [], tokenLines := [("a.c".toList, 1), ("a.c".toList, 2), ("a.c".toList, 3)], findings := [] }

/-- F24a: a command-line suppression for a line of analysed code that matches nothing is reported only when the
    unrelated option `--inline-suppr` is on (legacy caller: the token lines are fed to the list only then); with the
    repair (e1f7989, `markAlways`) it is reported either way -/
theorem line_suppression_needs_inline_counterexample :
    report [()] (fun _ s => s.fileName == "a.c".toList) false (fun _ => false)
        (runOps toyVerdict [mkSuppr "uninitvar" "a.c" 3] (fileOps false false lineRun)) = [] ∧
    (report [()] (fun _ s => s.fileName == "a.c".toList) true (fun _ => false)
        (runOps toyVerdict [mkSuppr "uninitvar" "a.c" 3] (fileOps false true lineRun))).map (·.errorId)
      = ["uninitvar".toList] ∧
    (report [()] (fun _ s => s.fileName == "a.c".toList) false (fun _ => false)
        (runOps toyVerdict [mkSuppr "uninitvar" "a.c" 3] (fileOps true false lineRun))).map (·.errorId)
      = ["uninitvar".toList] := by
  decide +kernel

/-- F24b: a suppression with a hash loses the hash on the way from a worker to the parent (`toString` does not print it):
    the parent adds a second, hash-less entry, which the report then names, although the single executor (one list)
    never reports an entry with a hash.  With the repair (e546e3c, `skipHash`) nothing is sent for it. -/
theorem hash_lost_on_wire_counterexample :
    let s : Suppr := { mkSuppr "nullPointer" "a.c" noLine with hash := 12345 }
    let worker := runOps (fun _ _ => Res.checked) [s] [.sup true ⟨"nullPointer".toList, 1⟩]
    let parent := (workerReport false worker).foldl (recv true) [s]
    report [()] (fun _ x => x.fileName == "a.c".toList) false (fun _ => false) worker = [] ∧
    (report [()] (fun _ x => x.fileName == "a.c".toList) false (fun _ => false) parent).map (fun x => (x.errorId, x.hash))
      = [("nullPointer".toList, 0)] ∧
    workerReport true worker = [] := by
  decide +kernel

/-- what a worker sends has no hash, and keeps its key on the wire whenever the entry is a plain one: no `thisAndNextLine`
    flag, type unique without block lines and macro name, a line number only together with a file name — the parent then
    finds its own entry instead of adding a twin (inline block / macro / file suppressions do change their key: the parent
    holds them as a separate `unique` entry with the same flags) -/
theorem wire_keeps_key (st : State) (m : Suppr) (hm : m ∈ workerReport true st) :
    ∃ e ∈ st, m = wire e ∧ e.hash = 0 ∧
      (e.thisAndNextLine = false → e.type = .unique → e.lineBegin = noLine → e.lineEnd = noLine → e.macroName = [] →
        (e.fileName = [] → e.lineNumber = noLine) → key m = key e) := by
  simp only [workerReport, List.mem_map, List.mem_filter, Bool.and_eq_true, Bool.not_eq_true',
    decide_eq_false_iff_not, Bool.true_and] at hm
  rcases hm with ⟨e, ⟨he, hh, _⟩, rfl⟩
  have h0 : e.hash = 0 := Nat.eq_zero_of_not_pos hh
  refine ⟨e, he, rfl, h0, ?_⟩
  intro ht hty hb hE hmac hl
  simp only [key, wire, h0, ht, hty, hb, hE, hmac]
  by_cases hf : e.fileName = []
  · simp [hf, hl hf]
  · have : e.fileName.isEmpty = false := by cases hfe : e.fileName <;> simp_all
    simp [this]

/-- F24c: `--suppress=zerodiv:g.c:1 --suppress=zerodiv`, one zerodiv finding at g.c:1.  With one job both suppressions
    see the finding and nothing is reported; a worker of the thread / process executor stops at the local one, the
    global one stays unmatched and is reported.  With the repair (cc259cb, `showGlobal`) the worker marks both. -/
theorem local_hides_from_global_counterexample :
    let st0 := [mkSuppr "zerodiv" "g.c" 1, mkSuppr "zerodiv" "" noLine]
    let m : Msg := ⟨"zerodiv".toList, 1⟩
    let rep := fun st => (report [()] (fun _ s => s.fileName == "g.c".toList) false (fun _ => false) st).map (·.fileName)
    rep (runOps toyVerdict st0 [.sup true m]) = [] ∧
    rep (workerReportErr false toyVerdict st0 m) = [[]] ∧
    rep (workerReportErr true toyVerdict st0 m) = [] := by
  decide +kernel

end Cppcheck.Unmatched
