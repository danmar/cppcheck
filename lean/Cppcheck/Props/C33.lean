import Cppcheck.Proofs.Match
/-
C33 — property theorems (compiled side and the find loop).

`lang (parse p) ts v` is the documented pattern language with its three outcomes (match / no match /
InternalError for `%varid%` evaluated under varid 0).  For EVERY pattern string, every token list (of
any length) and every varid the program the match compiler emits is compared with it.  No bound on
pattern size or list length: the core induction is `run_compileWords`, `run_compile` its instance for a whole
pattern (Proofs/Match.lean).

The unrestricted statement is FALSE on the real code, in two reachable ways, and both are kept
visible here with their counterexamples:
  * a token spelled like a literal of the compiler's `tokTypes` table but typed differently (F17,
    e.g. the C++ variable `restrict`): the compiled literal test also asks for the token type;
  * varid 0 with a pattern that spells `%varid%`: the compiled code throws as soon as it reaches
    the word, the language (and the interpreter) only when the `%varid%` alternative is evaluated.
-/
namespace Cppcheck.Match
open Cppcheck.Wire

/-- the statement one would like: no hypothesis on tokens or varid -/
def CompiledEqLanguageUnrestricted : Prop :=
  ∀ (p : Str) (hasVarid : Bool) (ts : List Tok) (v : Nat),
    run (compile p hasVarid) ts v = lang (parse p) ts v

def exTok (s : String) (ty : TokType) (vid : Nat) (nm : Bool) : Tok := ⟨s.toList, ty, vid, nm⟩

/-- outside `TokWF` (F17): the variable `restrict` against `const|restrict` — the language accepts
    the spelling, the compiled test `tokType()==eKeyword && str()=="restrict"` does not.
    Reproduced on the real code (corpus/C33, known finding `literal-typed-token`). -/
theorem compiled_ne_language_literal_typed_token :
    TokWF (exTok "restrict" .eVariable 1 true) = false ∧
    run (compile "const|restrict".toList false) [exTok "restrict" .eVariable 1 true] 0 = .f ∧
    lang (parse "const|restrict".toList) [exTok "restrict" .eVariable 1 true] 0 = .t := by decide +kernel

/-- varid 0: `x|%varid%` against the token `x` — compiled throws before looking at the token, the
    language matches on the first alternative; `%varid%` against the null token — compiled throws,
    the language says no match.  Reproduced on the real code (known finding `varid0-eager-throw`). -/
theorem compiled_ne_language_varid0 :
    run (compile "x|%varid%".toList true) [exTok "x" .eName 0 true] 0 = .err ∧
    lang (parse "x|%varid%".toList) [exTok "x" .eName 0 true] 0 = .t ∧
    run (compile "%varid%".toList true) [] 0 = .err ∧
    lang (parse "%varid%".toList) [] 0 = .f := by decide +kernel

theorem compiled_eq_language_unrestricted_false : ¬ CompiledEqLanguageUnrestricted := by
  intro h
  have := h "const|restrict".toList false [exTok "restrict" .eVariable 1 true] 0
  rw [compiled_ne_language_literal_typed_token.2.1, compiled_ne_language_literal_typed_token.2.2] at this
  cases this

/-- **C33 (compiled side), partial: tokens inside `TokWF`, and either a non-zero varid or a function
    compiled without varid argument for a pattern that does not use `%varid%`.**
    The specialised matcher generated for pattern `p` returns the documented-language result on every
    token list. -/
theorem compiled_eq_language_partial (p : Str) (hasVarid : Bool) (ts : List Tok) (v : Nat)
    (hts : ∀ t ∈ ts, TokWF t = true)
    (hv : v ≠ 0 ∨ (hasVarid = false ∧ usesVarid (parse p) = false)) :
    run (compile p hasVarid) ts v = lang (parse p) ts v := by
  -- of `run_compile`'s three cases `v ≠ 0` is passed on; the other becomes the third: no word uses `%varid%`
  refine (run_compile p hasVarid ts v hts (hv.imp_right fun h => .inr fun w hw => ?_)).resolve_right ?_
  · exact wordOk_of_not_uses (parse p) h.2 _ (List.mem_map.2 ⟨w, hw, rfl⟩)
  · rintro ⟨h1, h2, _, _⟩
    rcases hv with h | ⟨h', _⟩
    · exact h h2
    · rw [h'] at h1; cases h1

/-- **C33 (compiled side), every varid: the compiled matcher refines the language.**  Whatever the
    varid, the function generated with a varid argument returns the language result, or — only under
    varid 0 — throws InternalError.  In particular whenever the language throws, so does the compiled
    matcher, and a verdict (true/false) of the compiled matcher is always the language's. -/
theorem compiled_refines_language (p : Str) (ts : List Tok) (v : Nat)
    (hts : ∀ t ∈ ts, TokWF t = true) :
    run (compile p true) ts v = lang (parse p) ts v ∨ (v = 0 ∧ run (compile p true) ts v = .err) :=
  (run_compile p true ts v hts (.inr (.inl rfl))).imp_right fun h => ⟨h.2.1, h.2.2.2⟩

/-- a pattern that nowhere spells `%varid%` (e.g. `Token::Match(tok, "a b", 0)`): equality for every
    varid and both call shapes -/
theorem compiled_eq_language_nomention (p : Str) (hasVarid : Bool) (ts : List Tok) (v : Nat)
    (hts : ∀ t ∈ ts, TokWF t = true) (hm : ∀ w ∈ words p, wordMentionsVarid w = false) :
    run (compile p hasVarid) ts v = lang (parse p) ts v := by
  refine (run_compile p hasVarid ts v hts (.inr (.inr fun w hw => wordOk_of_not_mentions w (hm w hw)))).resolve_right ?_
  rintro ⟨_, _, ⟨w, hw, hmw⟩, _⟩
  rw [hm w hw] at hmw
  cases hmw

/-! ### the same over the coarse `sem`, the form Props/C05.lean uses (`lang_eq_sem` is the bridge) -/

theorem compiled_eq_language (p : Str) (hasVarid : Bool) (ts : List Tok) (v : Nat)
    (hts : ∀ t ∈ ts, TokWF t = true) (hv : v ≠ 0) :
    run (compile p hasVarid) ts v = sem (parse p) ts v := by
  rw [compiled_eq_language_partial p hasVarid ts v hts (Or.inl hv), lang_eq_sem _ _ _ (Or.inl hv)]

theorem compiled_eq_language_novarid (p : Str) (ts : List Tok)
    (hts : ∀ t ∈ ts, TokWF t = true) (hp : usesVarid (parse p) = false) :
    run (compile p false) ts 0 = sem (parse p) ts 0 := by
  rw [compiled_eq_language_partial p false ts 0 hts (Or.inr ⟨rfl, hp⟩), lang_eq_sem _ _ _ (Or.inr hp)]

/-! ### findmatch: the compiled find returns the language's first match

`FirstMatch m ts budget r` (Proofs/Match.lean) is the declarative statement "r is what a find has to
return": a hit at `i` means `m` accepts at `i` and rejects at every `j < i`; `none` means `m` rejects
at every position of the range; `err` means the first position that is not a rejection throws.  It
determines `r` uniquely (`firstMatch_unique`). -/

/-- **compiled findmatch = first match of the language**, all three outcomes -/
theorem find_compiled_eq_language (p : Str) (hasVarid : Bool) (v : Nat) (ts : List Tok) (budget : Nat)
    (hts : ∀ t ∈ ts, TokWF t = true)
    (hv : v ≠ 0 ∨ (hasVarid = false ∧ usesVarid (parse p) = false)) :
    FirstMatch (fun ts' => lang (parse p) ts' v) ts budget
      (findWith (fun ts' => run (compile p hasVarid) ts' v) ts budget) :=
  findWith_firstMatch _ _ ts budget fun j _ =>
    compiled_eq_language_partial p hasVarid (ts.drop j) v (fun t ht => hts t (List.mem_of_mem_drop ht)) hv

/-- a hit of the compiled `findmatchN` (accumulator form, as emitted) is the FIRST position of the
    range at which the language matches -/
theorem findFrom_first (p : Str) (hasVarid : Bool) (v : Nat) (ts : List Tok) (idx budget i : Nat)
    (hts : ∀ t ∈ ts, TokWF t = true)
    (hv : v ≠ 0 ∨ (hasVarid = false ∧ usesVarid (parse p) = false))
    (h : findFrom (compile p hasVarid) v ts idx budget = .inl (some i)) :
    idx ≤ i ∧ i - idx < ts.length ∧ i - idx < budget ∧
      lang (parse p) (ts.drop (i - idx)) v = .t ∧
      ∀ j, j < i - idx → lang (parse p) (ts.drop j) v = .f := by
  rw [findFrom_eq_findWith, Find.legacy_hit] at h
  obtain ⟨k, hk, rfl⟩ := h
  have hs := find_compiled_eq_language p hasVarid v ts budget hts hv
  rw [hk] at hs
  simpa [FirstMatch] using hs

/-- `nullptr` from the compiled `findmatchN`: no position of the range matches -/
theorem findFrom_none (p : Str) (hasVarid : Bool) (v : Nat) (ts : List Tok) (idx budget : Nat)
    (hts : ∀ t ∈ ts, TokWF t = true)
    (hv : v ≠ 0 ∨ (hasVarid = false ∧ usesVarid (parse p) = false))
    (h : findFrom (compile p hasVarid) v ts idx budget = .inl none) :
    ∀ j, j < ts.length → j < budget → lang (parse p) (ts.drop j) v = .f := by
  rw [findFrom_eq_findWith, Find.legacy_none] at h
  have hs := find_compiled_eq_language p hasVarid v ts budget hts hv
  rw [h] at hs
  exact hs

/-- under the hypotheses of the partial theorem the compiled find never throws when `v ≠ 0` -/
theorem findFrom_no_throw (p : Str) (hasVarid : Bool) (v : Nat) (ts : List Tok) (idx budget : Nat)
    (hts : ∀ t ∈ ts, TokWF t = true) (hv : v ≠ 0) :
    findFrom (compile p hasVarid) v ts idx budget ≠ .inr () := by
  intro h
  rw [findFrom_eq_findWith, Find.legacy_err] at h
  have hs := find_compiled_eq_language p hasVarid v ts budget hts (Or.inl hv)
  rw [h] at hs
  obtain ⟨i, _, _, h3, _⟩ := hs
  -- `h3` (after beta): the language throws at position `i`; under `v ≠ 0` it is `sem`, which only has verdicts
  simp only [] at h3
  rw [lang_eq_sem _ _ _ (Or.inl hv)] at h3
  simp only [sem, hv, and_false, if_false, Res.ofBool] at h3
  split at h3 <;> cases h3

/-! non-vacuity: the hypotheses are met by ordinary tokens, the theorems are about programs with
    several step kinds, and each outcome of a find occurs -/

example : TokWF (exTok "x" .eVariable 3 true) = true ∧ TokWF (exTok "=" .eAssignmentOp 0 false) = true := by decide +kernel
example : compile "%varid% =|+= !!0 [;,] foo|".toList true =
    [.checkVarid, .require [.varidName], .next,
     .require [.lit ['='] [.eAssignmentOp], .lit ['+', '='] [.eAssignmentOp]], .next,
     .reject ['0'], .nextSafe, .cls [';', ','], .next, .optional [.lit ['f','o','o'] []]] := by decide +kernel
example : usesVarid (parse "a b|c".toList) = false := by decide +kernel
example : ∀ w ∈ words "a b|c !!d [xy]".toList, wordMentionsVarid w = false := by decide +kernel
-- hit at 2 (not at the earlier near-miss), nullptr because of the `end` budget, nullptr on the empty list
example : findFrom (compile "x =".toList false) 0
    [exTok "x" .eName 0 true, exTok ";" .eExtendedOp 0 false, exTok "x" .eName 0 true, exTok "=" .eAssignmentOp 0 false] 0 4
      = .inl (some 2) := by decide +kernel
example : findFrom (compile "x =".toList false) 0
    [exTok "x" .eName 0 true, exTok ";" .eExtendedOp 0 false, exTok "x" .eName 0 true, exTok "=" .eAssignmentOp 0 false] 0 2
      = .inl none := by decide +kernel
example : findFrom (compile "x".toList false) 0 [] 0 5 = .inl none := by decide +kernel
-- the throw of a find: varid 0, first position rejects on an earlier word, second reaches `%varid%`
example : findFrom (compile "a %varid%".toList true) 0 [exTok "b" .eName 0 true, exTok "a" .eName 0 true] 0 2
    = .inr () := by decide +kernel

end Cppcheck.Match
