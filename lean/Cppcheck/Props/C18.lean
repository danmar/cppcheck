import Cppcheck.Model.Cache
import Cppcheck.Proofs.Cache
import Cppcheck.Gen.HashInput
/-
C18 — incremental analysis is transparent across edit histories.

`World` = (hash function, per-file analysis, per-file summary, whole-program analysis, the function-return summaries a file
writes and how a run loads them, key composition, files.txt lookup); every theorem below quantifies over all of them unless a
concrete `toyWorld` witness is named.
A history is a list of `edit f` (any function on the tree of analysis inputs) and `run vis` events over one build directory.
-/
namespace Cppcheck.Cache
open Cppcheck.Wire

variable {H S F : Type} [DecidableEq H]

/-! ## the property, with the hypotheses the proof needs -/

/-- **Transparency for any key composition and any lookup.** Starting from an empty build directory, every run of the history
    reports (per file and whole program) exactly what a run without build directory reports on the same tree, provided
    * `hinj`  no two hash inputs that occur in the history collide (`HashInjOn`; no function into `size_t` is injective
              on all byte strings, so the hypothesis is about the history only),
    * `henc`  on the inputs the history analyses the hash data determines the analysis input
              (path, non-comment tokens with full locations, header names and tokens),
    * `hmac`  no suppression decision depends on the macro names of a finding (they are not stored in the cache),
    * `hmap`  in every run each listed file is looked up in its own line of files.txt,
    * `hsum`  no analysis result of the history depends on the function-return summaries (`*.sN`) that the run loads
              from the build directory at its start. -/
theorem history_transparent_generic (W : World H S F) (t0 : Tree) (evs : List Event)
    (hinj : HashInjOn W ((runsOf t0 evs).flatMap (·.2)))
    (henc : KeyFaithfulOn W.enc ((runsOf t0 evs).flatMap (·.2)))
    (hmac : ∀ r ∈ runsOf t0 evs, MacroFree W r.1 r.2)
    (hmap : ∀ r ∈ runsOf t0 evs, MapOK W.lk (r.2.map (·.path)))
    (hsum : ∀ r ∈ cachedRuns W ([], []) t0 evs, SummFree W r.1 r.2) :
    execCached W ([], []) t0 evs = execFresh W t0 evs :=
  (exec_spec W _ hinj henc evs ([], []) t0 (inv_empty W _)
    (fun r hr => ⟨fun _ hi => List.mem_flatMap.mpr ⟨r, hr, hi⟩, hmac r hr⟩) hsum).2 hmap

/-- the per-file findings alone do not depend on the file-to-cache-file mapping -/
theorem history_transparent_perFile_generic (W : World H S F) (t0 : Tree) (evs : List Event)
    (hinj : HashInjOn W ((runsOf t0 evs).flatMap (·.2)))
    (henc : KeyFaithfulOn W.enc ((runsOf t0 evs).flatMap (·.2)))
    (hmac : ∀ r ∈ runsOf t0 evs, MacroFree W r.1 r.2)
    (hsum : ∀ r ∈ cachedRuns W ([], []) t0 evs, SummFree W r.1 r.2) :
    (execCached W ([], []) t0 evs).map (·.perFile) = (execFresh W t0 evs).map (·.perFile) :=
  (exec_spec W _ hinj henc evs ([], []) t0 (inv_empty W _)
    (fun r hr => ⟨fun _ hi => List.mem_flatMap.mpr ⟨r, hr, hi⟩, hmac r hr⟩) hsum).1

/-! ## the hypotheses are satisfiable -/

/-- a history with an edit that really changes the key: shift by 3 lines, both runs transparent -/
example :
    let W := toyWorld Encoding.legacy .suffixFirst
    let t0 : Tree := [mkInput "a.c" [("x", 1, 1), ("!", 1, 3)], mkInput "b.c" [("?", 2, 1)]]
    let evs := [Event.run showAll, .edit (shiftLines "a.c".toList 3), .run showAll]
    HashInjOn W ((runsOf t0 evs).flatMap (·.2))
    ∧ KeyFaithfulOn W.enc ((runsOf t0 evs).flatMap (·.2))
    ∧ (∀ r ∈ runsOf t0 evs, MacroFree W r.1 r.2)
    ∧ (∀ r ∈ runsOf t0 evs, MapOK W.lk (r.2.map (·.path)))
    ∧ (∀ r ∈ cachedRuns W ([], []) t0 evs, SummFree W r.1 r.2) := by
  decide +kernel

/-! ## each hypothesis of the generic theorem is necessary: counterexamples for the key composition and the lookup of the pinned
    commit (repaired by 72c97eb / 249f096), and for the two defects that remain -/

/-- F3: `static_cast<char>(line)` / `(col)`: the same token on line 1 and on line 257 (column 1 and 257) has the same hash data -/
theorem encoding_not_injective :
    ¬ KeyFaithfulOn Encoding.legacy [mkInput "t.c" [("!", 1, 1)], mkInput "t.c" [("!", 257, 1)]]
    ∧ ¬ KeyFaithfulOn Encoding.legacy [mkInput "t.c" [("!", 1, 1)], mkInput "t.c" [("!", 1, 257)]] := by
  decide +kernel

/-- F3 as a history: run, prepend 256 blank lines, run – the cached run reports line 1, the fresh run line 257 -/
theorem linecol_mod_256_counterexample :
    let W := toyWorld Encoding.legacy .exactFirst
    let t0 : Tree := [mkInput "t.c" [("x", 1, 1), ("!", 1, 25)]]
    let evs := [Event.run showAll, .edit (shiftLines "t.c".toList 256), .run showAll]
    HashInjOn W ((runsOf t0 evs).flatMap (·.2))
    ∧ ((execCached W ([], []) t0 evs).map (·.perFile.flatten.map (·.line)) = [[1], [1]])
    ∧ ((execFresh W t0 evs).map (·.perFile.flatten.map (·.line)) = [[1], [257]]) := by
  decide +kernel

/-- nothing separates the files and no file name is hashed: moving the code of `m.c` into the header it includes keeps the key;
    the cached run still reports `m.c`, the fresh run `h.h` -/
theorem file_boundary_counterexample :
    let W := toyWorld Encoding.legacy .exactFirst
    let inc := [("#", 1, 1), ("include", 1, 2), ("\"h.h\"", 1, 10)]
    let t0 : Tree := [mkInput "m.c" (inc ++ [("!", 2, 1)]) [("h.h", [])]]
    let t1 : Tree := [mkInput "m.c" inc [("h.h", [("!", 2, 1)])]]
    let evs := [Event.run showAll, .edit (fun _ => t1), .run showAll]
    ((execCached W ([], []) t0 evs).map (·.perFile.flatten.map (·.file)) = [["m.c".toList], ["m.c".toList]])
    ∧ ((execFresh W t0 evs).map (·.perFile.flatten.map (·.file)) = [["m.c".toList], ["h.h".toList]]) := by
  decide +kernel

/-- the suffix-first lookup sends `d/a.c` to the cache file of `a.c` -/
theorem suffix_lookup_shares_cache_file : ¬ MapOK .suffixFirst ["a.c".toList, "d/a.c".toList] := by
  decide +kernel

/-- … so `d/a.c` overwrites `a.a1`, `a.a2` is never written, and the whole-program pass misses the summary of `a.c`
    (here: the whole-program finding that needs both files is lost); the key composition plays no role (`Encoding.fixed`) -/
theorem suffix_lookup_counterexample :
    let W := toyWorld Encoding.fixed .suffixFirst
    let t0 : Tree := [mkInput "a.c" [("?", 1, 1)], mkInput "d/a.c" [("?", 1, 1), ("x", 2, 1)]]
    ((execCached W ([], []) t0 [.run showAll]).map (·.whole.map (·.file)) = [[]])
    ∧ ((execFresh W t0 [.run showAll]).map (·.whole.map (·.file)) = [["a.c".toList, "d/a.c".toList]]) := by
  decide +kernel

/-- … and with the path not part of the key, removing `a.c` makes `d/a.c` reuse the results of the removed file -/
theorem removed_file_counterexample :
    let W := toyWorld Encoding.legacy .suffixFirst
    let t0 : Tree := [mkInput "a.c" [("!", 1, 1)], mkInput "d/a.c" [("!", 1, 1)]]
    let evs := [Event.run showAll, .edit (removeFile "a.c".toList), .run showAll]
    ((execCached W ([], []) t0 evs).map (·.perFile.flatten.map (·.file)) = [["a.c".toList, "a.c".toList], ["a.c".toList]])
    ∧ ((execFresh W t0 evs).map (·.perFile.flatten.map (·.file)) = [["a.c".toList, "d/a.c".toList], ["d/a.c".toList]]) := by
  decide +kernel

/-- the macro names of a location are not stored: a `cppcheck-suppress-macro` suppression hides the finding in the analysing
    run and in every fresh run, but not when the finding is replayed from the cache -/
theorem macro_suppression_counterexample :
    let W := toyWorld Encoding.fixed .exactFirst
    let vis : Finding → Bool := fun f => !f.macros.contains "M".toList
    let t0 : Tree := [mkInput "m.c" [("!", 3, 7)]]
    let evs := [Event.run vis, .run vis]
    ((execCached W ([], []) t0 evs).map (·.perFile.flatten.length) = [0, 1])
    ∧ ((execFresh W t0 evs).map (·.perFile.flatten.length) = [0, 0]) := by
  decide +kernel

/-- the function-return summaries (`b.s1`) of the first run are loaded at the start of the second run and are not part of the
    key: `z.c`, re-analysed after an edit, is analysed with `f` known to return and gets a finding a fresh run lacks -/
theorem summaries_counterexample :
    let W := toyWorld Encoding.fixed .exactFirst
    let t0 : Tree := [mkInput "b.c" [("f", 1, 6)], mkInput "z.c" [("~", 2, 1)]]
    let evs := [Event.run showAll, .edit (shiftLines "z.c".toList 1), .run showAll]
    ((cachedRuns W ([], []) t0 evs).map (·.1) = [[], [['f']]])
    ∧ ((execCached W ([], []) t0 evs).map (·.perFile.flatten.map (·.id)) = [[], ["leak".toList]])
    ∧ ((execFresh W t0 evs).map (·.perFile.flatten.map (·.id)) = [[], []]) := by
  decide +kernel

/-! ## the key composition and the lookup of the current code discharge `henc` and `hmap` -/

/-- toolinfo starts with `<len>:<path>` (what CppCheck::calculateHash writes first: `current_toolinfo_path_first`) -/
def PathPrefixed (i : FileInput) : Prop := (dec i.path.length ++ ':' :: i.path) <+: i.toolinfo

instance (i : FileInput) : Decidable (PathPrefixed i) := by unfold PathPrefixed; infer_instance

/-- CppCheck::calculateHash with `filePath.size() << ':' << filePath` first produces such a toolinfo -/
theorem render_pathPrefixed (items : List ToolItem) (sv : SettingsView) (ti : Str)
    (h : renderToolinfo (.filePathLen :: .lit ':' :: .filePath :: items) sv = some ti) :
    (dec sv.filePath.length ++ ':' :: sv.filePath) <+: ti := by
  rw [renderToolinfo_cons, renderToolinfo_cons, renderToolinfo_cons] at h
  cases hr : renderToolinfo items sv with
  | none => simp [hr, renderItem] at h
  | some rest =>
    simp only [hr, renderItem] at h
    cases h
    exact ⟨rest, by simp⟩

/-- toolinfo determines the analysis options (trivially true along a history that never changes an option; the subject of C19) -/
def OptsDetermined (L : List FileInput) : Prop := ∀ a ∈ L, ∀ b ∈ L, a.toolinfo = b.toolinfo → a.opts = b.opts

instance (L : List FileInput) : Decidable (OptsDetermined L) := by unfold OptsDetermined; infer_instance

/-- **the hash data of `Encoding.fixed` (the code's, `current_encoding_fixed`) determines the analysis input** (no hypothesis on
    the tokens) -/
theorem fixed_key_faithful (L : List FileInput) (hp : ∀ i ∈ L, PathPrefixed i) (ho : OptsDetermined L) :
    KeyFaithfulOn Encoding.fixed L := by
  intro a ha b hb h
  obtain ⟨h1, h2, h3⟩ := hashInput_fixed_unique a b h
  have hopts := ho a ha b hb h1
  obtain ⟨ra, hra⟩ := hp a ha
  obtain ⟨rb, hrb⟩ := hp b hb
  have hpath : a.path = b.path :=
    (prefixCode_lenPrefixed a.path b.path ra rb trivial trivial (hra.trans (h1.trans hrb.symm))).1
  simp only [FileInput.view, hpath, h2, h3, hopts]

/-- AnalyzerInformation::getFilesTxt never gives two listed files the same cache file (any list of paths, any order,
    after any add / remove / rename), and with the exact-first lookup each file finds its own -/
theorem files_txt_mapping_injective (paths : List Str) :
    ((filesTxt paths).map (·.afile)).Nodup ∧ (paths.Nodup → MapOK .exactFirst paths) :=
  ⟨filesTxtFrom_afile_nodup paths [], exactFirst_mapOK paths⟩

/-- the suffix-first lookup of the pinned commit does so only when no listed path ends with another listed path -/
theorem files_txt_mapping_injective_partial (paths : List Str) (hnd : paths.Nodup) (hsfx : NoSuffixPair paths) :
    MapOK .suffixFirst paths := by
  have hsrc : ∀ l ∈ filesTxt paths, l.source ∈ paths := fun l hl =>
    filesTxt_source paths ▸ List.mem_map_of_mem (f := (·.source)) hl
  exact mapOK_of_own _ paths hnd (lookupSuffix_own _ fun a ha b hb => hsfx _ (hsrc a ha) _ (hsrc b hb))

example : NoSuffixPair ["a.c".toList, "d/b.c".toList, "ba.cpp".toList] ∧ ["a.c".toList, "d/b.c".toList, "ba.cpp".toList].Nodup := by
  decide +kernel

/-! ## what the code composes today (regenerated from the source on every run) -/

/-- Preprocessor::calculateHash composes the uniquely decodable hash data -/
theorem current_encoding_fixed : Cppcheck.Gen.HashInput.encoding = Encoding.fixed := by decide

/-- getAnalyzerInfoFileFromFilesTxt prefers the exact path -/
theorem current_lookup_exact : Cppcheck.Gen.HashInput.lookupKind = .exactFirst := by decide

/-- CppCheck::calculateHash writes `<len>:<path>` first: every toolinfo it renders is `PathPrefixed` -/
theorem current_toolinfo_path_first (sv : SettingsView) (ti : Str)
    (h : renderToolinfo Cppcheck.Gen.HashInput.toolinfoItems sv = some ti) :
    (dec sv.filePath.length ++ ':' :: sv.filePath) <+: ti :=
  render_pathPrefixed (Cppcheck.Gen.HashInput.toolinfoItems.drop 3) sv ti (by
    have : Cppcheck.Gen.HashInput.toolinfoItems
        = .filePathLen :: .lit ':' :: .filePath :: Cppcheck.Gen.HashInput.toolinfoItems.drop 3 := rfl
    rw [this] at h; exact h)

/-- every field the translated toolinfo chain reads is one the model's `SettingsView` carries -/
theorem current_toolinfo_fields_known :
    ∀ it ∈ Cppcheck.Gen.HashInput.toolinfoItems, ∀ f ∈ it.fields,
      f ∈ ["cppcheckCfgProductName", "severity:warning", "severity:style", "severity:performance", "severity:portability",
           "severity:information", "userDefines", "checkConfiguration", "force", "maxConfigsOption", "checkLevel", "addonInfos",
           "premiumArgs", "suppressions", "certainty:inconclusive", "checks:unusedFunction", "checks:missingInclude", "userUndefs",
           "standards", "platform", "libraries"] := by
  decide +kernel

/-- **Transparency (the property, for the code as it is: commits 72c97eb + 249f096).**  For every hash function, per-file
    analysis, summaries and whole-program analysis: every run of every history over one build directory – any edits: token
    edits, line and column shifts of any size, comment edits, header edits, adding / removing / renaming / touching files –
    reports what a run without build directory reports, given
    * `hinj`  no two hash inputs of the history collide,
    * `hpath` toolinfo starts with `<len>:<path>` (what CppCheck::calculateHash writes: `current_toolinfo_path_first`),
    * `hopt`  toolinfo determines the option values (every history that changes no option; C19 otherwise),
    * `hnd`   a run lists no path twice,
    and excluding the two defects that remain in the code (known findings):
    * `hmac`  no macro-scoped suppression decides a replayed finding,
    * `hsum`  no result depends on the function-return summaries loaded from the build directory. -/
theorem history_transparent_partial (W : World H S F) (t0 : Tree) (evs : List Event)
    (henc : W.enc = Encoding.fixed) (hlk : W.lk = .exactFirst)
    (hinj : HashInjOn W ((runsOf t0 evs).flatMap (·.2)))
    (hpath : ∀ r ∈ runsOf t0 evs, ∀ i ∈ r.2, PathPrefixed i)
    (hopt : OptsDetermined ((runsOf t0 evs).flatMap (·.2)))
    (hnd : ∀ r ∈ runsOf t0 evs, (r.2.map (·.path)).Nodup)
    (hmac : ∀ r ∈ runsOf t0 evs, MacroFree W r.1 r.2)
    (hsum : ∀ r ∈ cachedRuns W ([], []) t0 evs, SummFree W r.1 r.2) :
    execCached W ([], []) t0 evs = execFresh W t0 evs := by
  refine history_transparent_generic W t0 evs hinj ?_ hmac ?_ hsum
  · rw [henc]
    refine fixed_key_faithful _ ?_ hopt
    intro i hi
    obtain ⟨r, hr, hir⟩ := List.mem_flatMap.mp hi
    exact hpath r hr i hir
  · intro r hr; rw [hlk]; exact exactFirst_mapOK _ (hnd r hr)

/-- the history of F3 under the current code: the hypotheses hold and both runs are transparent -/
example :
    let W := toyWorld Encoding.fixed .exactFirst
    let t0 : Tree := [(mkInput "t.c" [("x", 1, 1), ("!", 1, 25)]).withPathPrefix]
    let evs := [Event.run showAll, .edit (shiftLines "t.c".toList 256), .run showAll]
    (∀ r ∈ runsOf t0 evs, ∀ i ∈ r.2, PathPrefixed i) ∧ OptsDetermined ((runsOf t0 evs).flatMap (·.2))
    ∧ (∀ r ∈ runsOf t0 evs, (r.2.map (·.path)).Nodup)
    ∧ (∀ r ∈ runsOf t0 evs, MacroFree W r.1 r.2) ∧ (∀ r ∈ cachedRuns W ([], []) t0 evs, SummFree W r.1 r.2)
    ∧ (execCached W ([], []) t0 evs).map (·.perFile.flatten.map (·.line)) = [[1], [257]] := by
  decide +kernel

/-! ## the cache document: findings and whole-program information interleaved -/

/-- **replay reads every finding.** Whatever the number of preprocessor configurations and however their findings and `<FileInfo>`
    elements interleave in the cache file, `cachedErrors` returns exactly the findings that were written, in order -/
theorem cachedErrors_all {I : Type} (blocks : List (List Finding × List I)) :
    cachedErrors (writeDoc blocks) = blocks.flatMap (·.1) := by
  induction blocks with
  | nil => rfl
  | cons b r ih =>
    have ih' : cachedErrors (List.flatMap (fun b => b.1.map DocChild.error ++ b.2.map (DocChild.fileInfo (I := I))) r)
        = List.flatMap (·.1) r := ih
    simp only [writeDoc, List.flatMap_cons, cachedErrors_append, cachedErrors_errors, cachedErrors_infos, List.append_nil, ih']

/-- … for any document at all: an `<error>` child is among the findings read, wherever it stands -/
theorem cachedErrors_any_interleaving {I : Type} (a b : List (DocChild I)) (f : Finding) :
    f ∈ cachedErrors (a ++ DocChild.error f :: b) := by
  simp [cachedErrors, DocChild.error?]

/-- a reader that stops at the first child that is not an `<error>` loses the findings of every later configuration
    (seeded change `C18-cached-errors-read-until-first-fileinfo`) -/
theorem errorPrefix_reader_counterexample :
    let f1 : Finding := { id := "a".toList, file := "a.c".toList, line := 11, col := 1, msg := [] }
    let f2 : Finding := { id := "b".toList, file := "a.c".toList, line := 18, col := 1, msg := [] }
    let doc := writeDoc [([f1], [()]), ([f2], [()])]
    readErrors .errorPrefix doc = [f1] ∧ readErrors .allChildren doc = [f1, f2] := by
  decide +kernel

/-- AnalyzerInformation::skipAnalysis visits all children (translated on every run) -/
theorem current_reader_all : Cppcheck.Gen.HashInput.errorReader = .allChildren := by decide

/-- the `findings` component of a cache entry (what `reuse` hands to the replay) is what the translated reader returns for the document the
    analysis wrote, for every split of the analysis' findings into configuration blocks with any `<FileInfo>` elements in between -/
theorem entry_findings_from_document {I : Type} (W : World H S F) (sr : SummRet) (i : FileInput) (blocks : List (List Finding × List I))
    (h : blocks.flatMap (·.1) = (W.analyze sr i.view).map Finding.stored) :
    readErrors Cppcheck.Gen.HashInput.errorReader (writeDoc blocks) = (entryOf W sr i).findings := by
  rw [current_reader_all]
  simp only [readErrors, cachedErrors_all, h, entryOf]

/-! ## several jobs -/

/-- **any worker order.** A run whose workers finish the listed files in any order (a permutation; one file = one atomic step,
    the workers write pairwise different cache files by `MapOK`) reports the whole-program findings of a run without build
    directory and, per file, the findings of a run without build directory; the invariant the history induction needs is
    preserved, so `history_transparent_partial` holds for every schedule of every run.  (Two workers inside *one* cache file and
    the additional in-memory whole-program pass of `-j1` are outside the model.) -/
theorem run_any_worker_order (W : World H S F) (L : List FileInput) (vis : Finding → Bool)
    (hinj : HashInjOn W L) (henc : KeyFaithfulOn W.enc L)
    (st : BdState H S F) (hbd : Inv W L st.1) (files order : List FileInput) (hperm : order.Perm files) (hL : ∀ i ∈ files, i ∈ L)
    (hmac : MacroFree W vis files) (hsr : SummFree W (srOf W st.1 st.2) files) (hmap : MapOK W.lk (files.map (·.path))) :
    (runWithCacheSched W vis st files order).2.whole = (runFresh W vis files).whole
    ∧ (runWithCacheSched W vis st files order).2.perFile = (runFresh W vis order).perFile
    ∧ Inv W L (runWithCacheSched W vis st files order).1.1 :=
  have h := runWithCacheSched_spec W L vis hinj henc st hbd files order hperm hL hmac hsr
  ⟨h.2.2 hmap, h.1, h.2.1⟩

/-- a reversed worker order on a two-file run (first run of a build directory, so `Inv` holds trivially) -/
example :
    let W := toyWorld Encoding.fixed .exactFirst
    let files : Tree := [(mkInput "a.c" [("?", 1, 1), ("!", 2, 1)]).withPathPrefix, (mkInput "b.c" [("?", 1, 1)]).withPathPrefix]
    files.reverse.Perm files ∧ HashInjOn W files ∧ KeyFaithfulOn W.enc files ∧ MacroFree W showAll files
    ∧ SummFree W (srOf W ([] : BuildDir Str (List RawTok) Bool) []) files ∧ MapOK W.lk (files.map (·.path))
    ∧ (runWithCacheSched W showAll ([], []) files files.reverse).2.whole.map (·.file) = ["a.c".toList, "b.c".toList] := by
  exact ⟨List.reverse_perm _, by decide +kernel⟩

/-! ## the collision hypothesis: satisfiable by a lossy hash, and necessary -/

/-- the collision hypothesis is met by a hash that is **not** injective: a 16-bit polynomial hash (`"Aa"` and `"BB"` collide) is
    collision-free on this history, which satisfies every other hypothesis too, under the current key composition and lookup -/
example :
    let W := toyWorldH lossyHash Encoding.fixed .exactFirst
    let t0 : Tree := [(mkInput "t.c" [("x", 1, 1), ("!", 1, 25)]).withPathPrefix, (mkInput "u.c" [("?", 2, 1)]).withPathPrefix]
    let evs := [Event.run showAll, .edit (shiftLines "t.c".toList 256), .run showAll, .run showAll]
    ¬ Function.Injective W.hash
    ∧ HashInjOn W ((runsOf t0 evs).flatMap (·.2))
    ∧ (∀ r ∈ runsOf t0 evs, ∀ i ∈ r.2, PathPrefixed i) ∧ OptsDetermined ((runsOf t0 evs).flatMap (·.2))
    ∧ (∀ r ∈ runsOf t0 evs, (r.2.map (·.path)).Nodup)
    ∧ (∀ r ∈ runsOf t0 evs, MacroFree W r.1 r.2) ∧ (∀ r ∈ cachedRuns W ([], []) t0 evs, SummFree W r.1 r.2)
    ∧ (execCached W ([], []) t0 evs).map (·.perFile.flatten.map (·.line)) = [[1], [257], [257]] := by
  exact ⟨fun h => absurd (@h "Aa".toList "BB".toList (by decide +kernel)) (by decide +kernel), by decide +kernel⟩

/-- … and it is necessary: with a hash that maps the two versions of `t.c` to the same value the edited file is served the old result -/
theorem hash_collision_counterexample :
    let W := toyWorldH (fun _ => (0 : Nat)) Encoding.fixed .exactFirst
    let t0 : Tree := [(mkInput "t.c" [("x", 1, 1), ("!", 1, 25)]).withPathPrefix]
    let evs := [Event.run showAll, .edit (shiftLines "t.c".toList 3), .run showAll]
    ¬ HashInjOn W ((runsOf t0 evs).flatMap (·.2))
    ∧ ((execCached W ([], []) t0 evs).map (·.perFile.flatten.map (·.line)) = [[1], [1]])
    ∧ ((execFresh W t0 evs).map (·.perFile.flatten.map (·.line)) = [[1], [4]]) := by
  decide +kernel

/-! ## inputs built from settings satisfy `hpath` -/

/-- the cache-key input CppCheck::checkInternal builds for a file (toolinfo rendered by the translated chain from the settings,
    `filePath` = the file's path) is `PathPrefixed`: `hpath` holds for every input of this form -/
theorem ofSettings_pathPrefixed (sv : SettingsView) (main : List RawTok) (headers : List Header) (opts : Str) (i : FileInput)
    (h : FileInput.ofSettings Cppcheck.Gen.HashInput.toolinfoItems sv main headers opts = some i) : PathPrefixed i := by
  unfold FileInput.ofSettings at h
  cases hr : renderToolinfo Cppcheck.Gen.HashInput.toolinfoItems sv with
  | none => simp [hr] at h
  | some ti =>
    simp only [hr, Option.map_some, Option.some.injEq] at h
    subst h
    exact current_toolinfo_path_first sv ti hr

end Cppcheck.Cache
