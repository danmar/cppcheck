import Cppcheck.Proofs.ErrorIds
import Cppcheck.Gen.ErrorIds
/-
C28 — Every built-in finding id is discoverable through `--errorlist`.

The tables `Gen.ErrorIds.*` are extracted from /repo's working tree and from the built binary on every run
(vlib/props/c28.py); each theorem below is decided over the WHOLE table (a complete finite domain) by evaluating a
linear Boolean walk in the kernel and lifted to the quantified statement by the generic soundness lemmas of
Cppcheck/Proofs/ErrorIds.lean.  Ids are `enc id` (base-256 codes), see Model/ErrorIds.lean.

Full-strength statement: `IdsSubset` (every emitter's id is printed by --errorlist or exempt).  It is FALSE for the current
code (`ids_subset_counterexample`); `ids_subset_partial` carries the excluded ids as an explicit hypothesis-list.
-/
namespace Cppcheck.ErrorIds
open Cppcheck.Gen.ErrorIds

/-- ids exempt for a stated reason (docs/C28.md §Exemptions):
    ""           message object built only to probe the suppression list, never reported (CppCheck::check);
    "<UNKNOWN>"  placeholder when a cached analyzer-info XML entry has no id attribute (replay, not an emission) -/
def exemptIds : List (String × Nat) := [
  ("", 0x0),
  ("<UNKNOWN>", 0x3c554e4b4e4f574e3e)
]

/-- ids the emitter table contains only because the translator's string evaluation over-approximates
    (each one justified by reading the code, docs/C28.md §Exemptions): no execution produces them.
    Not a theorem: every entry has a structural guard in the translator (obligation `T:infeasible-ids-guards`, the code shape the
    argument relies on) and a negative witness in corpus/C28 (`T:infeasible-ids-stay-unreported`). -/
def infeasibleIds : List (String × Nat) := [
  ("constVariableCallback", 0x636f6e73745661726961626c6543616c6c6261636b),
  ("iterateByValueCallback", 0x69746572617465427956616c756543616c6c6261636b),
  ("uninitDerivedMemberVarNoCtor", 0x756e696e6974446572697665644d656d6265725661724e6f43746f72),
  ("uninitDerivedMemberVarPrivateNoCtor", 0x756e696e6974446572697665644d656d626572566172507269766174654e6f43746f72),
  ("uninitMemberVarPrivateNoCtor", 0x756e696e69744d656d626572566172507269766174654e6f43746f72)
]

/-- F28a–F28q: ids that analysed code makes cppcheck report (witness per id in corpus/C28/) but that --errorlist does not print.
    This list is the explicit exclusion of the partial theorems; any further unlisted id breaks them. -/
def knownUnlisted : List (String × Nat) := [
  ("allocaCalled", 0x616c6c6f636143616c6c6564),
  ("checkLevelNormal", 0x636865636b4c6576656c4e6f726d616c),
  ("checkLibraryCheckType", 0x636865636b4c696272617279436865636b54797065),
  ("checkLibraryFunction", 0x636865636b4c69627261727946756e6374696f6e),
  ("checkLibraryNoReturn", 0x636865636b4c6962726172794e6f52657475726e),
  ("checkLibraryUseIgnore", 0x636865636b4c69627261727955736549676e6f7265),
  ("ctuArrayIndex", 0x6374754172726179496e646578),
  ("ctuOneDefinitionRuleViolation", 0x6374754f6e65446566696e6974696f6e52756c6556696f6c6174696f6e),
  ("ctuPointerArith", 0x637475506f696e7465724172697468),
  ("ctunullpointer", 0x6374756e756c6c706f696e746572),
  ("ctunullpointerOutOfMemory", 0x6374756e756c6c706f696e7465724f75744f664d656d6f7279),
  ("ctunullpointerOutOfResources", 0x6374756e756c6c706f696e7465724f75744f665265736f7572636573),
  ("ctuuninitvar", 0x637475756e696e6974766172),
  ("derefInvalidIteratorRedundantCheck", 0x6465726566496e76616c69644974657261746f72526564756e64616e74436865636b),
  ("funcArgNamesDifferentUnnamed", 0x66756e634172674e616d6573446966666572656e74556e6e616d6564),
  ("integerOverflowCond", 0x696e74656765724f766572666c6f77436f6e64),
  ("noValidConfiguration", 0x6e6f56616c6964436f6e66696775726174696f6e),
  ("normalCheckLevelMaxBranches", 0x6e6f726d616c436865636b4c6576656c4d61784272616e63686573),
  ("passedByValueCallback", 0x706173736564427956616c756543616c6c6261636b),
  ("returnImplicitInt", 0x72657475726e496d706c69636974496e74),
  ("signConversionCond", 0x7369676e436f6e76657273696f6e436f6e64),
  ("subtractPointers", 0x7375627472616374506f696e74657273),
  ("templateRecursion", 0x74656d706c617465526563757273696f6e),
  ("tooLargeBitField", 0x746f6f4c617267654269744669656c64)
]

def exemptCodes : List Nat := exemptIds.map (·.2)
def infeasibleCodes : List Nat := infeasibleIds.map (·.2)
def knownCodes : List Nat := knownUnlisted.map (·.2)

/-- exempt by severity: only shown with --debug-warnings (`debug`) or never shown (`internal`) -/
def sevExempt (e : Emitter) : Bool :=
  match e.sev with
  | .debug | .internal => true
  | _ => false

/-- exempt by origin: emitted by the command-line front end (cli/, frontend/), not by a built-in check, the preprocessor,
    the tokenizer or the symbol database (unmatchedSuppression, checkersReport, cppcheckError …) -/
def originExempt (e : Emitter) : Bool :=
  match e.origin with
  | .cli => true
  | .lib => false

/-- exempt for one of the stated reasons -/
def exempt (e : Emitter) : Bool :=
  sevExempt e || originExempt e || memb e.id exemptCodes || memb e.id infeasibleCodes

/-- dynamic id rules the property exempts (library configuration, addons) or that re-emit / stand for ids of other emitters -/
def exemptKinds : List RuleKind :=
  [.libraryFunction, .addon, .clangTidy, .ruleFile, .replayXml, .replayPipe, .internalErrorId]

/-- number of passes of the reachability computation (any number is sound; the translator orders the edges by breadth-first
    level of the caller, so the first pass already reaches everything reachable) -/
def passes : Nat := 2

/-- functions reached from CppCheck::getErrorMessages in the extracted call graph (bit set): the numeral the translator
    computed; `reached_eq` re-computes it in the kernel.  The graph is STATIC: a call under a condition counts, so `reached`
    over-approximates what an execution of getErrorMessages calls; the dynamic fact is `ids_subset_partial`, which compares
    with what the built binary really prints. -/
def reached : Nat := reachedLit

/-- ids of the emitters whose function is reached -/
def reachedIds : List Nat := idsOfReached reached emitters

/-- the full-strength property over the emitter table -/
def IdsSubset : Prop := ∀ e ∈ emitters, exempt e = true ∨ e.id ∈ errorlistIds

theorem reached_eq : reachBits calls roots passes = reached := by decide +kernel

/-- every function in `reached` has a call path from CppCheck::getErrorMessages in the extracted call graph -/
theorem reach_sound : ∀ f, reached.testBit f = true → Reach calls roots f := by
  rw [← reached_eq]
  exact reachBits_sound calls roots passes

/-- the three walks over the WHOLE generated tables: emitters against the printed ids, emitters against the ids of the reached
emitters, printed ids against the ids of the reached emitters -/
theorem table_checks :
    coveredOr Emitter.id (fun e => exempt e || memb e.id knownCodes) emitters errorlistIds = true ∧
    coveredOr Emitter.id (fun e => reached.testBit e.fn || exempt e || memb e.id knownCodes) emitters reachedIds = true ∧
    coveredBy (fun i : Nat => i) (fun _ => false) errorlistIds reachedIds = true := by decide +kernel

/-- PARTIAL (hypothesis: the id is not one of `knownUnlisted`): every emitter's id is printed by the built binary's
    --errorlist, or the emitter is exempt -/
theorem ids_subset_partial :
    ∀ e ∈ emitters, e.id ∉ knownCodes → exempt e = true ∨ e.id ∈ errorlistIds := by
  intro e he hk
  rcases coveredOr_sound _ _ _ _ table_checks.1 e he with hs | hm
  · simp only [Bool.or_eq_true, memb_iff] at hs
    rcases hs with hs | hs
    · exact Or.inl hs
    · exact absurd hs hk
  · exact Or.inr hm

example : ∃ e ∈ emitters, e.id ∉ knownCodes ∧ exempt e = false := by decide +kernel

/-- the check the translator's witness has to pass: it is the id of a non-exempt emitter and is not printed -/
def witnessOk : Bool :=
  match witnessUnlisted with
  | none => true
  | some w => (emitters.any fun e => Nat.beq e.id w && !exempt e) && !memb w errorlistIds

/-- COUNTEREXAMPLE: whenever the translator found an unlisted non-exempt id in the current tree (it does on the
    unchanged tree, see the `example` below), the full-strength statement is false -/
theorem ids_subset_counterexample : witnessUnlisted.isSome = true → ¬ IdsSubset := by
  have h : witnessOk = true := by decide +kernel
  intro hsome hall
  unfold witnessOk at h
  cases hw : witnessUnlisted with
  | none => simp [hw] at hsome
  | some w =>
    simp only [hw, Bool.and_eq_true, List.any_eq_true, Bool.not_eq_true', Nat.beq_eq] at h
    obtain ⟨⟨e, he, hid, hex⟩, hnm⟩ := h
    rcases hall e he with hx | hm
    · simp [hex] at hx
    · have : memb w errorlistIds = true := (memb_iff _ _).mpr (hid ▸ hm)
      simp [hnm] at this

example : witnessUnlisted.isSome = true := by decide

/-- PARTIAL: every emitter is reached from CppCheck::getErrorMessages in the extracted call graph, or its id is also emitted
    by a function that is, or it is exempt / one of `knownUnlisted` -/
theorem emitters_listed_partial :
    ∀ e ∈ emitters, e.id ∉ knownCodes →
      reached.testBit e.fn = true ∨ (∃ e' ∈ emitters, reached.testBit e'.fn = true ∧ e'.id = e.id) ∨ exempt e = true := by
  intro e he hk
  rcases coveredOr_sound _ _ _ _ table_checks.2.1 e he with hs | hm
  · simp only [Bool.or_eq_true, memb_iff] at hs
    rcases hs with (hs | hs) | hs
    · exact Or.inl hs
    · exact Or.inr (Or.inr hs)
    · exact absurd hs hk
  · exact Or.inr (Or.inl ((mem_idsOfReached _ _ _).mp hm))

/-- every id the built binary prints is the id of an emitter whose function is reached from CppCheck::getErrorMessages:
    the extracted table explains the whole --errorlist output (translator completeness against the binary) -/
theorem errorlist_explained :
    ∀ i ∈ errorlistIds, ∃ e ∈ emitters, reached.testBit e.fn = true ∧ e.id = i := by
  intro i hi
  rcases coveredBy_sound _ _ _ _ table_checks.2.2 i hi with hs | hm
  · cases hs
  · exact (mem_idsOfReached _ _ _).mp hm

/-- every id expression that is dynamic by design belongs to an exempt class -/
theorem dynamic_rules_exempt : ∀ r ∈ dynRules, r.kind ∈ exemptKinds := by decide

example : dynRules ≠ [] := by decide

end Cppcheck.ErrorIds
