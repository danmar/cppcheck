import Cppcheck.Proofs.ClangLine
import Cppcheck.Proofs.ClangDeclMap
import Cppcheck.Proofs.Links
/-
C35 — Clang-AST import yields a consistent program model: the decided part.

  (i)   AST      the import touches the AST only through `astOperand1/astOperand2` (Model/ClangDeclMap.lean `SetOp`), so C14's
                 invariant holds for every token list the model import produces; the checker that re-checks the invariant on the token
                 list of the REAL importer is sound; the link vector is compared with C14's verified bracket linker
  (ii)  lines    `splitString` inverts clang's field joining for clang's field shapes
  (iii) decls    the address-keyed map links every use to the declaration with the referenced address, before or after it
  (iv)  places   a location token resolves to clang's location when the inherited line is clang's last printed line; the importer
                 inherits from the parent node instead (counterexample), and takes the END column for the `<line:…>` form

In the file (ii), (iii), (iv) come first and (i) last.
-/
namespace Cppcheck.C35
open Cppcheck.ClangLine Cppcheck.ClangDeclMap

/-! ## (ii) the line splitter -/

/-- For every sequence of well-formed fields (any number, any length): splitting the joined text gives the fields back. -/
theorem split_join (fs : List Field) (h : fs.all Field.ok = true) :
    splitString (join (fs.map Field.render)) = some (fs.map Field.render) := by
  unfold splitString
  rw [loop_fields fs h _ (Nat.lt_succ_self _)]

/-- Without the well-formedness the round trip fails: clang prints an invalid range as `<<invalid sloc>>`, which the splitter cuts at
    the first `>` (the importer's `setLocations` knows the fragment `<<invalid sloc>`); a quoted string with an escaped quote and a
    bare word with `::` are cut as well. -/
theorem split_join_counterexample : ¬ ∀ fs : List Str, splitString (join fs) = some fs := by
  intro h
  exact absurd (h ["<<invalid sloc>>".toList]) (by decide)

example : splitString (join ["<<invalid sloc>>".toList]) = some ["<<invalid sloc>".toList, ">".toList] := by decide
example : splitString (join ["ns::f".toList]) = some ["ns".toList, "::".toList, "f".toList] := by decide
example : splitString (join ["\"a\\\"b\"".toList]) = some ["\"a\\\"".toList, "b\"".toList] := by decide

/-- the hypothesis is satisfiable by a typical clang line -/
example : [Field.word "0x55d5c8".toList, .angle "col:3, col:11".toList, .word "col:7".toList, .word "used".toList, .word "x".toList,
    .squote2 "int (*)(int)".toList "int (*)(int)".toList, .word "cinit".toList, .punct '(', .dquote "a b".toList].all Field.ok = true := by decide

/-! ## (iii) the declaration map -/

/-- what `use_links_referenced` promises for a token that looked up address `a` -/
def Linked (D : Data) (evs : List Ev) (a : Addr) (t : Nat) : Prop :=
  match declAt evs a with
  | some ⟨.var, d, o⟩ => (D.attrs t).var = some o ∧ (D.attrs t).varId = (D.attrs d).varId ∧ (D.attrs d).var = some o ∧ (D.attrs d).varId ≠ 0
  | some ⟨.func, _, o⟩ => (D.attrs t).func = some o
  | some ⟨.enumr, _, o⟩ => (D.attrs t).enumr = some o
  | some ⟨.scope, _, _⟩ => D.attrs t = {}
  | none => D.attrs t = {} ∧ (lookup D.notFound a).isSome = true

/-- For every sequence of declaration-map calls in which each clang address is declared at most once and each call has a token and a
    Variable object of its own: every token that looked an address up — before or after the declaration was seen — ends up linked to
    exactly the declaration with that address (variable and varId of its name token / function / enumerator); a token whose address is
    never declared stays untouched and pending. -/
theorem use_links_referenced (evs : List Ev) (hu : addrsUnique evs) (hf : toksFresh evs) (ho : objsFresh evs)
    (hn : evs.all (fun e => !isReplace e) = true) :
    ∀ a t, Ev.ref a t ∈ evs → Linked (runEvents {} evs) evs a t := by
  intro a t hr
  have hJ := J_run evs ⟨hu, hf, ho, hn⟩
  have hl := hJ.link _ hr a t rfl
  unfold linkOf at hl
  unfold Linked
  cases hd : declAt evs a with
  | none =>
    rw [hd] at hl
    refine ⟨hl, ?_⟩
    have : t ∈ (runEvents {} evs).pending a := hJ.pend a hd ▸ mem_refToks.2 hr
    unfold Data.pending at this
    cases hp : lookup (runEvents {} evs).notFound a with
    | none => simp [hp] at this
    | some _ => rfl
  | some d =>
    rw [hd] at hl
    obtain ⟨k, dt, o⟩ := d
    cases k with
    | var =>
      -- the name token of the declaration carries the same mark
      have he := declAt_var hd
      obtain ⟨v1, v2, _⟩ := hJ.vdef a dt o he
      have hne : (0 : Nat) ≠ ((runEvents {} evs).attrs dt).varId := by omega
      have hdt : (runEvents {} evs).attrs t = (runEvents {} evs).attrs dt := by rw [hl, hJ.link _ he a dt rfl, linkOf, hd]
      have hv : ((runEvents {} evs).attrs t).var = some o := by
        rw [hl]; simp [Decl.mark, v1, Attr.setVariable, Attr.setVarId, Attr.var, hne]; omega
      exact ⟨hv, by rw [hdt], hdt ▸ hv, by omega⟩
    | func => rw [hl]; simp [Decl.mark, Attr.setFunction, Attr.func]
    | enumr => rw [hl]; simp [Decl.mark, Attr.setEnumerator, Attr.enumr]
    | scope => simpa [Decl.mark] using hl

/-- Different variable declarations get different varIds (and none gets 0). -/
theorem varIds_distinct (evs : List Ev) (hu : addrsUnique evs) (hf : toksFresh evs) (ho : objsFresh evs)
    (hn : evs.all (fun e => !isReplace e) = true) (a a' : Addr) (d d' o o' : Nat)
    (h1 : Ev.varDecl a d o ∈ evs) (h2 : Ev.varDecl a' d' o' ∈ evs) (hne : d ≠ d') :
    ((runEvents {} evs).attrs d).varId ≠ ((runEvents {} evs).attrs d').varId ∧ ((runEvents {} evs).attrs d).varId ≠ 0 := by
  have hJ := J_run evs ⟨hu, hf, ho, hn⟩
  refine ⟨hJ.inj a d o a' d' o' h1 h2 hne, ?_⟩
  have := (hJ.vdef a d o h1).2.1
  omega

/-- what the import promises for the token `t` that looked up address `a`.  Tokens carry their map names here: `2 * index` when the
    token is spelt like an identifier (`update_property_info` then derives `eVariable` from the varId), `2 * index + 1` otherwise
    (`~C`, `<NoName>`); `Imported.attrs i = rawAttrs (encOf toks i)`. -/
def LinkedImport (im : Imported) (a : Addr) (t : Nat) : Prop :=
  match declAt im.events a with
  | some ⟨.var, d, o⟩ => (im.rawAttrs t).varId = (im.rawAttrs d).varId ∧ (im.rawAttrs d).varId ≠ 0 ∧
      (t % 2 = 0 → (im.rawAttrs t).var = some o) ∧ (d % 2 = 0 → (im.rawAttrs d).var = some o)
  | some ⟨.func, _, o⟩ => t % 2 = 0 → (im.rawAttrs t).func = some o
  | some ⟨.enumr, _, o⟩ => t % 2 = 0 → (im.rawAttrs t).enumr = some o
  | some ⟨.scope, _, _⟩ => t % 2 = 0 → im.rawAttrs t = {}
  | none => t % 2 = 0 → im.rawAttrs t = {}

/-- (iii) composed with the import: the token attributes a successful model import returns ARE the result of running its logged
    declaration-map calls (`importDump_data`: the import can change the map through `Log.emit` only), so whenever those calls satisfy the
    hypotheses (measured on every real dump, evidence `theorem_hypotheses_on_real_dumps`) every use the import issued is linked to the
    declaration with the referenced address. -/
theorem import_uses_linked {file0 text : Str} {im : Imported} (h : importDump file0 text = .ok im)
    (hu : addrsUnique im.events) (hf : toksFresh im.events) (ho : objsFresh im.events)
    (hn : im.events.all (fun e => !isReplace e) = true) :
    ∀ a t, Ev.ref a t ∈ im.events → LinkedImport im a t := by
  intro a t hr
  have hL := use_links_referenced im.events hu hf ho hn a t hr
  have hS := Sim.run im.events Sim.init
  have eqOf : ∀ u, u % 2 = 0 → (runEvents initData im.events).attrs u = (runEvents {} im.events).attrs u := by
    intro u hu
    have hs := hS.attrs u
    exact hs.same (by rw [hs.name]; simp [hu])
  unfold LinkedImport
  unfold Linked at hL
  rw [(importDump_data h).1]
  cases hd : declAt im.events a with
  | none =>
    rw [hd] at hL
    intro ht; rw [eqOf t ht]; exact hL.1
  | some d =>
    rw [hd] at hL
    obtain ⟨k, dt, o⟩ := d
    cases k with
    | var =>
      simp only at hL ⊢
      obtain ⟨l1, l2, l3, l4⟩ := hL
      refine ⟨?_, ?_, ?_, ?_⟩
      · rw [(hS.attrs t).varId, (hS.attrs dt).varId]; exact l2
      · rw [(hS.attrs dt).varId]; exact l4
      · intro ht; rw [eqOf t ht]; exact l1
      · intro ht; rw [eqOf dt ht]; exact l3
    | func => simp only at hL ⊢; intro ht; rw [eqOf t ht]; exact hL
    | enumr => simp only at hL ⊢; intro ht; rw [eqOf t ht]; exact hL
    | scope => simp only at hL ⊢; intro ht; rw [eqOf t ht]; exact hL

/-- the hypotheses are satisfiable: two uses before their declarations, one after, one never declared -/
def sampleEvents : List Ev :=
  [.ref "0x2".toList 0, .varDecl "0x1".toList 1 0, .ref "0x1".toList 2, .ref "0x2".toList 3, .varDecl "0x2".toList 4 1,
   .funcDecl "0x3".toList 5 0, .ref "0x3".toList 6, .ref "0x9".toList 7]
example : addrsUnique sampleEvents ∧ toksFresh sampleEvents ∧ objsFresh sampleEvents ∧ sampleEvents.all (fun e => !isReplace e) = true := by decide
example : ((runEvents {} sampleEvents).attrs 0).var = some 1 ∧ ((runEvents {} sampleEvents).attrs 0).varId = 2 ∧
    ((runEvents {} sampleEvents).attrs 2).varId = 1 ∧ ((runEvents {} sampleEvents).attrs 6).func = some 0 ∧
    (runEvents {} sampleEvents).attrs 7 = {} := by decide

/-- `addrsUnique` is needed: when an address is declared twice (`emplace` keeps the first entry) a later use is linked to the FIRST
    declaration although the second one carries the same address. -/
theorem use_links_dup_address_counterexample :
    ¬ ∀ (evs : List Ev) (a : Addr) (t d o : Nat), Ev.ref a t ∈ evs → Ev.varDecl a d o ∈ evs → ((runEvents {} evs).attrs t).var = some o := by
  intro h
  have := h [.varDecl "0x1".toList 0 0, .varDecl "0x1".toList 1 1, .ref "0x1".toList 2] "0x1".toList 2 1 1 (by decide) (by decide)
  revert this
  decide

/-! ## (iv) locations -/

/-- One location token (`mExtTokens[1]` as clang prints it for the range `b … e` in state `st`): the importer reads the file and the line
    of the begin location correctly when the file / line it inherits are clang's last printed ones in the cases where clang relies on
    them, and the column when clang printed `col:`. -/
theorem location_token_resolves (files : List Str) (st : PState) (b e : Loc) (hb : b.ok = true) (he : e.ok = true) (inh : Pos)
    (hfile : b.file = st.file → files[inh.file]? = some st.file) (hline : (formOf st b).1 = .col b.col → inh.line = (st.line : Int)) :
    ∃ files' p, setLoc files (printRange st b e).1 inh = .ok (files', p) ∧
      files'[p.file]? = some b.file ∧ p.line = (b.line : Int) ∧ ((formOf st b).1 = .col b.col → p.col = (b.col : Int)) := by
  have hbo := formOf_ok st b hb
  have heo : ∀ st', endOK (some (formOf st' e).1) = true := fun st' => formOf_ok st' e he
  obtain ⟨eo, heo', hpr⟩ : ∃ eo, endOK eo = true ∧ (printRange st b e).1 = rangeStr (formOf st b).1 eo := by
    unfold printRange
    by_cases hbe : b = e
    · exact ⟨none, rfl, by simp [hbe]⟩
    · exact ⟨some (formOf (formOf st b).2 e).1, heo _, by simp [hbe]⟩
  rw [hpr]
  simp only [Loc.ok, Bool.and_eq_true, decide_eq_true_eq] at hb
  unfold formOf at hline hbo ⊢
  by_cases hf : b.file ≠ st.file
  · simp only [hf, ne_eq, not_false_eq_true, if_true] at hline hbo ⊢
    refine ⟨_, _, setLoc_file files b.file b.line b.col hb.1.1 hb.1.2 eo inh, appendFileIfNew_get _ _, rfl, ?_⟩
    intro h; cases h
  · have hf' : b.file = st.file := by simpa using hf
    simp only [hf', ne_eq, not_true_eq_false, if_false] at hline hbo ⊢
    by_cases hl : b.line ≠ st.line
    · simp only [hl, not_false_eq_true, if_true] at hline hbo ⊢
      refine ⟨_, _, setLoc_line files b.line b.col hb.1.2 eo heo' inh, ?_, rfl, ?_⟩
      · simpa [hf'] using hfile hf'
      · intro h; cases h
    · have hl' : b.line = st.line := by simpa using hl
      simp only [hl', not_true_eq_false, if_false] at hline hbo ⊢
      refine ⟨_, _, setLoc_col files b.col hb.2 eo inh, ?_, ?_, fun _ => rfl⟩
      · simpa [hf'] using hfile hf'
      · simpa using hline

/-- Any dump (any tree shape, any number of nodes, any mixture of the three spellings): if at every node the inheritance condition
    holds, every node gets the line clang means. -/
theorem location_sequence_resolves (nodes : List SNode) (files : List Str) (stack : List Pos) (init : Pos) (st : PState)
    (hok : nodes.all SNode.ok = true) (hth : lineThreadOK files stack init st nodes = true) :
    ∃ ps, setLocSeq files stack init (printSeq st nodes) = .ok ps ∧ ps.map (·.line) = nodes.map (fun n => (n.b.line : Int)) := by
  induction nodes generalizing files stack st with
  | nil => exact ⟨[], rfl, rfl⟩
  | cons n r ih =>
    simp only [List.all_cons, Bool.and_eq_true, SNode.ok] at hok
    simp only [lineThreadOK, Bool.and_eq_true, decide_eq_true_eq] at hth
    obtain ⟨⟨hfile, hline⟩, hrest⟩ := hth
    obtain ⟨files', p, hset, _, hpl, _⟩ := location_token_resolves files st n.b n.e hok.1.1 hok.1.2 _ hfile hline
    have hnode : setLocNode files (n.toks st) (if n.level = 0 then init else (stack[n.level - 1]?).getD init) = .ok (files', p) := hset
    rw [hnode] at hrest
    obtain ⟨ps, hps, hmap⟩ := ih files' _ _ hok.2 hrest
    refine ⟨p :: ps, ?_, ?_⟩
    · simp only [printSeq, setLocSeq, hnode, hps]
    · simp [hpl, hmap]

example : oneLineFunction.all SNode.ok = true ∧ lineThreadOK [] [] ⟨0, 1, 1⟩ ⟨[], 0⟩ oneLineFunction = true := by decide +kernel

/-- The condition is not met by clang's output in general: `setLocations` hands every child the position of its PARENT, clang continues
    from the LAST PRINTED location.  `int f(int a,⏎ int b) { … }`: the body is printed `<col:14, col:26>` after the second parameter
    moved clang to line 2; the importer puts it on line 1. -/
theorem location_inheritance_counterexample :
    ¬ ∀ (nodes : List SNode), nodes.all SNode.ok = true →
      ∃ ps, setLocSeq [] [] ⟨0, 1, 1⟩ (printSeq ⟨[], 0⟩ nodes) = .ok ps ∧ ps.map (·.line) = nodes.map (fun n => (n.b.line : Int)) := by
  intro h
  obtain ⟨ps, h1, h2⟩ := h twoLineFunction (by decide +kernel)
  have h3 : (setLocSeq [] [] ⟨0, 1, 1⟩ (printSeq ⟨[], 0⟩ twoLineFunction)).toOption.map (fun ps => ps.map (·.line)) =
      some [1, 1, 2, 1] := by decide +kernel
  rw [h1] at h3
  simp only [Except.toOption, Option.map_some, Option.some.injEq] at h3
  rw [h3] at h2
  revert h2
  decide +kernel

/-- The column: for the `<line:L:C, col:E>` spelling the importer takes `E`, the END column (and keeps the inherited column when the end
    is not printed as `col:`). -/
theorem location_column_counterexample :
    ¬ ∀ (l c E : Nat) (inh : Pos), ∃ files p, setLoc [] (rangeStr (.line l c) (some (.col E))) inh = .ok (files, p) ∧ p.col = (c : Int) := by
  intro h
  obtain ⟨files, p, h1, h2⟩ := h 3 7 11 ⟨0, 1, 1⟩
  have h3 : (setLoc [] (rangeStr (.line 3 7) (some (.col 11))) ⟨0, 1, 1⟩).toOption = some ([], ⟨0, 3, 11⟩) := by decide +kernel
  rw [h1] at h3
  simp only [Except.toOption, Option.some.injEq, Prod.mk.injEq] at h3
  obtain ⟨_, rfl⟩ := h3
  revert h2
  decide

/-- what it takes instead, for every range printed in the line form -/
theorem location_lineform_column (files : List Str) (l c : Nat) (hl : l < 2147483648) (e : Option LForm) (he : endOK e = true) (inh : Pos) :
    setLoc files (rangeStr (.line l c) e) inh = .ok (files, { inh with line := (l : Int), col := lineFormCol e inh }) :=
  setLoc_line files l c hl e he inh

/-! ## (i) the AST and the links -/

/-- The model import (any dump) issues only `astOperand1` / `astOperand2` calls … -/
theorem import_setters_only {file0 text : Str} {im : Imported} (h : importDump file0 text = .ok im) :
    im.ops.all AstStore.Op.viaOperands = true := by
  obtain ⟨ops, ho, _⟩ := importDump_ok h
  rw [ho]
  simp [List.all_map, toOp_viaOperands]

/-- … therefore the AST of every token list it produces satisfies C14's invariant (acyclic, an operand's parent points back, a child is
    listed by its parent, op1 ≠ op2). -/
theorem import_ast_invariant {file0 text : Str} {im : Imported} (h : importDump file0 text = .ok im) :
    AstStore.Inv im.store := by
  obtain ⟨ops, _, hr⟩ := importDump_ok h
  rw [runOps_eq_run _ _ _ hr]
  exact (AstStore.run_all AstStore.Inv AstStore.Op.viaOperands (fun s o hs ho => AstStore.step_inv s o hs ho) (ops.map SetOp.toOp)
    (AstStore.init im.toks.size) (AstStore.init_inv _) (by simp [List.all_map, toOp_viaOperands])).1

/-- The checker the check runs on the token list of the REAL importer accepts only stores that satisfy the invariant. -/
theorem checker_sound (parent op1 op2 : List (Option Nat)) (h : checkInv parent op1 op2 = true) :
    AstStore.Inv (storeOf parent op1 op2) := by
  unfold checkInv at h
  simp only [List.all_eq_true, List.mem_range] at h
  have hpar : ∀ i v, (storeOf parent op1 op2).parent i = some v → i < (storeOf parent op1 op2).n := by
    intro i v hv; have := getO_lt (l := parent) hv; simp only [storeOf]; omega
  have ho1 : ∀ i v, (storeOf parent op1 op2).op1 i = some v → i < (storeOf parent op1 op2).n := by
    intro i v hv; have := getO_lt (l := op1) hv; simp only [storeOf]; omega
  have ho2 : ∀ i v, (storeOf parent op1 op2).op2 i = some v → i < (storeOf parent op1 op2).n := by
    intro i v hv; have := getO_lt (l := op2) hv; simp only [storeOf]; omega
  generalize storeOf parent op1 op2 = s at *
  have hnode : ∀ i, i < s.n → checkNode s i = true := fun i hi => h i hi
  -- `checkNode` is a conjunction of five tests, in this order: the climb ends, op1 points back, op2 points back, op1 ≠ op2, the
  -- parent lists the node; `.1.1.1.1` … `.2` below pick them
  refine ⟨⟨?_, ?_, ?_⟩, ?_⟩
  · intro i ha
    obtain ⟨p, hp, _⟩ := ha.inv
    have := hnode i (hpar i p hp)
    simp only [checkNode, Bool.and_eq_true] at this
    exact acyclic_of_climbOut s _ i this.1.1.1.1 ha
  · intro p c hc
    rcases hc with hc | hc
    · have := hnode p (ho1 p c hc)
      simp only [checkNode, Bool.and_eq_true, hc] at this
      simpa using this.1.1.1.2
    · have := hnode p (ho2 p c hc)
      simp only [checkNode, Bool.and_eq_true, hc] at this
      simpa using this.1.1.2
  · intro p c h1 h2
    have := hnode p (ho1 p c h1)
    simp only [checkNode, Bool.and_eq_true, h1, h2] at this
    simpa using this.1.2
  · intro c p hp
    have := hnode c (hpar c p hp)
    simp only [checkNode, Bool.and_eq_true, hp] at this
    simpa using this.2

/-- The link vector of the real token list is compared with what C14's verified linker computes from the first characters; when they agree
    the links are symmetric, join an opening bracket to a later closing bracket of the same kind, cover all brackets and never cross. -/
theorem checked_links (ts : List Links.Tok) (L : List (Option Nat)) (h : Links.createLinks ts = .ok L) :
    Links.Symmetric L ∧ Links.ProperlyNested ts L :=
  (Links.createLinks_spec ts).2 L h

example : checkInv [some 1, none, some 1] [none, some 0, none] [none, some 2, none] = true := by decide
example : checkInv [some 1, some 0] [some 1, some 0] [none, none] = false := by decide

end Cppcheck.C35
