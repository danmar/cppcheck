import Cppcheck.Proofs.MatchEquiv
import Cppcheck.Props.C33Interp
import Cppcheck.Gen.Reserved
import Cppcheck.Proofs.Lexer
import Cppcheck.Model.PerFunction
/-
C05 — property theorems (part 1: renaming; part 2 (lexer layout) and part 3 (order of definitions) below).

Part 1.  A pattern of the token-pattern language reads the *spelling* of a token only by comparing it
with strings written in the pattern (`patLits p`: literal atoms, `!!x`, the characters of `[..]`, and
`|` / `||` for `%or%` / `%oror%`).  A spelling map `f` that neither creates nor destroys such an equality
on the tokens at hand (`Compat f (patLits p) ts`, decidable) leaves the verdict unchanged — for the
documented language, hence (C33) for the compiled and for the interpreted matcher, on token lists of
any length.  Token type, `isName` and `varId` are separate fields of the token model and are kept by
`mapTok`; that the real tokenizer classifies the renamed spelling like the old one is the premise
"meaning-preserving" of the property and is validated by the CLI pairs only.
-/
namespace Cppcheck.C05
open Cppcheck.Wire Cppcheck.Match Cppcheck.MatchEquiv

/-- the documented language: for EVERY pattern string, token list and varid. -/
theorem match_equivariant (p : Str) (f : Str → Str) (ts : List Tok) (v : Nat)
    (h : Compat f (patLits p) ts) :
    sem (parse p) (ts.map (mapTok f)) v = sem (parse p) ts v := by
  unfold sem
  rw [semWords_map f v (parse p) ts h]

/-- … transferred to the match-compiled function (C33 `compiled_eq_language`). -/
theorem match_equivariant_compiled (p : Str) (hasVarid : Bool) (f : Str → Str) (ts : List Tok) (v : Nat)
    (h : Compat f (patLits p) ts) (hv : v ≠ 0)
    (hts : ∀ t ∈ ts, TokWF t = true) (hts' : ∀ t ∈ ts, TokWF (mapTok f t) = true) :
    run (compile p hasVarid) (ts.map (mapTok f)) v = run (compile p hasVarid) ts v := by
  rw [compiled_eq_language p hasVarid _ v (List.forall_mem_map.2 hts') hv, compiled_eq_language p hasVarid ts v hts hv]
  exact match_equivariant p f ts v h

/-- … and to the interpreted `Token::Match` (C33 `interp_eq_language`). -/
theorem match_equivariant_interpreted (p : Str) (f : Str → Str) (ts : List Tok) (v : Nat)
    (h : Compat f (patLits p) ts)
    (hp : patternWF p = true) (hn : noNul p = true)
    (hts : ∀ t ∈ ts, TokStrOK t = true) (hts' : ∀ t ∈ ts, TokStrOK (mapTok f t) = true)
    (hv : v ≠ 0 ∨ usesVarid (parse p) = false) :
    interpB p (ts.map (mapTok f)) v = interpB p ts v := by
  rw [interp_eq_language p _ v hp hn (List.forall_mem_map.2 hts') hv, interp_eq_language p ts v hp hn hts hv]
  exact match_equivariant p f ts v h

/-- the compiled `findmatch` finds the same position in the renamed list -/
theorem findmatch_equivariant (p : Str) (hasVarid : Bool) (f : Str → Str) (v : Nat) (hv : v ≠ 0) :
    ∀ (ts : List Tok) (idx budget : Nat), Compat f (patLits p) ts →
      (∀ t ∈ ts, TokWF t = true) → (∀ t ∈ ts, TokWF (mapTok f t) = true) →
      findFrom (compile p hasVarid) v (ts.map (mapTok f)) idx budget = findFrom (compile p hasVarid) v ts idx budget := by
  intro ts
  induction ts with
  | nil => intro idx budget _ _ _; rfl
  | cons t r ih =>
    intro idx budget h hts hts'
    cases budget with
    | zero => rfl
    | succ b =>
      have hr := match_equivariant_compiled p hasVarid f (t :: r) v h hv hts hts'
      simp only [List.map_cons] at hr
      simp only [List.map_cons, findFrom, hr]
      rw [ih (idx + 1) b h.tail (fun t' h' => hts t' (by simp [h'])) (fun t' h' => hts' t' (by simp [h']))]

/-- a finite renaming that avoids a set `R` containing the pattern's strings. -/
theorem renaming_equivariant (p : Str) (σ : Renaming) (R : List Str)
    (hR : ∀ s ∈ patLits p, s ∈ R) (hσ : σ.avoids R = true) (ts : List Tok) (v : Nat) :
    sem (parse p) (ts.map σ.tok) v = sem (parse p) ts v :=
  match_equivariant p σ.f ts v ((avoids_compat σ R hσ ts).mono hR)

/-- For every pattern literal extracted from lib/*.cpp, every
    renaming that avoids the extracted reserved set, every token list and every varid.
    As far as `Token::Match` patterns (and the literal `str()` comparisons collected in `strLiterals`) can see, a name outside
    `reserved` may be renamed freely.  Names compared through set look-ups, prefix tests or the library configuration are
    NOT in `reserved`; that part of the analysis is outside this theorem (sampled by the CLI pairs only). -/
theorem all_source_patterns_equivariant :
    ∀ p ∈ Gen.Reserved.patterns, ∀ σ : Renaming, σ.avoids Gen.Reserved.reserved = true →
      ∀ (ts : List Tok) (v : Nat), sem (parse p) (ts.map σ.tok) v = sem (parse p) ts v := by
  intro p hp σ hσ ts v
  exact renaming_equivariant p σ _ (fun s hs => mem_reservedOf_of_pattern _ _ p hp s hs) hσ ts v

/-- the same for the match-compiled functions of the source patterns: the token-type invariant of
    C33 is preserved by such a renaming, so it is required of the original list only -/
theorem all_source_patterns_equivariant_compiled :
    ∀ p ∈ Gen.Reserved.patterns, ∀ σ : Renaming, σ.avoids Gen.Reserved.reserved = true →
      ∀ (hasVarid : Bool) (ts : List Tok) (v : Nat), v ≠ 0 → (∀ t ∈ ts, TokWF t = true) →
        run (compile p hasVarid) (ts.map σ.tok) v = run (compile p hasVarid) ts v := by
  intro p hp σ hσ hasVarid ts v hv hts
  exact match_equivariant_compiled p hasVarid σ.f ts v
    ((avoids_compat σ _ hσ ts).mono (fun s hs => mem_reservedOf_of_pattern _ _ p hp s hs)) hv hts
    (fun t ht => tokWF_map σ _ hσ (tokTypes_sub_reservedOf _ _) t (hts t ht))

/-! hypotheses are satisfiable / the statement is not vacuous -/

def exRen : Renaming := ⟨[("count".toList, "n_items".toList), ("buf".toList, "count".toList)]⟩

example : exRen.avoids (reservedOf ["%name% = malloc|calloc ( !!0".toList, "[;{}]".toList] ["sizeof".toList]) = true := by decide +kernel
example : exRen.injOn ["count".toList, "buf".toList, "i".toList] = true := by decide +kernel
-- the renamed list really differs, and the verdict is that of the original
example : ([exTok "count" .eVariable 1 true, exTok "=" .eAssignmentOp 0 false, exTok "malloc" .eFunction 0 true].map exRen.tok).map (·.str)
    = ["n_items".toList, "=".toList, "malloc".toList] := by decide +kernel
example : Compat (fun s => if s = "x".toList then "y".toList else s) (patLits "%name% = foo|bar".toList)
    [exTok "x" .eVariable 1 true, exTok "=" .eAssignmentOp 0 false, exTok "foo" .eName 0 true] := by decide +kernel
-- a map that turns an ordinary name into a pattern literal is rejected by the hypothesis, and rightly so
example : ¬ Compat (fun s => if s = "x".toList then "foo".toList else s) (patLits "%name% = foo|bar".toList)
    [exTok "x" .eVariable 1 true] := by decide +kernel
example : sem (parse "foo".toList) ([exTok "x" .eVariable 1 true].map (mapTok fun s => if s = "x".toList then "foo".toList else s)) 0
    ≠ sem (parse "foo".toList) [exTok "x" .eVariable 1 true] 0 := by decide +kernel


/-! ## Part 2 — simplecpp's lexer and layout

`Cppcheck.Lexer` models `simplecpp::TokenList::readfile` (`lexRaw`), `combineOperators` (`combine`) and
`removeComments`; `tokens = removeComments ∘ combine ∘ lexRaw` is the token stream the preprocessor starts from.
A source text is described as a sequence of lexical elements (`Elem`: white space, newline, `//` and `/* */`
comments, words, operator bytes, quoted literals); `renderE` prints it, `placeE` is its position function.  White space,
blank lines and comments between tokens influence the raw tokens only through the positions, and `combineOperators`
reads of the positions only "same line" and, on one line, "next column". -/

open Cppcheck.Lexer

/-- **readfile on a layout**: raw tokens (comments included) of a well-formed element sequence -/
theorem lexRaw_of_layout (es : List Elem) (h : elemsOK es = true) :
    lexRaw (renderE es) = some (placeE 1 1 es) := by
  unfold lexRaw
  rw [skipBOM_render es h]
  simp only [normCR_id _ (render_no_cr es h)]
  rw [lexLoop_elems es _ 1 1 [] h (Nat.lt_succ_self _) (by intro b hb; cases hb)]
  simp

theorem tokens_of_layout (es : List Elem) (h : elemsOK es = true) :
    tokens (renderE es) = some (removeComments (combine (placeE 1 1 es))) := by
  simp [tokens, lexAll, lexRaw_of_layout es h]

/-- **combineOperators is equivariant** under relocations `φ` of the tokens that keep
    "same line" between all token positions and "next column" between the one-character operator tokens of a line
    (checked by the executable `presB`), when three directly following `.` tokens share a line. -/
theorem combine_relocation (φ : Nat × Nat → Nat × Nat) (ts : List RTok)
    (hφ : presB φ (ts.map RTok.pos) (opPositions ts) = true) (hd : dotsOKB ts = true) :
    combine (ts.map (reloc φ)) = (combine ts).map (reloc φ) :=
  combine_reloc (presB_spec φ _ _ hφ) hd

/-- the layout theorem for any relocation that keeps what `combineOperators` reads of the positions -/
theorem lexer_layout_of_pres {φ : Nat × Nat → Nat × Nat} (es es' : List Elem)
    (h : elemsOK es = true) (h' : elemsOK es' = true)
    (hrel : placeE 1 1 es' = (placeE 1 1 es).map (reloc φ))
    (hφ : Pres φ (· ∈ (placeE 1 1 es).map RTok.pos) (· ∈ opPositions (placeE 1 1 es)))
    (hd : dotsOKB (placeE 1 1 es) = true) :
    tokens (renderE es') = (tokens (renderE es)).map (List.map (reloc φ)) := by
  rw [tokens_of_layout es h, tokens_of_layout es' h', hrel, combine_reloc hφ hd, removeComments_reloc]
  rfl

/-- **lexer_layout**: `es'` is a layout edit of `es` — the same token elements (comments included) in the same order,
    white space and newlines changed so that every token moves to `φ` of its old position.  Then the token stream
    of the edited text is the relocated token stream of the original text.
    (Gaps may open or close anywhere except between two operator bytes: `a=b` ↦ `a = b` is covered, `+ =` ↦ `+=` is
    excluded by `presB`.) -/
theorem lexer_layout (es es' : List Elem) (φ : Nat × Nat → Nat × Nat)
    (h : elemsOK es = true) (h' : elemsOK es' = true)
    (hrel : placeE 1 1 es' = (placeE 1 1 es).map (reloc φ))
    (hφ : presB φ ((placeE 1 1 es).map RTok.pos) (opPositions (placeE 1 1 es)) = true)
    (hd : dotsOKB (placeE 1 1 es) = true) :
    tokens (renderE es') = (tokens (renderE es)).map (List.map (reloc φ)) :=
  lexer_layout_of_pres es es' h h' hrel (presB_spec φ _ _ hφ) hd

/-- a per-line shift (insert blank / comment-only lines, re-indent whole lines) keeps what `combineOperators` reads -/
theorem pres_lineShift (g a : Nat → Nat) (hg : ∀ x y, g x = g y → x = y) (P Q : Nat × Nat → Prop) :
    Pres (fun p => (g p.1, p.2 + a p.1)) P Q := by
  constructor
  · intro p q _ _
    exact ⟨fun e => hg _ _ e, fun e => by simp only [e]⟩
  · intro p q _ _ hl
    simp only [hl]
    omega

/-- `lexer_layout` for per-line shifts: no hypothesis on the positions is left -/
theorem lexer_layout_lineShift (es es' : List Elem) (g a : Nat → Nat) (hg : ∀ x y, g x = g y → x = y)
    (h : elemsOK es = true) (h' : elemsOK es' = true)
    (hrel : placeE 1 1 es' = (placeE 1 1 es).map (reloc fun p => (g p.1, p.2 + a p.1)))
    (hd : dotsOKB (placeE 1 1 es) = true) :
    tokens (renderE es') = (tokens (renderE es)).map (List.map (reloc fun p => (g p.1, p.2 + a p.1))) :=
  lexer_layout_of_pres es es' h h' hrel (pres_lineShift g a hg _ _) hd

/-- the "executable scope" stack of `combineOperators` never holds `true`: the look-back at a `{` skips `)` too,
    so `prev->op == ')'` cannot hold afterwards (the `&=` special case is therefore always active) -/
theorem executable_scope_probe_dead (prev : List RTok) : scopeProbe prev = false := scopeProbe_false prev

/-! ### comment-only lines: the unconditional statement is false of the code

Audit suggestion M3: "for `es'` = `es` with comment-only lines inserted, `tokens (renderE es') = (tokens (renderE es))` up to the
line shift".  `combineOperators` does look across a comment token on another line: the look-back of the `&=` special case
(`findOpen` / `declWalk`) walks over the tokens in front of the parameter list and a comment token is neither a name nor
`::`, `*`, `&`, so the declaration is no longer recognised and `&` `=` are glued.  Valid C++, reproduced on the real lexer and
on the cppcheck binary (finding F05d, corpus/C05/witnesses.json).  What holds without further hypotheses is
`lexer_layout_lineShift` (the comment lines are already part of `es`; blank lines may be inserted, lines re-indented). -/

def srcNoComment : List Char := "void\nf(const int &= 2);\n".toList
def srcCommentLine : List Char := "void\n// c\nf(const int &= 2);\n".toList

theorem tokens_srcNoComment : ((tokens srcNoComment).getD []).map (·.str) =
    ["void", "f", "(", "const", "int", "&", "=", "2", ")", ";"].map String.toList := by decide +kernel

theorem tokens_srcCommentLine : ((tokens srcCommentLine).getD []).map (·.str) =
    ["void", "f", "(", "const", "int", "&=", "2", ")", ";"].map String.toList := by decide +kernel

/-- **counterexample**: inserting one comment-only line changes the token spellings (`&`, `=`  vs  `&=`) -/
theorem comment_line_insertion_not_neutral :
    ((tokens srcCommentLine).getD []).map (·.str) ≠ ((tokens srcNoComment).getD []).map (·.str) := by
  rw [tokens_srcCommentLine, tokens_srcNoComment]
  exact fun h => absurd (congrArg List.length h) (by decide)

example : ((tokens srcNoComment).getD []).map (·.str) =
    ["void", "f", "(", "const", "int", "&", "=", "2", ")", ";"].map String.toList := tokens_srcNoComment
example : ((tokens srcCommentLine).getD []).map (·.str) =
    ["void", "f", "(", "const", "int", "&=", "2", ")", ";"].map String.toList := tokens_srcCommentLine

/-! hypotheses are satisfiable, the statement is about real merges -/

def exSrc : List Elem :=
  [.word "x".toList, .op '>', .op '>', .op '=', .word "1".toList, .op '.', .word "5e".toList, .op '+', .word "3".toList,
   .op ';', .lcom "c".toList, .nl, .word "p".toList, .op '-', .op '>', .word "q".toList, .op ';']
/-- the same tokens: re-indented, a blank line inserted, gaps opened around names and `;` -/
def exSrc' : List Elem :=
  [.ws ' ', .word "x".toList, .ws '\t', .op '>', .op '>', .op '=', .ws ' ', .word "1".toList, .op '.', .word "5e".toList,
   .op '+', .word "3".toList, .op ';', .ws ' ', .lcom "c".toList, .nl, .nl, .ws ' ', .word "p".toList, .op '-', .op '>', .word "q".toList, .ws ' ', .op ';']
def exTbl : List ((Nat × Nat) × (Nat × Nat)) :=
  [((1,1),(1,2)), ((1,2),(1,4)), ((1,3),(1,5)), ((1,4),(1,6)), ((1,5),(1,8)), ((1,6),(1,9)), ((1,7),(1,10)), ((1,9),(1,12)),
   ((1,10),(1,13)), ((1,11),(1,14)), ((1,12),(1,16)), ((2,1),(3,2)), ((2,2),(3,3)), ((2,3),(3,4)), ((2,4),(3,5)), ((2,5),(3,7))]

example : elemsOK exSrc = true ∧ elemsOK exSrc' = true := by decide +kernel
example : (placeE 1 1 exSrc).map RTok.pos = exTbl.map (·.1) ∧ (placeE 1 1 exSrc').map RTok.pos = exTbl.map (·.2) := by decide +kernel
example : presB (tableMap exTbl) (exTbl.map (·.1)) [(1,2), (1,3), (1,4), (1,6), (1,9), (1,11), (2,2), (2,3), (2,5)] = true := by decide +kernel
example : dotsOKB (placeE 1 1 exSrc) = true := by decide +kernel
example : ((tokens (renderE exSrc)).getD []).map (·.str) =
    ["x", ">>=", "1.5e+3", ";", "p", "->", "q", ";"].map String.toList := by decide +kernel
-- gluing / separating two operator bytes is not a layout edit: the hypothesis fails (and the tokens do change)
example : presB (tableMap [((1, 1), (1, 1)), ((1, 3), (1, 2))]) [(1, 1), (1, 3)] [(1, 1), (1, 3)] = false := by decide +kernel


/-! ## Part 3 — order of the function definitions

A check that decides every function from the function and the call graph alone reports the same multiset of findings for
every order of the definitions (`symbolDatabase->functionScopes` is in definition order).  The hypothesis is carried by the
shape of the model: `perFunctionFindings v defs = defs.flatMap v` has no state that survives from one function to the next.
`nothrowThrows` (CheckExceptionSafety::nothrowThrows, recursion guard created afresh per decided function) is of that shape;
the variant with a per-file memo of "walked, does not throw" callees is not, and is order dependent. -/

open Cppcheck.PerFunction

/-- **Perm-invariance of a per-function check** -/
theorem perFunction_perm_invariant {α β : Type} (v : α → List β) (defs defs' : List α) (h : defs.Perm defs') :
    (perFunctionFindings v defs).Perm (perFunctionFindings v defs') :=
  List.Perm.flatMap_right v h

/-- the modelled instance: throwInNoexceptFunction / throwInEntryPoint for every program (call graph with cycles
    included) and every two orders of the same definitions -/
theorem nothrowThrows_perm_invariant (P : PerFunction.Prog) (defs defs' : List Nat) (h : defs.Perm defs') :
    (nothrowThrows P defs).Perm (nothrowThrows P defs') :=
  perFunction_perm_invariant (verdict P) defs defs' h

/-- parseExpr ⇄ parseTerm (parseExpr throws), termValue noexcept → parseTerm, main → parseExpr, termValue -/
def cycleProg : PerFunction.Prog :=
  [⟨0, false, [.call 1, .throw]⟩, ⟨0, false, [.call 0]⟩, ⟨1, false, [.call 1]⟩, ⟨2, false, [.call 0, .call 2]⟩]

example : nothrowThrows cycleProg [0, 1, 2, 3] = [(2, 0, 1), (3, 0, 2)] := by decide +kernel
example : nothrowThrows cycleProg [0, 1, 3, 2] = [(3, 0, 2), (2, 0, 1)] := by decide +kernel

/-- what the hypothesis excludes: with a memo set carried across the decided functions the provisional "does not throw"
    of the recursion guard inside a call cycle is remembered, and swapping two independent definitions loses a finding -/
theorem sharedMemo_order_dependent :
    ¬ (nothrowSharedMemo cycleProg [0, 1, 2, 3] []).Perm (nothrowSharedMemo cycleProg [0, 1, 3, 2] []) := by
  intro h
  have := h.length_eq
  revert this
  decide

end Cppcheck.C05
