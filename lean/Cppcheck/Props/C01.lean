import Cppcheck.Proofs.Calc
import Cppcheck.Proofs.Infer
import Cppcheck.Proofs.VFValidator
import Cppcheck.Proofs.MiniC
/-
C01 — value-flow facts hold in every UB-free execution.  Property theorems.

Part 1: transfer functions (lib/calculate.h, lib/infer.cpp), one-to-one models in Model/Calc.lean, Model/Infer.lean.
Parts 2 and 2b: constant folding of a binary operator, and an Impossible value carried through a compound assignment.
Part 3: the fact validator over MiniC, in terms of the interpreter and of the big-step semantics.
-/
namespace Cppcheck.C01
open Cppcheck.Calc Cppcheck.Infer

/-- `calculate<bigint>` never reports a value that differs from the ISO C result of the operator on `long long`:
    whenever it returns a result (`some r`, i.e. `*error` stays false) and C defines the operation (`cSem … = some v`,
    no undefined / implementation-defined case), the two agree. -/
theorem calculate_sound (op : Op) (x y r v : Int) (h : calculate op x y = some r) (hc : cSem op x y = some v) : r = v := by
  cases op <;> simp only [calculate, cSem] at h hc
  case add | sub | mul | cmp3 =>
    split at hc
    · rename_i hin; simp at h hc; rw [← h, ← hc]; exact wrap64_of_in _ hin
    · simp at hc
  case div | mod =>
    split at h
    · simp at h
    · split at hc
      · simp at hc
      · simp at h hc; rw [← h, ← hc]
  case band | bor | bxor => simp at h hc; rw [← h, ← hc]
  case shl =>
    split at h
    · simp at h
    · split at hc
      · rename_i hin; simp at h hc; rw [← h, ← hc]; exact wrap64_of_in _ hin.2.2.2
      · simp at hc
  case shr =>
    split at h
    · simp at h
    · split at hc
      · simp at h hc; rw [← h, ← hc]
      · simp at hc
  -- the comparisons, `&&` and `||`: both sides are `b2i` of the same test
  all_goals
    simp at h hc
    subst h
    subst hc
    first | rfl | (unfold b2i; simp <;> (try omega))

/-- `calculate` sets `*error` exactly on its documented conditions (divisor ≤ 0; shift count ≥ 63 or negative, or a
    negative left operand): in particular it is conservative for `x / y`, `x % y` with `y < 0` and for a shift by 63. -/
theorem calculate_error_iff (op : Op) (x y : Int) : calculate op x y = none ↔ calcErr op x y := by
  cases op <;> simp [calculate, calcErr] <;> omega

example : calculate .div 7 2 = some 3 ∧ cSem .div 7 2 = some 3 := by decide
example : calculate .div 7 (-2) = none ∧ cSem .div 7 (-2) = some (-3) := by decide
example : calculate .add (2 ^ 63 - 1) 1 = some (-(2 ^ 63)) ∧ cSem .add (2 ^ 63 - 1) 1 = none := by decide

/-- **infer_sound** (main theorem, current code = commit 8842d71).  For the operators `infer` is called with (`-` and the
    comparisons): every Known / Impossible result holds of `a op b` whenever every Known / Impossible INT input value holds of
    `a` resp. `b` and all bounds are small enough (`|v| < 2^62 - 1`) for the unchecked `long long` bound arithmetic not to
    overflow.  Possible / Inconclusive input values are unconstrained. -/
theorem infer_sound (op : Op) (hop : op.isComparison = true ∨ op = .sub) (L R : List Value) (a b : Int)
    (hLs : ∀ v ∈ L, v.isInt = true → v.small) (hRs : ∀ v ∈ R, v.isInt = true → v.small)
    (ha : ∀ v ∈ L, v.isInt = true → v.hard = true → v.holds a)
    (hb : ∀ v ∈ R, v.isInt = true → v.hard = true → v.holds b) :
    ∀ r ∈ infer op L R, r.hard = true → r.holds (opSem op a b) :=
  fun r hr hh => infer_core op hop L R a b hLs hRs ha hb true r hr hh fun _ => Or.inl rfl

-- the hypotheses are satisfiable on a non-trivial input: x in [3, 7] (with an unconstrained Possible value), y = 2
example : (∀ v ∈ [({ kind := .impossible, bound := .upper, intvalue := 2 } : Value), { kind := .impossible, bound := .lower, intvalue := 8 },
        { kind := .possible, bound := .point, intvalue := 99 }], v.isInt = true → v.hard = true → v.holds 4) ∧
    infer .sub [{ kind := .impossible, bound := .upper, intvalue := 2 }, { kind := .impossible, bound := .lower, intvalue := 8 },
        { kind := .possible, bound := .point, intvalue := 99 }]
      [{ kind := .known, bound := .point, intvalue := 2 }] =
      [{ kind := .impossible, bound := .upper, intvalue := 0 }] := by
  decide

/-- the same statement about `infer` as it was BEFORE commit 8842d71 (`inferPreFix`) … -/
def InferSoundPreFix : Prop :=
  ∀ (op : Op) (L R : List Value) (a b : Int), (op.isComparison = true ∨ op = .sub) →
    (∀ v ∈ L, v.isInt = true → v.small) → (∀ v ∈ R, v.isInt = true → v.small) →
    (∀ v ∈ L, v.isInt = true → v.hard = true → v.holds a) → (∀ v ∈ R, v.isInt = true → v.hard = true → v.holds b) →
    ∀ r ∈ inferPreFix op L R, r.hard = true → r.holds (opSem op a b)

/-- … was false (finding F20, fixed): for `-` the Impossible bounds were emitted without looking at the kind of the values they
    rest on.  Witness: lhs = [Possible 5], rhs = [Impossible ≤ -1], a = 100, b = 0: the old code answered "a - b is never ≥ 6". -/
theorem infer_sound_counterexample : ¬ InferSoundPreFix := by
  intro h
  have := h .sub [{ kind := .possible, bound := .point, intvalue := 5 }] [{ kind := .impossible, bound := .upper, intvalue := -1 }]
    100 0 (Or.inr rfl) (by decide) (by decide) (by decide) (by decide)
    { kind := .impossible, bound := .lower, intvalue := 6 } (by decide) (by decide)
  revert this
  decide

-- the current code no longer produces that result
example : infer .sub [{ kind := .possible, bound := .point, intvalue := 5 }] [{ kind := .impossible, bound := .upper, intvalue := -1 }] = [] := by
  decide

/-- the pre-fix function was sound under the excluding hypothesis `allHard` (no Possible / Inconclusive INT value takes part) -/
theorem infer_prefix_sound_partial (op : Op) (hop : op.isComparison = true ∨ op = .sub) (L R : List Value) (a b : Int)
    (hLs : ∀ v ∈ L, v.isInt = true → v.small) (hRs : ∀ v ∈ R, v.isInt = true → v.small)
    (ha : ∀ v ∈ L, v.isInt = true → v.hard = true → v.holds a)
    (hb : ∀ v ∈ R, v.isInt = true → v.hard = true → v.holds b)
    (hL : allHard L) (hR : allHard R) :
    ∀ r ∈ inferPreFix op L R, r.hard = true → r.holds (opSem op a b) :=
  fun r hr hh => infer_core op hop L R a b hLs hRs ha hb false r hr hh fun _ => Or.inr ⟨hL, hR⟩

/-! Part 2: constant folding of a binary operator in `setTokenValue` against the C semantics at the type of the operation (F5) -/

open Cppcheck.MiniC Cppcheck.VFV in
/-- full statement: for unsigned operands the folded value is the value C computes.  False of the code: the folding is done in
    64 bits and the result is attached untruncated.  Witness `UINT_MAX + 1u` on LP64: folded 4294967296, C gives 0. -/
theorem fold_binary_unsigned_wrap_counterexample :
    ¬ ∀ a b : Int, inTy lp64 tUInt a → inTy lp64 tUInt b → foldBinary .add a b = evalBin lp64 .add tUInt tUInt a b := by
  intro h
  have := h 4294967295 1 (by decide) (by decide)
  revert this
  decide

open Cppcheck.MiniC Cppcheck.VFV in
/-- … and it is the value C computes whenever the mathematically exact result fits the (unsigned, unpromoted) type of the
    operation — the excluding hypothesis `hfit` is exactly the classifier of the known finding F5. -/
theorem fold_binary_sound_partial (P : Cppcheck.Platforms.Platform) (t : Ty) (a b : Int) (hu : t.signed = false) (hp : uac P t t = t)
    (ha : inTy P t a) (hb : inTy P t b) :
    (inTy P t (a + b) → inI64 (a + b) → foldBinary .add a b = evalBin P .add t t a b) ∧
    (inTy P t (a - b) → inI64 (a - b) → foldBinary .sub a b = evalBin P .sub t t a b) ∧
    (inTy P t (a * b) → inI64 (a * b) → foldBinary .mul a b = evalBin P .mul t t a b) := by
  -- on values that fit, every conversion in `evalBin` is the identity (`conv_id`), and so is `wrap64`
  refine ⟨?_, ?_, ?_⟩ <;> intro hfit h64 <;>
    simp [foldBinary, calculate, evalBin, BinOp.isShift, hp, conv_id ha, conv_id hb, arith, hu, conv_id hfit, wrap64_of_in _ h64]

open Cppcheck.MiniC Cppcheck.VFV in
example : inTy lp64 tUInt 7 ∧ inTy lp64 tUInt (7 + 5) ∧ uac lp64 tUInt tUInt = tUInt ∧ foldBinary .add 7 5 = some 12 := by decide

/-! Part 2b: an Impossible value carried through a compound assignment (`ValueFlowAnalyzer::isWritable / writeValue`).
    The code keeps the bound and replaces the value by `calculate(op, v, k)`; that is sound exactly when `x ↦ x op k` is
    strictly monotone increasing (Lower/Upper bounds) resp. injective (Point). -/

/-- `+= -= ++ --`: translations, sound for every bound and every `k` -/
theorem carry_impossible_shift_sound (op : String) (hop : op = "+=" ∨ op = "-=" ∨ op = "++" ∨ op = "--") (b : IBound) (k v v' x : Int)
    (hc : carryImpossible op k v = some v') (hin : inI64 (assignSem op k v)) (h : impHolds b v x) :
    impHolds b v' (assignSem op k x) := by
  rw [carryImpossible_eq hc hin]
  refine impHolds_map (fun x y hxy => ?_) b h
  rcases hop with rfl | rfl | rfl | rfl <;> simp only [assignSem] <;> omega

/-- full statement for `*=` (every multiplier) … -/
def CarryMulSound : Prop :=
  ∀ (b : IBound) (k v v' x : Int), carryImpossible "*=" k v = some v' → inI64 (v * k) → impHolds b v x →
    impHolds b v' (assignSem "*=" k x)

/-- … is false of the code (finding F1h): `x >= 5; x *= -1;` keeps "never <= -4" (x = 5 gives -5); `x != 3; x *= 0;` gives
    "never 0" (every x gives 0) -/
theorem carry_impossible_mul_counterexample : ¬ CarryMulSound := by
  intro h
  have := h .upper (-1) 4 (-4) 5 (by decide) (by decide) (by decide)
  revert this
  decide

theorem carry_impossible_mul_zero_counterexample : ¬ CarryMulSound := by
  intro h
  have := h .point 0 3 0 7 (by decide) (by decide) (by decide)
  revert this
  decide

/-- `*=` with a positive multiplier is strictly monotone: sound -/
theorem carry_impossible_mul_sound_partial (b : IBound) (k v v' x : Int) (hk : 0 < k)
    (hc : carryImpossible "*=" k v = some v') (hin : inI64 (v * k)) (h : impHolds b v x) :
    impHolds b v' (assignSem "*=" k x) := by
  rw [carryImpossible_eq hc hin]
  exact impHolds_map (fun _ _ hxy => Int.mul_lt_mul_of_pos_right hxy hk) b h

example : carryImpossible "*=" 2 0 = some 0 ∧ impHolds .upper 0 1 ∧ impHolds .upper 0 (assignSem "*=" 2 1) := by decide

/-- `/=` (and every other operator outside `carryOps`) carries nothing … -/
theorem carry_impossible_div_not_carried (k v : Int) : carryImpossible "/=" k v = none :=
  carryImpossible_none (by decide) k v

/-- … and must not: integer division is neither injective nor strictly monotone, so no value transform of the shape
    `v ↦ v / k` with the same bound is sound (x ≠ 6 but 7/2 = 6/2; x > 0 but 1/2 = 0/2; x < 5 but 4/2 = 5/2) -/
theorem carry_div_counterexample :
    ¬ (∀ (b : IBound) (v x : Int), impHolds b v x → impHolds b (assignSem "/=" 2 v) (assignSem "/=" 2 x)) := by
  intro h
  have := h .point 6 7 (by decide)
  revert this
  decide

/-! Part 3: the fact validator (Model/VFValidator.lean) over MiniC (Model/MiniC.lean) -/

open Cppcheck.MiniC Cppcheck.VFV in
/-- **validator_sound.**  If the validator accepts the fact `φ` for the function `f` on platform `P`, then in every run of `f`
    (any argument vector, any fuel — i.e. every finite prefix of every execution, whether it ends normally, in undefined
    behaviour or is cut off) every evaluation of the occurrence `φ.occ` yields a value of which `φ` holds.  In particular
    it holds in every UB-free execution, which is what the property asks for.  No hypothesis on `P`, `f` or `φ`. -/
theorem validator_sound (P : Cppcheck.Platforms.Platform) (f : Func) (φ : Fact) (h : validate P f φ = true) :
    ∀ (args : List Int) (fuel : Nat), ∀ ev ∈ (run P f fuel args).2, ev.1 = φ.occ → φ.holds ev.2 :=
  fun args fuel =>
    (stmt_sound ⟨P, f.vars, φ⟩ fuel f.body (initEnv P f args) (initAbs P f) (initEnv_length P f args) (init_sound P f args) h).1

-- a non-trivial accepted fact:  int f(int p){ int v = 0; if (p < 4) { v = T1(p) + 1; } return T2(v); }  ⇒  T2 never ≥ 5
open Cppcheck.MiniC Cppcheck.VFV in
example :
    validate lp64
      ⟨1, [tInt, tInt],
        .seq (.assign 10 1 (.lit 0 tInt))
          (.seq (.ite (.bin .lt (.var 0) (.lit 4 tInt)) (.assign 11 1 (.bin .add (.tag 1 (.var 0)) (.lit 1 tInt))) .skip)
            (.ret (.tag 2 (.var 1))))⟩
      ⟨2, .impossible, .lower, 5⟩ = true := by decide

open Cppcheck.MiniC in
/-- the executable interpreter agrees with the inductive big-step semantics: a statement has the outcome `o` with events `evs`
    iff some amount of fuel makes the interpreter return exactly that (and not `timeout`) -/
theorem interpreter_agrees_bigstep (P : Cppcheck.Platforms.Platform) (vars : List Ty) (σ : Env) (st : Stmt) (o : Out) (evs : List Event) :
    BigStep P vars σ st o evs ↔ ∃ n, execS P vars n σ st = (o, evs) ∧ o.isTimeout = false := by
  constructor
  · intro h
    obtain ⟨n, hn⟩ := (bigstep_exec h).exists
    exact ⟨n, hn, bigstep_not_timeout h⟩
  · rintro ⟨n, hn, ht⟩
    have := exec_bigstep (P := P) (vars := vars) n σ st
    rw [hn] at this
    exact this ht

open Cppcheck.MiniC Cppcheck.VFV in
/-- `validator_sound` in terms of the big-step semantics, as the property states it: in every terminating execution of `f`
    that is free of undefined behaviour, the fact holds at each evaluation of its occurrence. -/
theorem validator_sound_bigstep (P : Cppcheck.Platforms.Platform) (f : Func) (φ : Fact) (h : validate P f φ = true)
    (args : List Int) (o : Out) (evs : List Event) (hex : BigStep P f.vars (initEnv P f args) f.body o evs) (_hub : o ≠ .ub) :
    ∀ ev ∈ evs, ev.1 = φ.occ → φ.holds ev.2 := by
  obtain ⟨n, hn⟩ := (bigstep_exec hex).exists
  have := validator_sound P f φ h args n
  unfold run at this
  rw [hn] at this
  exact this

end Cppcheck.C01
