import Cppcheck.Model.ExitCode
import Cppcheck.Proofs.ExitCode
/-!
C25 — exit status reflects the reported findings.

`Run` describes everything a run raises (findings per file, whole-program findings, the unmatchedSuppression
messages, lost worker pipes) together with the answers of the real suppression lists for each finding;
`exitStatus` is the status the parent process sees, `printed` the findings StdLogger prints (the checkers
summary is printed by StdLogger itself and is not part of `printed`, it never influences `exitStatus`).
-/
namespace Cppcheck.ExitCode

def sampleFinding (key : Nat) (nomsg nofail : Bool) : Finding :=
  { key := key, internal := false, libSkip := false, emptyText := false, critical := false,
    nomsgLocal := nomsg, nomsgGlobal := nomsg, explLocal := nomsg, explGlobal := nomsg, nofail := nofail }

def sampleOpts (code : Int) (ex : Executor) : Opts :=
  { errorExitCode := code, safety := false, checkConfig := false, emitDuplicates := false, executor := ex, project := false }

/-- a small run used to show that hypotheses are satisfiable: two files, three findings (one message-suppressed,
    one exit-code-suppressed, one plain), an unmatchedSuppression that is not exit-code-suppressed -/
def sampleRun (v : Variant) (ex : Executor) : Run :=
  { v := v, o := sampleOpts 7 ex,
    files := [[sampleFinding 1 true false, sampleFinding 2 false true], [sampleFinding 3 false false]],
    wp1 := [], wp1Errors := false, wp2 := [sampleFinding 4 false true],
    unmatchedGate := true, unmatched := [sampleFinding 5 false false], lostPipes := 0 }

/-- **Exit status ⇔ a reported finding that is not exit-code-suppressed** (outside `--safety`).
    Hypotheses: the exit code is visible in an 8-bit status, no worker pipe was lost, no 2^32 wrap-around, equal
    rendered text ⇒ equal suppression answers, and — for the legacy variant only — the run avoids the two input
    classes on which the statements repaired by a59832c / 4c58edf deviated (vacuous for `patched`, see `exit_iff_patched`). -/
theorem exit_iff_partial (r : Run)
    (hsafe : r.o.safety = false)
    (hcode : r.o.errorExitCode % 256 ≠ 0)
    (hlost : r.lostPipes = 0)
    (hwrap : noWrap r = true)
    (hkey : keyCoherent r = true)
    (hplain : unmatchedPlain r = true)
    (hF9 : avoidsUnmatchedNofail r = true)
    (hcc : avoidsCheckConfig r = true) :
    exitStatus r = waitStatus r.o.errorExitCode ↔ ∃ f ∈ printed r, f.nofail = false :=
  ⟨sound r hsafe hcode hlost hkey hplain hF9, fun ⟨f, hf, hn⟩ => complete r hsafe hwrap hcc f hf hn⟩

example : (sampleRun patched .thread).o.safety = false ∧ (sampleRun patched .thread).o.errorExitCode % 256 ≠ 0 ∧
    (sampleRun patched .thread).lostPipes = 0 ∧ noWrap (sampleRun patched .thread) = true ∧
    keyCoherent (sampleRun patched .thread) = true ∧ unmatchedPlain (sampleRun patched .thread) = true ∧
    avoidsUnmatchedNofail (sampleRun patched .thread) = true ∧ avoidsCheckConfig (sampleRun patched .thread) = true ∧
    exitStatus (sampleRun patched .thread) = 7 ∧ (printed (sampleRun patched .thread)).map (·.key) = [2, 3, 4, 5] := by
  -- a closed term, here and in the other examples, evaluated by the kernel only: the elaborator's evaluation of a run is slow
  decide +kernel

/-- **the theorem about the tree as it is** (both repairs in): no input class is excluded -/
theorem exit_iff_patched (r : Run) (hv : r.v = patched)
    (hsafe : r.o.safety = false) (hcode : r.o.errorExitCode % 256 ≠ 0) (hlost : r.lostPipes = 0)
    (hwrap : noWrap r = true) (hkey : keyCoherent r = true) (hplain : unmatchedPlain r = true) :
    exitStatus r = waitStatus r.o.errorExitCode ↔ ∃ f ∈ printed r, f.nofail = false :=
  exit_iff_partial r hsafe hcode hlost hwrap hkey hplain (by simp [avoidsUnmatchedNofail, hv, patched])
    (by simp [avoidsCheckConfig, hv, patched])

/-- **Every schedule.**  With the thread / process executor the messages of the workers reach the executor in some interleaving
    `es` of the per-file streams (any list with the same elements as `fromFiles r`, in particular any permutation).  The exit
    status does not depend on `es` at all, and it equals the error exit code iff the run *as printed under that schedule* shows a
    finding that is not exitcode-suppressed.  (`printed r = printedOf r (fromFiles r)` is the file-after-file schedule.) -/
theorem exit_iff_any_schedule (r : Run) (hv : r.v = patched)
    (hsafe : r.o.safety = false) (hcode : r.o.errorExitCode % 256 ≠ 0) (hlost : r.lostPipes = 0)
    (hwrap : noWrap r = true) (hkey : keyCoherent r = true) (hplain : unmatchedPlain r = true)
    (es : List Emit) (hes : es.Perm (fromFiles r)) :
    exitStatus r = waitStatus r.o.errorExitCode ↔ ∃ f ∈ printedOf r es, f.nofail = false := by
  rw [exit_iff_patched r hv hsafe hcode hlost hwrap hkey hplain, printed_eq,
    printedOf_iff_cand r hsafe hkey hplain es (fun e => hes.mem_iff),
    printedOf_iff_cand r hsafe hkey hplain (fromFiles r) (fun _ => Iff.rfl)]

example : printedOf (sampleRun patched .thread) (fromFiles (sampleRun patched .thread)).reverse = printed (sampleRun patched .thread) ∨
    (printedOf (sampleRun patched .thread) (fromFiles (sampleRun patched .thread)).reverse).map (·.key) = [3, 2, 4, 5] := by decide +kernel

/-- `--enable=unusedFunction --error-exitcode=7 clean.c static.c`: the only finding is a staticFunction raised by the in-memory
    stage (`CheckUnusedFunctions::check` returns false for it, so `errors` is false and the stage adds nothing to the executor's
    result), the second stage raises it again and the duplicate filter drops it — the status is still 7, because the logger's code
    set in the first stage is not reset before `returnValue |= analyseWholeProgram(buildDir, …)` reads it -/
def wpOnlyRun (b : Bool) (nofail : Bool) : Run :=
  { v := patched, o := sampleOpts 7 .single, files := [[], []], wp1 := [sampleFinding 1 false nofail], wp1Errors := b,
    wp2 := [sampleFinding 1 false nofail], unmatchedGate := false, unmatched := [], lostPipes := 0 }

example : exitStatus (wpOnlyRun false false) = 7 ∧ (printed (wpOnlyRun false false)).map (·.key) = [1] ∧
    execResult (wpOnlyRun false false) = 0 ∧ rv1 (wpOnlyRun false false) = 1 ∧
    exitStatus (wpOnlyRun false true) = 0 ∧ (printed (wpOnlyRun false true)).map (·.key) = [1] := by decide +kernel

/-- the `errors` flag of the in-memory whole-program stage (`return errors && mLogger->exitcode() > 0`) never decides the exit
    status: whenever it could add to the executor's result, the sticky logger code is set and reaches `returnValue` through the second
    stage (`returnValue |= analyseWholeProgram(buildDir, …)`, which returns the same logger's code and does not reset it) -/
theorem stage_one_errors_flag_irrelevant (r : Run) (b : Bool) (hs : r.o.safety = false) :
    exitStatus { r with wp1Errors := b } = exitStatus r := by
  apply status_eq_of_rv1 (r' := { r with wp1Errors := b }) (r := r) rfl rfl rfl rfl
  by_cases hm : (main1 r).exit = true
  · right
    have h2 : (main2 r).exit = true := (main_spec r hs).1 hm
    exact ⟨rv1_of_main (r := { r with wp1Errors := b }) h2, rv1_of_main h2⟩
  · left
    have hm' : (main1 r).exit = false := by simpa using hm
    show execResult { r with wp1Errors := b } ||| _ = execResult r ||| _
    have : execResult { r with wp1Errors := b } = execResult r := by
      unfold execResult
      show (sumRets r + (if (r.o.executor == Executor.single && b && (main1 r).exit) = true then 1 else 0) + _) % two32 = _
      simp [hm']
    rw [this]
    rfl


/-- outside `--safety` the status is the error exit code or 0, and it is 0 when nothing that counts was printed -/
theorem exit_else_zero (r : Run) (hsafe : r.o.safety = false) :
    (exitStatus r = waitStatus r.o.errorExitCode ∨ exitStatus r = 0) ∧
    (r.lostPipes = 0 → keyCoherent r = true → unmatchedPlain r = true → avoidsUnmatchedNofail r = true →
      (¬ ∃ f ∈ printed r, f.nofail = false) → exitStatus r = 0) := by
  have h1 : exitStatus r = waitStatus r.o.errorExitCode ∨ exitStatus r = 0 := by
    by_cases hz : rv2 r = 0
    · exact Or.inr (status_of_rv2_zero hsafe hz)
    · exact Or.inl (status_of_rv2 hsafe hz)
  refine ⟨h1, fun hl hk hu h9 hno => ?_⟩
  by_cases hc : r.o.errorExitCode % 256 = 0
  · rcases h1 with h1 | h1
    · rw [h1]; unfold waitStatus; omega
    · exact h1
  · rcases h1 with h1 | h1
    · exact absurd (sound r hsafe hc hl hk hu h9 h1) hno
    · exact h1

/-- `--error-exitcode=0` (the default), or any multiple of 256: the status is 0 whatever was found -/
theorem exit_zero_when_errorExitCode_zero (r : Run) (hsafe : r.o.safety = false) (hcode : r.o.errorExitCode % 256 = 0) :
    exitStatus r = 0 := by
  rcases (exit_else_zero r hsafe).1 with h | h
  · rw [h]; unfold waitStatus; omega
  · exact h

example : exitStatus { sampleRun patched .single with o := sampleOpts 0 .single } = 0 ∧
    exitStatus { sampleRun patched .single with o := sampleOpts 256 .single } = 0 := by decide +kernel

/-- an invalid command line exits with 1, `--help`/`--version` with 0, before anything is analysed.  True by the definition of
    `processStatus`: the content of this clause is in the tie (statement extraction of `CppCheckExecutor::check` and the invalid
    command lines of the CLI grid), the theorem only records which definition the tie validates. -/
theorem invalid_cmdline_is_1 (r : Run) : processStatus .fail r = 1 ∧ processStatus .exit r = 0 ∧
    processStatus .ok r = exitStatus r := ⟨rfl, rfl, rfl⟩

/-- `--safety`: a critical error that reaches StdLogger (even suppressed, as an internal message) makes the status 1 -/
theorem safety_critical_is_1 (r : Run) (hsafe : r.o.safety = true) (hcrit : hasCritical r = true) : exitStatus r = 1 := by
  unfold exitStatus mainReturn
  simp [hsafe, hcrit, waitStatus]

example : exitStatus { sampleRun patched .single with
    o := { sampleOpts 7 .single with safety := true },
    files := [[{ sampleFinding 1 true true with critical := true }]], wp2 := [], unmatched := [] } = 1 := by decide +kernel

/-- process executor: a worker whose pipe closed before CHILD_END forces the error exit code -/
theorem lost_pipe_fails (r : Run) (hsafe : r.o.safety = false) (hproc : r.o.executor = .process)
    (hlost : 0 < r.lostPipes) (hwrap : noWrap r = true) : exitStatus r = waitStatus r.o.errorExitCode := by
  apply status_of_rv2 hsafe
  apply rv2_of_rv1
  apply or_ne_zero_left
  rw [execResult_eq hwrap, hproc]
  show _ + r.lostPipes ≠ 0
  omega

/- The statement without the `avoids…` hypotheses was false of the legacy statements (the witnesses stay as regression
   tests), and it stays false without `keyCoherent`. -/

/-- F9 witness: `--enable=information --suppress=uninitvar:e.c --exitcode-suppressions=<unmatchedSuppression>
    --error-exitcode=7 e.c` on a file without findings: one unmatchedSuppression is printed, it is matched by the
    exit-code suppression, the status is 7 -/
def witnessF9 (v : Variant) : Run :=
  { v := v, o := sampleOpts 7 .single, files := [[]], wp1 := [], wp1Errors := false, wp2 := [],
    unmatchedGate := true, unmatched := [sampleFinding 1 false true], lostPipes := 0 }

theorem unmatched_ignores_nofail_counterexample :
    ¬ (∀ r : Run, r.v = legacy → r.o.safety = false → r.o.errorExitCode % 256 ≠ 0 → r.lostPipes = 0 →
        noWrap r = true → keyCoherent r = true → unmatchedPlain r = true → avoidsCheckConfig r = true →
        (exitStatus r = waitStatus r.o.errorExitCode ↔ ∃ f ∈ printed r, f.nofail = false)) := by
  intro h
  have := h (witnessF9 legacy) rfl rfl (by decide) rfl (by decide) (by decide) (by decide) (by decide)
  revert this
  decide +kernel

example : exitStatus (witnessF9 legacy) = 7 ∧ exitStatus (witnessF9 patched) = 0 ∧
    (printed (witnessF9 legacy)).map (·.nofail) = [true] := by decide +kernel

/-- `--check-config --enable=missingInclude --error-exitcode=7 m.c ok.c` (m.c has a missing include): the finding is
    printed and is not exit-code-suppressed, the status is 0; with the files in the other order the status is 7; with
    `-j2` it is 0 in both orders -/
def witnessCC (v : Variant) (ex : Executor) (mFirst : Bool) : Run :=
  { v := v, o := { sampleOpts 7 ex with checkConfig := true },
    files := if mFirst then [[sampleFinding 1 false false], []] else [[], [sampleFinding 1 false false]],
    wp1 := [], wp1Errors := false, wp2 := [], unmatchedGate := false, unmatched := [], lostPipes := 0 }

theorem check_config_counterexample :
    ¬ (∀ r : Run, r.v = legacy → r.o.safety = false → r.o.errorExitCode % 256 ≠ 0 → r.lostPipes = 0 →
        noWrap r = true → keyCoherent r = true → unmatchedPlain r = true → avoidsUnmatchedNofail r = true →
        (exitStatus r = waitStatus r.o.errorExitCode ↔ ∃ f ∈ printed r, f.nofail = false)) := by
  intro h
  have := h (witnessCC legacy .single true) rfl rfl (by decide) rfl (by decide) (by decide) (by decide) (by decide)
  revert this
  decide +kernel

/-- the status of a `--check-config` run depends on the order of the files and on the executor (legacy statement only) -/
theorem check_config_order_dependent :
    exitStatus (witnessCC legacy .single true) = 0 ∧ exitStatus (witnessCC legacy .single false) = 7 ∧
    exitStatus (witnessCC legacy .thread false) = 0 ∧ exitStatus (witnessCC legacy .process false) = 0 ∧
    (∀ ex b, exitStatus (witnessCC patched ex b) = 7) := by
  refine ⟨by decide, by decide, by decide, by decide, ?_⟩
  intro ex b
  cases ex <;> cases b <;> decide +kernel

/-- `keyCoherent` cannot be dropped: `--template={id} --exitcode-suppress=nullPointer:a.c --error-exitcode=7 a.c b.c`
    prints one line (the finding of a.c, exit-code-suppressed; the finding of b.c has the same text and is dropped as a
    duplicate) and exits with 7 -/
def witnessDup : Run :=
  { v := patched, o := sampleOpts 7 .single,
    files := [[sampleFinding 1 false true], [sampleFinding 1 false false]],
    wp1 := [], wp1Errors := false, wp2 := [], unmatchedGate := false, unmatched := [], lostPipes := 0 }

theorem duplicate_text_counterexample :
    ¬ (∀ r : Run, r.v = patched → r.o.safety = false → r.o.errorExitCode % 256 ≠ 0 → r.lostPipes = 0 →
        noWrap r = true → unmatchedPlain r = true →
        (exitStatus r = waitStatus r.o.errorExitCode ↔ ∃ f ∈ printed r, f.nofail = false)) := by
  intro h
  have := h witnessDup rfl rfl (by decide) rfl (by decide) (by decide)
  revert this
  decide +kernel

end Cppcheck.ExitCode
