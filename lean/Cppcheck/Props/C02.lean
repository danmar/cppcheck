import Cppcheck.Model.ContainerSize
import Cppcheck.Proofs.ContainerSize
import Cppcheck.Gen.StdCfgContainers
/-!
C02 — container-size facts hold in every UB-free execution.

`Gen.StdCfgContainers.stdCfgContainers` is the flattened member-function table of cfg/std.cfg (regenerated on every run).
`absEffect` is what the value-flow analysis assumes a call does to the size (from its configured action / yield),
`refEffect` what the member function of the C++ standard library does.  The table obligation is decided over the *whole*
generated table; the lifting theorem `known_size_sound` turns row soundness into: a Known size computed by the forward
analysis along a straight-line call sequence of any length is the size in every execution.
Last, the size given to a freshly constructed container (`ctorSize`) against the constructors of the standard library
(`ctorRef`), outside the call forms that `ctorExcluded` lists.
-/
namespace Cppcheck.ContainerSize
open Cppcheck.Gen.StdCfgContainers

theorem refinesB_sound (r a : Eff) (h : refinesB r a = true) : ∀ arg n n', r.rel arg n n' → a.rel arg n n' :=
  refinesB_sound_aux r a h

example : refinesB (.add 1) (.add 1) = true ∧ refinesB .addUnique (.add 1) = false ∧ refinesB .grow .any = true := by decide

/-- the test of `entrySound` on the four fields instead of a row, so that `kindOf c` and `m = "…"` are closed terms, which the
    kernel evaluates once for all rows that share them -/
def rowSound (c m : String) (a : Action) (y : Yield) : Bool :=
  match kindOf c with
  | none => false
  | some k =>
    match refEffect k m with
    | none => false
    | some r => refinesB r (absEffect a y) && (!assumesNonEmptyAfter a || leavesNonEmpty r)

theorem entrySound_eq_rowSound (e : Entry) : entrySound e = rowSound e.container e.method e.action e.yield := rfl

theorem cfg_rows_sound : (stdCfgContainers.all fun ⟨c, m, a, y⟩ => rowSound c m a y) = true := by
  decide +kernel

/-- **every row of the table is sound**: the effect the analysis assumes contains the reference effect, and where the analysis
    assumes "not empty afterwards" the reference effect guarantees it — decided over the whole generated table -/
theorem cfg_actions_sound : ∀ e ∈ stdCfgContainers, entrySound e = true :=
  fun e he => (entrySound_eq_rowSound e).trans (List.all_eq_true.mp cfg_rows_sound e he)

/-- regression (F6, repaired by 8c7e264): the rows cfg/std.cfg had for unique-key insertion — action `push` — are unsound: the
    reference effect of `std::set::insert` (over all overloads: the size does not shrink) allows 1 → 1, inserting a key that is
    present; the assumed effect of `push` is 1 → 2.  The same holds for emplace / emplace_hint (and try_emplace / insert_or_assign
    of std::map). -/
theorem cfg_set_insert_counterexample :
    refEffect .set "insert" = some .grow ∧
    (["insert", "emplace", "emplace_hint"].all fun m => !entrySound ⟨"stdSet", m, .push, .noYield⟩) = true ∧
    (["insert", "emplace", "emplace_hint", "try_emplace", "insert_or_assign"].all fun m => !entrySound ⟨"stdMap", m, .push, .noYield⟩) = true ∧
    ¬ ∀ arg n n', Eff.grow.rel arg n n' → (absEffect .push .noYield).rel arg n n' := by
  -- the three closed facts in one evaluation
  refine and_assoc.mp (and_assoc.mp ⟨by decide +kernel, fun h => ?_⟩)
  exact absurd (h 0 1 1 (Nat.le_refl 1)) (by decide : 1 ≠ 1 + 1)

/-- sound rows with action `push`: the container is not empty after the call (the Impossible-0 fact valueFlowContainerSize
    forwards behind a push) -/
theorem cfg_nonempty_after_push_sound (e : Entry) (he : entrySound e = true) (hp : e.action = .push)
    (k : Kind) (r : Eff) (hk : kindOf e.container = some k) (hr : refEffect k e.method = some r) :
    ∀ arg n n', r.rel arg n n' → 1 ≤ n' := by
  intro arg n n' hrel
  unfold entrySound at he
  simp only [hk, hr, hp, assumesNonEmptyAfter] at he
  simp at he
  exact leavesNonEmpty_sound r he.2 arg n n' hrel

example : entrySound ⟨"stdVector", "push_back", .push, .noYield⟩ = true := by decide +kernel

/-- **lifting**: along a call sequence of any length whose assumed effects contain the reference effects, a Known size
    computed by the forward analysis (`absRun`, i.e. writeValue / invalidation) equals the size of every execution -/
theorem known_size_sound (calls : List Call) (h : ∀ c ∈ calls, refinesB c.ref c.abs = true) :
    ∀ (n0 : Nat) (k0 : Option Int), (∀ k, k0 = some k → k = n0) →
    ∀ n, RefRun calls n0 n → ∀ k, absRun calls k0 = some k → k = n := by
  intro n0 k0 hk0 n hrun
  induction hrun generalizing k0 with
  | nil n => exact hk0
  | cons c rest n m _ hrel _ ih =>
    exact ih (fun c' hc' => h c' (List.mem_cons_of_mem _ hc')) _
      (absStep_sound c.abs c.arg n m k0 hk0 (refinesB_sound c.ref c.abs (h c List.mem_cons_self) c.arg n m hrel))

example : (∀ c ∈ [({ abs := .add 1, ref := .add 1, arg := 0 } : Call), { abs := .pop, ref := .pop, arg := 0 }, { abs := .any, ref := .shrink, arg := 0 }],
      refinesB c.ref c.abs = true) ∧
    absRun [{ abs := .add 1, ref := .add 1, arg := 0 }, { abs := .add 1, ref := .add 1, arg := 0 }, { abs := .pop, ref := .pop, arg := 0 }] (some 0) = some 1 := by
  decide +kernel

/-- the call site of a table row -/
def callOf (e : Entry) (arg : Nat) : Call :=
  { abs := absEffect e.action e.yield,
    ref := ((kindOf e.container).bind fun k => refEffect k e.method).getD .any,
    arg := arg }

theorem callOf_sound (e : Entry) (arg : Nat) (h : entrySound e = true) : refinesB (callOf e arg).ref (callOf e arg).abs = true := by
  unfold entrySound at h
  unfold callOf
  cases hk : kindOf e.container with
  | none => simp [hk] at h
  | some k =>
    cases hr : refEffect k e.method with
    | none => simp [hk, hr] at h
    | some r =>
      simp only [hk, hr] at h
      simp at h
      simp only [Option.bind, hr, Option.getD]
      exact h.1

/-- the lifting theorem instantiated with the generated table: any sequence of calls of configured member functions -/
theorem known_size_sound_table (rows : List (Entry × Nat)) (h : ∀ p ∈ rows, p.1 ∈ stdCfgContainers) :
    ∀ n, RefRun (rows.map fun p => callOf p.1 p.2) 0 n → ∀ k, absRun (rows.map fun p => callOf p.1 p.2) (some 0) = some k → k = n := by
  apply known_size_sound _ _ 0 (some 0) (by intro k hk; injection hk with hk; omega)
  intro c hc
  obtain ⟨p, hp, rfl⟩ := List.mem_map.mp hc
  exact callOf_sound p.1 p.2 (cfg_actions_sound p.1 (h p hp))

example : (⟨"stdVector", "push_back", .push, .noYield⟩ : Entry) ∈ stdCfgContainers ∧
    (⟨"stdSet", "insert", .insert, .noYield⟩ : Entry) ∈ stdCfgContainers := by decide +kernel

/-- regression (F6): with the row as it was (`push`) the lifted statement fails: `std::set<int> s; s.insert(1); s.insert(1);` has
    size 1, the analysis said 2 -/
theorem known_size_unsound_set_insert_counterexample :
    ¬ ∀ n, RefRun [callOf ⟨"stdSet", "insert", .push, .noYield⟩ 0, callOf ⟨"stdSet", "insert", .push, .noYield⟩ 0] 0 n →
        ∀ k, absRun [callOf ⟨"stdSet", "insert", .push, .noYield⟩ 0, callOf ⟨"stdSet", "insert", .push, .noYield⟩ 0] (some 0) = some k → k = n := by
  intro h
  have href : (callOf ⟨"stdSet", "insert", .push, .noYield⟩ 0).ref = .grow := by decide +kernel
  have habs : (callOf ⟨"stdSet", "insert", .push, .noYield⟩ 0).abs = .add 1 := rfl
  -- nothing else about the call is used
  generalize callOf ⟨"stdSet", "insert", .push, .noYield⟩ 0 = c at h href habs
  have hstep : ∀ n ≤ 1, c.ref.rel c.arg n 1 := fun n hn => by rw [href]; exact hn
  -- the second call inserts a key that is present: 0 → 1 → 1
  have hrun : RefRun [c, c] 0 1 := .cons c [c] 0 1 1 (hstep 0 (Nat.zero_le 1)) (.cons c [] 1 1 1 (hstep 1 (Nat.le_refl 1)) (.nil 1))
  exact absurd (h 1 hrun 2 (by simp [absRun, absStep, habs])) (by decide)

/-! ### the size of a freshly constructed container (`getInitListSize` / `getContainerSizeFromConstructorArgs`) -/

/-- **a Known size given to `T x(args)` / `T x{args}` is the size the constructor call produces** — for std::string / wstring,
    vector / deque / list, set, unordered_set, multiset of `int`, any argument values, parentheses and braces (with the
    initializer_list preference of [over.match.list]) — outside the call forms `ctorExcluded` lists, for which the code as it is
    states a wrong size (counterexamples below; F02b, F02c, F02f, F02g, F02h). -/
theorem ctorSize_sound_partial (k : CKind) (braces : Bool) (args : List Arg) (s r : Nat)
    (hwf : args.all Arg.wf = true) (hex : ctorExcluded k braces args = false)
    (hs : ctorSize k braces args = some s) (hr : ctorRef k braces args = some r) : s = r := by
  cases args with
  | nil => cases braces <;> cases hs <;> cases hr <;> rfl
  | cons a rest =>
    cases hl : braces && allNum (a :: rest) with
    | false =>
      have hr' : ctorRefPlain k (a :: rest) = some r := by simpa [ctorRef, hl] using hr
      rw [ctorSize_plain k braces _ r (List.cons_ne_nil _ _) hl hr'] at hs
      exact ctorArgs_sound k braces _ s r hwf hex hl hs hr'
    | true =>
      rw [Bool.and_eq_true] at hl
      obtain ⟨rfl, hall⟩ := hl
      exact initList_sound k a rest s r hall hex hs hr

/-- hypotheses are satisfiable, and the forms around the seeded change: `std::string s(3, 'a')` and `std::string s{3, 'a'}` get no
    size (the second argument is integral), `std::vector<int> v{3, 0}` gets 2, `std::string s{'a', 'b'}` gets 2 -/
example :
    ctorSize .string false [.num false 3 true, .num true 97 true] = none ∧ ctorRef .string false [.num false 3 true, .num true 97 true] = some 3 ∧
    ctorSize .string true [.num false 3 true, .num true 97 true] = none ∧ ctorRef .string true [.num false 3 true, .num true 97 true] = some 2 ∧
    ctorSize .seq true [.num false 3 true, .num false 0 true] = some 2 ∧ ctorRef .seq true [.num false 3 true, .num false 0 true] = some 2 ∧
    ctorSize .string true [.num true 97 true, .num true 98 true] = some 2 ∧
    ctorExcluded .seq true [.num false 3 true, .num false 0 true] = false ∧
    ctorSize .string false [.cont 6 6 true, .num false 1 true, .num false 2 true] = some 2 ∧
    ctorRef .string false [.cont 6 6 true, .num false 1 true, .num false 2 true] = some 2 := by decide +kernel

/-- the statement without the exclusions is false of the code as it is; one witness per excluded class:
    F02b `std::set<int> s{1, 1, 2}` (3 vs 2), F02f `std::set<int> s(v.begin(), v.end())` with a duplicate in `v` (4 vs 3),
    F02g `std::unordered_set<int> s(16)` (16 vs 0), F02c `std::string u(t, 1, 100)` with `t.size() == 6` (100 vs 5),
    F02h `std::string s{65}` (65 vs 1) -/
theorem ctorSize_sound_counterexamples :
    (ctorSize .set true [.num false 1 true, .num false 1 true, .num false 2 true] = some 3 ∧
      ctorRef .set true [.num false 1 true, .num false 1 true, .num false 2 true] = some 2) ∧
    (ctorSize .set false [.itBegin 4 3 true, .itEnd] = some 4 ∧ ctorRef .set false [.itBegin 4 3 true, .itEnd] = some 3) ∧
    (ctorSize .uset false [.num false 16 true] = some 16 ∧ ctorRef .uset false [.num false 16 true] = some 0) ∧
    (ctorSize .string false [.cont 6 6 true, .num false 1 true, .num false 100 true] = some 100 ∧
      ctorRef .string false [.cont 6 6 true, .num false 1 true, .num false 100 true] = some 5) ∧
    (ctorSize .string true [.num false 65 true] = some 65 ∧ ctorRef .string true [.num false 65 true] = some 1) := by
  decide +kernel

/-- the unrestricted statement itself, refuted by the F02g witness of the list above -/
theorem ctorSize_sound_counterexample :
    ¬ ∀ (k : CKind) (braces : Bool) (args : List Arg) (s r : Nat), args.all Arg.wf = true →
        ctorSize k braces args = some s → ctorRef k braces args = some r → s = r := by
  intro h
  exact absurd (h .uset false [.num false 16 true] 16 0 (by decide) (by decide) (by decide)) (by decide)

end Cppcheck.ContainerSize
