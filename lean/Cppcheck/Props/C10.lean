import Cppcheck.Proofs.MathLit
import Cppcheck.Proofs.CharLit
import Cppcheck.Proofs.Trunc
import Cppcheck.Model.Platforms
import Cppcheck.Gen.Platforms
/-
C10 — literal and constant values match the compiler on each platform: property theorems.

Objects (all executable, see Model/):
  `toBigNumber`, `toBigUNumber`, `isInt`, `isValidIntegerSuffix`  copies of lib/mathlib.cpp
  `characterLiteralToLL`                                          copy of externals/simplecpp/simplecpp.cpp
  `truncateIntValue`, `getMinMaxValues`, `constValue`, `charAdjust`   copies of lib/vf_common.cpp
  `castValue`, `foldUnary`                                        `ValueFlow::castValue`; what `setTokenValue` folds `! ~ -` to
  `litTypeCore`                                                   C09's model of the literal typing in `setValueTypeInTokenList`
  `sizeOf`, `bitsOf`                                              `ValueType::getSizeOf`, the bit counts of `getMinMaxValues`
  `Lit`/`render`/`Lit.value`, `CharLit`/`CharLit.render`/`CharLit.value`, `specSuffix`, `wrapC`, `cUnary`   the specification side
  `Gen.Platforms.*`                                               extracted from lib/platform.cpp + platforms/*.xml on every run
-/
namespace Cppcheck.C10
open Cppcheck.Wire Cppcheck.MathLit Cppcheck.CharLit Cppcheck.Trunc Cppcheck.Platforms

/-- Every literal of the grammar (any base, any number of digits, any accepted suffix, optional sign) whose
    magnitude fits 64 bits is converted to the 64-bit two's-complement IMAGE of its value (`Int.bmod · 2^64`): values in
    [2^63, 2^64) come out as negative bigints.  (`Lit` carries an optional sign because the tokenizer may hand MathLib a
    merged `-5`; in C the sign is a unary operator, `value` is the value of that token text, not of a C literal.) -/
theorem toBig_render (l : Lit) (hwf : l.WF = true) (hc : l.canonical = true) (h : l.magnitude < 2 ^ 64) :
    toBigNumber (render l) = .ok (Int.bmod l.value (2 ^ 64)) :=
  (toBigNumber_render hwf hc).trans (if_neg fun h' => Nat.not_le.2 h h'.2)

/-- the unsigned converter yields the value modulo 2^64 -/
theorem toBigU_render (l : Lit) (hwf : l.WF = true) (hc : l.canonical = true) (h : l.magnitude < 2 ^ 64) :
    toBigUNumber (render l) = .ok (l.value % 2 ^ 64) :=
  (toBigUNumber_render hwf hc).trans (if_neg fun h' => Nat.not_le.2 h h'.2)

example : (⟨none, .hex, false, "fFfF".toList, "uLL".toList⟩ : Lit).WF = true ∧
    (⟨none, .hex, false, "fFfF".toList, "uLL".toList⟩ : Lit).canonical = true ∧
    (⟨none, .hex, false, "fFfF".toList, "uLL".toList⟩ : Lit).magnitude = 65535 := by decide +kernel
example : (⟨some true, .dec, false, "9223372036854775808".toList, "i64".toList⟩ : Lit).WF = true ∧
    (⟨some true, .dec, false, "9223372036854775808".toList, "i64".toList⟩ : Lit).value = -(2 ^ 63) := by decide +kernel

/-- Decimal, hexadecimal and octal literals that do not fit 64 bits are rejected (InternalError out_of_range, no value). -/
theorem toBig_rejects_overflow_partial (l : Lit) (hwf : l.WF = true) (hc : l.canonical = true) (hb : l.base ≠ .bin)
    (h : 2 ^ 64 ≤ l.magnitude) :
    toBigNumber (render l) = .err .outOfRange ∧ toBigUNumber (render l) = .err .outOfRange :=
  ⟨(toBigNumber_render hwf hc).trans (if_pos ⟨hb, h⟩), (toBigUNumber_render hwf hc).trans (if_pos ⟨hb, h⟩)⟩

example : (⟨none, .dec, false, "18446744073709551616".toList, []⟩ : Lit).WF = true ∧
    (⟨none, .dec, false, "18446744073709551616".toList, []⟩ : Lit).base ≠ .bin ∧
    2 ^ 64 ≤ (⟨none, .dec, false, "18446744073709551616".toList, []⟩ : Lit).magnitude := by decide +kernel

/-- The statement without the base restriction is false of the code: the binary branch shifts without a range check. -/
theorem toBig_rejects_overflow_counterexample :
    ¬ ∀ l : Lit, l.WF = true → l.canonical = true → 2 ^ 64 ≤ l.magnitude → toBigNumber (render l) = .err .outOfRange := by
  intro h
  have := h ⟨none, .bin, false, '1' :: List.replicate 64 '0', []⟩ (by decide +kernel) (by decide +kernel) (by decide +kernel)
  revert this
  decide +kernel

/-- what the binary branch does instead: it wraps modulo 2^64, for every number of digits -/
theorem toBig_bin_wraps (l : Lit) (hwf : l.WF = true) (hb : l.base = .bin) :
    toBigNumber (render l) = .ok (Int.bmod l.value (2 ^ 64)) :=
  (toBigNumber_render hwf (by simp [Lit.canonical, hb])).trans (if_neg fun h => h.1 hb)

/-- `MathLib::isInt` accepts exactly the spellings of the grammar. -/
theorem isInt_iff_grammar (s : Str) : isInt s = true ↔ ∃ l : Lit, l.WF = true ∧ render l = s :=
  ⟨render_of_isInt, fun ⟨_, hwf, hr⟩ => hr ▸ isInt_of_render hwf⟩

/-- The 18-state suffix machine (Microsoft extensions on) accepts exactly the suffix table
    u l z | ul uz lu ll zu | ull llu i64 | ui64 (either case per letter) and `_` followed by at least one character. -/
theorem suffix_iff_spec (s : Str) : isValidIntegerSuffix s true = specSuffix s := suffix_spec_ms true s

/-- the same machine with `supportMicrosoftExtensions = false`: the table without `i64` / `ui64` -/
theorem suffix_iff_spec_std (s : Str) : isValidIntegerSuffix s false = specSuffixStd s := suffix_spec_ms false s

/-! ## spelling → type → reported value of an integer literal token

`toBigNumber` (this file), the type `setValueTypeInTokenList` gives the literal (C09's model `litTypeCore`, proved against
C17 6.4.4.1p5 in `Cppcheck.C09.literal_type_partial`) and the literal branch of `valueFlowSetConstantValue` +
`setTokenValue` guard (`constValue`) composed: the known value attached to the token of an unsigned-spelled (no sign)
literal is the VALUE OF THE LITERAL whenever bigint can hold it, and NO value otherwise — on every platform shape with
64-bit `long long`, whatever base, digits and suffix.  `dec us longs` are not tied to the spelling: whatever the typing is
asked, it types a value from 2^63 on unsigned with 64 bits (`litType_large`). -/
open Cppcheck.ValueTypeConv in
theorem literal_value (l : Lit) (hwf : l.WF = true) (hc : l.canonical = true) (hs : l.sign = none) (hm : l.magnitude < 2 ^ 64)
    (ib lb : Nat) (hib : ib ≤ 64) (hlb : lb ≤ 64) (dec us : Bool) (longs : Nat) (cs : Option Bool) (cb : Nat) :
    ∃ b, toBigNumber (render l) = .ok b ∧
      constValue b false cs cb
        ((litTypeCore (maxValue ib) (maxValue lb) (maxValue 64) dec us longs l.magnitude).sign == .unsigned)
        (litBits ib lb 64 (litTypeCore (maxValue ib) (maxValue lb) (maxValue 64) dec us longs l.magnitude).type / 8)
        (some (litBits ib lb 64 (litTypeCore (maxValue ib) (maxValue lb) (maxValue 64) dec us longs l.magnitude).type))
      = if l.magnitude < 2 ^ 63 then some (l.magnitude : Int) else none := by
  refine ⟨_, toBig_render l hwf hc hm, ?_⟩
  have hv : l.value = (l.magnitude : Int) := by simp [Lit.value, hs]
  rw [hv]
  by_cases hsmall : l.magnitude < 2 ^ 63
  · have hb : Int.bmod (l.magnitude : Int) (2 ^ 64) = (l.magnitude : Int) := bmod_of_range (by omega) (by omega)
    have hnn : ¬ ((l.magnitude : Int) < 0) := by omega
    simp [hb, constValue, charAdjust, hsmall, hnn]
  · obtain ⟨hsign, hbits⟩ := litType_large ib lb hib hlb dec us longs l.magnitude (by omega)
    have hb : Int.bmod (l.magnitude : Int) (2 ^ 64) = (l.magnitude : Int) - 2 ^ 64 := by
      rw [bmod64]; split <;> omega
    simp [hb, hsign, hbits, constValue, charAdjust, hsmall]
    omega

-- both cases of `literal_value`: `0x7fffFFFFu` (magnitude below 2^63: that value) and `18446744073709551615u` (2^64 - 1: no value)
example : (⟨none, .hex, false, "7fffFFFF".toList, "u".toList⟩ : Lit).WF = true ∧
    (⟨none, .hex, false, "7fffFFFF".toList, "u".toList⟩ : Lit).magnitude = 2147483647 ∧
    (⟨none, .dec, false, "18446744073709551615".toList, "u".toList⟩ : Lit).magnitude = 2 ^ 64 - 1 := by decide +kernel

/-- Every well-formed character literal (prefix none/u8/u/L; plain characters, simple, octal, hexadecimal and
    universal escapes; any number of c-chars for the unprefixed kind) gets the value of the specification. -/
theorem charlit_value (c : CharLit) (hwf : c.WF = true) : characterLiteralToLL c.render = .ok c.value := by
  simp only [CharLit.WF, Bool.and_eq_true, Bool.or_eq_true, beq_iff_eq, Bool.not_eq_true'] at hwf
  obtain ⟨⟨⟨hne, hk1⟩, hall⟩, hadj⟩ := hwf
  have hrender : c.render = c.kind.pfx ++ '\'' :: tailStr c.elems := by
    simp [CharLit.render, tailStr, List.append_assoc]
  rw [hrender, charLit_start]
  by_cases hk : c.kind = .narrow
  · rw [hk] at hall ⊢
    have hlen : c.elems.length ≠ 0 := fun h => by simp [List.eq_nil_of_length_eq_zero h] at hne
    rw [loop_narrow c.elems hall hadj _ 0 0 (Nat.le_succ _)]
    simp only [bne_self_eq_false, Bool.false_eq_true, if_false, Nat.zero_add, hlen, beq_self_eq_true, Bool.true_and, if_true,
      CharLit.value, hk]
    by_cases h1 : c.elems.length = 1
    · simp only [h1, decide_true, if_true]
      exact congrArg _ (bmod_natmod _ 256 ⟨2 ^ 56, by decide⟩)
    · simp only [h1, decide_false, Bool.false_eq_true, if_false]
      exact congrArg _ (bmod_natmod _ (2 ^ 32) ⟨2 ^ 32, by decide⟩)
  · match he : c.elems, hk1.resolve_left hk with
    | [e], _ =>
      rw [he] at hall hadj
      simp only [List.all_cons, List.all_nil, Bool.and_true] at hall
      rw [loop_single _ e hall ((adjOk_cons e []).1 hadj).1 _ (Nat.le_succ _)]
      simp [CharLit.value, hk, he]

example : (⟨.narrow, [.plain 'a', .simple 'n', .oct "17".toList, .hex "fF".toList]⟩ : CharLit).WF = true := by decide +kernel
example : (⟨.utf16, [.ucn4 "20aC".toList]⟩ : CharLit).WF = true := by decide +kernel
example : (⟨.narrow, [.hex ['0'], .plain 'x', .plain '4']⟩ : CharLit).WF = true ∧
    characterLiteralToLL (⟨.narrow, [.hex ['0'], .plain 'x', .plain '4']⟩ : CharLit).render = .ok 30772 := by decide +kernel

/-- The function before commit bed3bd1 (`pre := true`: the rest of the literal went to strtoull, which skips a `0x`
    prefix) did not satisfy the statement: `'\x0x4'` is the three c-chars `\x0`, `x`, `4` (gcc/clang: 30772), it returned 4. -/
theorem charlit_value_before_fix_counterexample :
    ¬ ∀ c : CharLit, c.WF = true → characterLiteralToLL c.render true = .ok c.value := by
  intro h
  have := h ⟨.narrow, [.hex ['0'], .plain 'x', .plain '4']⟩ (by decide +kernel)
  revert this
  decide +kernel

/-- `truncateIntValue` is the conversion to an integer type of 8·n bits (two's complement wrap), re-read as bigint. -/
theorem truncate_eq_wrap (v : Int) (n : Nat) (hn : 0 < n ∧ n ≤ 8) (signed : Bool) :
    truncateIntValue v n signed = some (Int.bmod (wrapC (8 * n) signed v) (2 ^ 64)) :=
  truncate_eq v n hn.1 hn.2 signed

example : (0 < 2 ∧ 2 ≤ 8) ∧ truncateIntValue 65535 2 true = some (-1) ∧ truncateIntValue (-1) 2 false = some 65535 := by decide +kernel

/-- signed destination: the balanced residue -/
theorem truncate_signed (v : Int) (n : Nat) (hn : 0 < n ∧ n ≤ 8) :
    truncateIntValue v n true = some (Int.bmod v (2 ^ (8 * n))) := by
  rw [truncate_eq_wrap v n hn]
  simp only [wrapC, if_true]
  have hm : 2 ^ (8 * n) ≤ 2 ^ 64 := Nat.pow_le_pow_right (by decide) (by omega)
  have h1 := @Int.bmod_lt v (2 ^ (8 * n)) (Nat.two_pow_pos _)
  have h2 := @Int.le_bmod v (2 ^ (8 * n)) (Nat.two_pow_pos _)
  generalize 2 ^ (8 * n) = m at *
  exact congrArg some (bmod_of_range (by omega) (by omega))

/-- unsigned destination narrower than bigint: the non-negative residue -/
theorem truncate_unsigned (v : Int) (n : Nat) (hn : 0 < n ∧ n < 8) :
    truncateIntValue v n false = some (v % ((2 ^ (8 * n) : Nat) : Int)) := by
  rw [truncate_eq_wrap v n ⟨hn.1, by omega⟩]
  simp only [wrapC, Bool.false_eq_true, if_false]
  have hle : 2 ^ (8 * n) ≤ 2 ^ 56 := Nat.pow_le_pow_right (by decide) (by omega)
  have hpos : 0 < 2 ^ (8 * n) := Nat.two_pow_pos _
  have h1 : 0 ≤ v % ((2 ^ (8 * n) : Nat) : Int) := Int.emod_nonneg _ (by omega)
  have h2 : v % ((2 ^ (8 * n) : Nat) : Int) < ((2 ^ (8 * n) : Nat) : Int) := Int.emod_lt_of_pos _ (by omega)
  congr 1
  apply bmod_of_range <;> omega

/-- `castValue` (what `setTokenValueCast` applies for a cast to char/short/int/long/long long of `8n` bits) is the C conversion
    to the target type, re-read as bigint -/
theorem cast_eq_wrap (v : Int) (hv : -(2 ^ 63) ≤ v ∧ v < 2 ^ 63) (n : Nat) (hn : 0 < n ∧ n ≤ 8) (signed : Bool) :
    castValue v signed (8 * n) = Int.bmod (wrapC (8 * n) signed v) (2 ^ 64) :=
  castValue_eq_wrap v hv (8 * n) (by omega) (by omega) signed

example : (-(2 ^ 63 : Int) ≤ 300 ∧ (300 : Int) < 2 ^ 63) ∧ castValue 300 false (8 * 1) = 44 ∧ castValue 200 true (8 * 1) = -56 := by decide +kernel

/-- `getMinMaxValues` gives the range of the type for widths below 62 bits and for signed 64-bit types. -/
theorem minmax_eq_range_partial (bits : Nat) (unsigned : Bool)
    (h : (2 ≤ bits ∧ bits < 62) ∨ (bits = 64 ∧ unsigned = false)) :
    getMinMaxValues bits unsigned = some (cRange bits unsigned) := by
  rcases h with ⟨h1, h2⟩ | ⟨h1, h2⟩
  · have : ¬ bits = 1 := by omega
    simp only [getMinMaxValues, this, if_false, h2, if_true, cRange]
    cases unsigned <;> simp
  · subst h1 h2
    decide +kernel

example : (2 ≤ 32 ∧ 32 < 62) ∨ (32 = 64 ∧ true = false) := by decide +kernel

/-- stated for every width from 2 to 64 it is false of the code: unsigned 64-bit types get LLONG_MAX as
    maximum ("todo max unsigned value"), 62- and 63-bit types get no range -/
theorem minmax_counterexample :
    ¬ ∀ bits unsigned, 2 ≤ bits → bits ≤ 64 → getMinMaxValues bits unsigned = some (cRange bits unsigned) := by
  intro h
  have := h 64 true (by decide +kernel) (by decide +kernel)
  revert this
  decide +kernel

/-- a negative `toBigNumber` result on a (non-character) literal of unsigned type narrower than 8 bytes is replaced by its
    value in the type (`signedValue += maxValue + 1`), provided it is not below −2^bits -/
theorem const_unsigned_adjust (v : Int) (size bits : Nat) (cs : Option Bool) (cb : Nat) (hb : 2 ≤ bits ∧ bits < 62) (hs : size < 8)
    (hv : -(2 ^ bits : Int) ≤ v ∧ v < 0) :
    constValue v false cs cb true size (some bits) = some (wrapC bits false v) := by
  have h1 : ¬ bits = 1 := by omega
  have hposN : 0 < 2 ^ bits := Nat.two_pow_pos bits
  have hleN : 2 ^ bits ≤ 2 ^ 61 := Nat.pow_le_pow_right (by decide) (by omega)
  have hcast : (2 : Int) ^ bits = ((2 ^ bits : Nat) : Int) := by norm_cast
  rw [hcast] at hv
  have hw : wrapC bits false v = v + ((2 ^ bits : Nat) : Int) := by
    simp only [wrapC, Bool.false_eq_true, if_false]
    rw [← Int.add_emod_right v, Int.emod_eq_of_lt (by omega) (by omega)]
  have hm : getMinMaxValues bits true = some (0, 2 ^ bits - 1) := by
    simp [getMinMaxValues, h1, hb.2]
  have hr : toI64 (toU64 (v + ((2 : Int) ^ bits - 1 + 1))) = v + ((2 ^ bits : Nat) : Int) := by
    rw [hcast, toI64_toU64_of_range (by omega) (by omega)]; omega
  simp only [constValue, charAdjust, Bool.false_eq_true, if_false, Bool.true_and, hv.2, hs, Option.bind_some, hm, hr, hw, if_true]
  -- the guard of `setTokenValue` does not apply below 8 bytes
  have h8 : ¬ size ≥ 8 := by omega
  simp only [decide_true, Bool.and_self, if_true, decide_eq_false h8, Bool.and_false, Bool.false_eq_true, if_false]

example : (2 ≤ 8 ∧ 8 < 62) ∧ (1 < 8) ∧ (-(2 ^ 8 : Int) ≤ -1 ∧ (-1 : Int) < 0) ∧ constValue (-1) false none 8 true 1 (some 8) = some 255 := by decide +kernel

/-! ## folding of the unary operators on a known operand (`setTokenValue`) -/

/-- `!x` is folded to the C value (int 0 / 1) for every operand -/
theorem fold_lnot (v : Int) (u : Bool) (ty : ITy) (s : IntShape) :
    foldUnary .lnot v u ty s.intBit s.longBit = some (cUnary .lnot v (s.bits ty) u s.intBit) := by
  simp [foldUnary, cUnary]

/-- `~x`: on every platform shape and for every operand type and value the folded value is the C value — integer promotion
    first, then `~` in the promoted type — represented as a 64-bit bigint.  Excluded (false of the code, see the
    counterexample): `unsigned short` as wide as `int`, `unsigned long long` narrower than 64 bits. -/
theorem fold_bnot_partial (s : IntShape) (hs : s.sane = true) (ty : ITy) (u : Bool) (v : Int)
    (hv : inOperand v s ty u = true) (hbig : -(2 ^ 63) ≤ v ∧ v < 2 ^ 63)
    (h1 : ¬ (u = true ∧ ty = .short ∧ s.shortBit = s.intBit)) (h2 : ¬ (u = true ∧ ty = .longlong ∧ s.llongBit < 64)) :
    foldUnary .bnot v u ty s.intBit s.longBit = some (Int.bmod (cUnary .bnot v (s.bits ty) u s.intBit) (2 ^ 64)) := by
  obtain ⟨c8, cci, ccs, csi, cil, cll, c64⟩ := sane_unpack hs
  cases u with
  | false =>
    rw [foldUnary_bnot_nomask v false ty _ _ (Or.inl rfl)]
    have : cUnary .bnot v (s.bits ty) false s.intBit = -v - 1 := by
      simp only [cUnary, promote]; split <;> simp
    rw [this, bmod_of_range (by omega) (by omega)]
  | true =>
    have hrange : ty ≠ .bool ∧ 0 ≤ v ∧ v < 2 ^ (s.bits ty) := by
      by_cases hb : ty = .bool
      · simp [inOperand, hb] at hv
      · simp only [inOperand, hb, if_false, inType, if_true, Bool.and_eq_true, decide_eq_true_eq] at hv
        exact ⟨hb, hv.1, hv.2⟩
    obtain ⟨hnb, h0, hlt⟩ := hrange
    -- narrow operands are promoted to int
    have narrow : ∀ b, b < s.intBit → cUnary .bnot v b true s.intBit = -v - 1 := by
      intro b hb; simp [cUnary, promote, hb]
    have wide : ∀ b, ¬ b < s.intBit → cUnary .bnot v b true s.intBit = 2 ^ b - 1 - v := by
      intro b hb; simp [cUnary, promote, hb]
    -- `unsigned int` / `unsigned long`: masked to the width of the type unless that is 64
    have masked : ∀ b, s.intBit ≤ b → b ≤ 64 → v < 2 ^ b →
        (if 0 < b ∧ b < 64 then some (toI64 (toU64 (-v - 1) &&& (2 ^ b - 1))) else some (-v - 1)) =
          some (Int.bmod (cUnary .bnot v b true s.intBit) (2 ^ 64)) := by
      intro b hb1 hb2 hlt
      rw [wide b (by omega)]
      by_cases h64 : b < 64
      · have hle : (2 : Int) ^ b ≤ 2 ^ 63 := by
          have : 2 ^ b ≤ 2 ^ 63 := Nat.pow_le_pow_right (by decide) (by omega)
          exact_mod_cast this
        rw [if_pos ⟨by omega, h64⟩, bnot_masked v b h64 h0 hlt, bmod_of_range (by omega) (by omega)]
      · have e : b = 64 := by omega
        subst e
        rw [if_neg (by omega), bmod64_of_unsigned64 v h0 hbig.2]
    cases ty with
    | bool => exact absurd rfl hnb
    | char =>
      rw [foldUnary_bnot_nomask v true .char _ _ (Or.inr ⟨by decide, by decide⟩), narrow (s.bits .char) cci,
        bmod_of_range (by omega) (by omega)]
    | short =>
      have : s.shortBit < s.intBit := by
        have : s.shortBit ≠ s.intBit := fun e => h1 ⟨rfl, rfl, e⟩
        omega
      rw [foldUnary_bnot_nomask v true .short _ _ (Or.inr ⟨by decide, by decide⟩), narrow (s.bits .short) this,
        bmod_of_range (by omega) (by omega)]
    | longlong =>
      have h64 : s.llongBit = 64 := by
        have : ¬ s.llongBit < 64 := fun e => h2 ⟨rfl, rfl, e⟩
        omega
      rw [foldUnary_bnot_nomask v true .longlong _ _ (Or.inr ⟨by decide, by decide⟩),
        wide (s.bits .longlong) (by simp only [IntShape.bits]; omega)]
      simp only [IntShape.bits, h64]
      rw [bmod64_of_unsigned64 v h0 hbig.2]
    | int =>
      simp only [foldUnary, if_true]
      exact masked s.intBit (Nat.le_refl _) (by omega) hlt
    | long =>
      simp only [foldUnary, if_true, reduceCtorEq, if_false]
      exact masked s.longBit cil (by omega) hlt

-- unix64, `~(unsigned char)0 = -1`, `~(unsigned short)1 = -2`, `~5u = 4294967290`
example : (⟨8, 16, 32, 64, 64⟩ : IntShape).sane = true ∧ inOperand 0 ⟨8, 16, 32, 64, 64⟩ .char true = true ∧
    foldUnary .bnot 0 true .char 32 64 = some (-1) ∧ cUnary .bnot 0 8 true 32 = -1 ∧
    foldUnary .bnot 1 true .short 32 64 = some (-2) ∧ foldUnary .bnot 5 true .int 32 64 = some 4294967290 := by decide +kernel

/-- without the two exclusions the statement is false of the code: `~(unsigned short)1` where short is as wide as int
    (avr8, pic8, msp430: C value 65534, folded −2) and `~0ull` where long long has 32 bits (pic8: 4294967295, folded −1) -/
theorem fold_bnot_counterexample :
    ¬ ∀ (s : IntShape) (ty : ITy) (u : Bool) (v : Int), s.sane = true → inOperand v s ty u = true → -(2 ^ 63) ≤ v ∧ v < 2 ^ 63 →
      foldUnary .bnot v u ty s.intBit s.longBit = some (Int.bmod (cUnary .bnot v (s.bits ty) u s.intBit) (2 ^ 64)) := by
  intro h
  have := h ⟨8, 16, 16, 32, 64⟩ .short true 1 (by decide +kernel) (by decide +kernel) (by decide +kernel)
  revert this
  decide +kernel

theorem fold_bnot_ulonglong_counterexample :
    foldUnary .bnot 0 true .longlong 16 32 ≠
      some (Int.bmod (cUnary .bnot 0 ((⟨8, 16, 16, 32, 32⟩ : IntShape).bits .longlong) true 16) (2 ^ 64)) := by decide +kernel

/-- unary minus on an operand whose promoted type is signed: the C value (−v); `LLONG_MIN` gets no value -/
theorem fold_neg_partial (s : IntShape) (ty : ITy) (u : Bool) (v : Int)
    (hp : (promote (s.bits ty) u s.intBit).2 = false) (hv : v ≠ -(2 ^ 63)) :
    foldUnary .neg v u ty s.intBit s.longBit = some (cUnary .neg v (s.bits ty) u s.intBit) := by
  simp only [foldUnary, hv, if_false, cUnary]
  cases hpp : promote (s.bits ty) u s.intBit with
  | mk b u' =>
    rw [hpp] at hp
    simp only at hp
    simp [hp]

example : (promote ((⟨8, 16, 32, 64, 64⟩ : IntShape).bits .short) true 32).2 = false ∧ (65535 : Int) ≠ -(2 ^ 63) ∧
    foldUnary .neg 65535 true .short 32 64 = some (-65535) := by decide +kernel

/-- for an operand whose promoted type is unsigned the statement is false of the code (finding F10b): `-1u` is folded to −1 -/
theorem fold_neg_unsigned_counterexample :
    ¬ ∀ (s : IntShape) (ty : ITy) (u : Bool) (v : Int), s.sane = true → inOperand v s ty u = true → v ≠ -(2 ^ 63) →
      foldUnary .neg v u ty s.intBit s.longBit = some (Int.bmod (cUnary .neg v (s.bits ty) u s.intBit) (2 ^ 64)) := by
  intro h
  have := h ⟨8, 16, 32, 64, 64⟩ .int true 1 (by decide +kernel) (by decide +kernel) (by decide +kernel)
  revert this
  decide +kernel

/-- 731a3b3: an ordinary one-character literal with code `b` is valued `(char)b` by the host-char converter; the adjustment
    turns it into the value of the analysed platform's `char` (0…255 if unsigned, −128…127 if signed) -/
theorem char_platform_sign (b : Nat) (hb : b < 256) (u : Bool) :
    charAdjust (Int.bmod b 256) true (some u) 8 = if u then (b : Int) else Int.bmod b 256 := by
  cases u <;> simp only [charAdjust, if_true, Bool.false_eq_true, if_false]
  · -- signed `char`: the host value is below 128 already
    have := @Int.bmod_lt b 256 (by decide)
    rw [if_neg (by omega)]
  · -- unsigned `char`: the host value is `b - 256` from 128 on
    have e : Int.bmod b 256 = if (b : Int) < 128 then (b : Int) else b - 256 := by
      rw [Int.bmod_def, Int.emod_eq_of_lt (by omega) (by omega)]; rfl
    rw [e]
    by_cases h : (b : Int) < 128
    · rw [if_pos h, if_neg (by omega)]
    · rw [if_neg h, if_pos (by omega)]; omega

example : (255 < 256) ∧ charAdjust (Int.bmod 255 256) true (some true) 8 = 255 ∧ charAdjust (Int.bmod 255 256) true (some false) 8 = -1 := by decide +kernel

/-- on a token whose type is not unsigned the reported value is the (adjusted) `toBigNumber` result -/
theorem const_signed_type (v : Int) (cc : Bool) (cs : Option Bool) (cb size : Nat) (bits : Option Nat) :
    constValue v cc cs cb false size bits = some (charAdjust v cc cs cb) := by
  simp [constValue]

/-! ## platform tables (re-proved over the table extracted on this run) -/

/-- the built-in platforms are the ILP32 / LP64 / LLP64 data models of the System V and Microsoft ABIs -/
theorem sizeof_table : ∀ p ∈ Cppcheck.Gen.Platforms.builtin, referenceModel p.name = some p.dataModel := by decide +kernel

/-- the model of `ValueType::getSizeOf` (scalar types) is the chain in the source -/
theorem sizeOf_eq_source (p : Platform) (t : CType) : sizeOf p t = Cppcheck.Gen.Platforms.sizeOfSrc p t := by
  cases t <;> rfl

/-- the type → bit-count selection of the model is the switch of `getMinMaxValues` in the source -/
theorem bitsOf_eq_source (p : Platform) (t : CType) : bitsOf p t = Cppcheck.Gen.Platforms.bitsOfSrc p t := by
  cases t <;> rfl

/-- every platform (built-in, native, every platforms/*.xml) has 8-bit bytes, power-of-two integer sizes up to 8 and
    non-decreasing ranks — what the truncation / range model assumes -/
theorem platforms_sane : ∀ p ∈ Cppcheck.Gen.Platforms.all, p.sane = true := by decide +kernel

/-- on every platform every standard integer type has a range (`getMinMaxValues` answers) and a defined truncation -/
theorem platform_ranges_defined : ∀ p ∈ Cppcheck.Gen.Platforms.all, ∀ t ∈ CType.ints, ∀ u : Bool,
    ((bitsOf p t).bind (getMinMaxValues · u)).isSome = true ∧ 0 < sizeOf p t ∧ sizeOf p t ≤ 8 := by decide +kernel

end Cppcheck.C10
