import Cppcheck.Proofs.Lockset

/-!
C16 — the thread executor is free of data races (lockset part).

Model: `Cppcheck/Model/Lockset.lean`.  Threads: 0 = main thread, 1..n = workers, `n` arbitrary.  A worker repeatedly
starts a *method event* (a control-flow path of a member function of an object shared between the workers) and executes
its operations `acq m | rel m | read x | write x | atomic x` one at a time, interleaved arbitrarily with the other workers;
`acq` blocks while another thread holds the mutex.  The main thread runs only while no worker runs (before the spawn /
after the join in `ThreadExecutor::check`) and is not constrained by any discipline.  `Race s`: two different threads
whose next operations are conflicting accesses (same location, one of them a plain write).

Discipline (`disciplined g`): every location `x` has a guard `g x`; `mutex m`: every worker access to `x` happens while
the worker holds `m`; `readOnly`: workers never write `x`.  Balanced: RAII shape — never re-lock a held mutex
(`std::mutex` is not recursive), never unlock a mutex not held, nothing held when the event ends.

The theorems hold for every number of workers and every schedule.  The statements over the table extracted from the
current source are in `Cppcheck/Props/C16Table.lean`.
-/
namespace Cppcheck.Lockset

/-- General form: any (possibly infinite) set `W` of balanced, disciplined worker events, any set `M` of main-thread
    events: no reachable state of the interleaving semantics has a race. -/
theorem reach_no_race (W M : List Op → Prop) (g : GuardMap)
    (hW : ∀ b, W b → balancedFrom [] b = true ∧ disciplinedFrom g [] b = true)
    (n : Nat) (s : State) (h : Reach W M n s) : ¬ Race s :=
  inv_no_race (inv_reach hW h)

/-- The executable runs stay inside the relational semantics (so the `run` theorems are about the same system). -/
theorem run_is_reachable (T : Tables) (n : Nat) (σ : List Sched) :
    Reach (· ∈ T.worker) (· ∈ T.main) n (run T n σ) :=
  List.foldlRecOn σ (stepFn T) .init fun _ h a _ => stepFn_reach T a h

/-- Finite flat tables, executable runs: for every number of workers `n` and every schedule `σ` (entries that are not
    enabled are skipped) the state reached has no race. -/
theorem lockset_no_race (T : Tables) (g : GuardMap) (hb : T.worker.balanced = true) (hd : T.worker.disciplined g = true) :
    ∀ (n : Nat) (σ : List Sched), ¬ Race (run T n σ) :=
  fun n σ => reach_no_race (· ∈ T.worker) (· ∈ T.main) g
    (fun b hbm => ⟨List.all_eq_true.mp hb b hbm, List.all_eq_true.mp hd b hbm⟩) n _ (run_is_reachable T n σ)

/-- Structured tables (what the translator emits): if every statement passes the syntactic checks then every control-flow
    path of every statement — including paths left early by return / throw / break / continue, any number of loop
    iterations, access points passed without performing the access — is a balanced, disciplined flat event … -/
theorem structured_paths_disciplined (P : StmtTable) (g : GuardMap)
    (hb : P.balanced = true) (hd : P.disciplined g = true) (p : List Op) (hp : P.paths p) :
    balancedFrom [] p = true ∧ disciplinedFrom g [] p = true := by
  obtain ⟨s, hs, d, hpath⟩ := hp
  have := path_ok hpath [] [] ⟨List.all_eq_true.mp hb s hs, List.all_eq_true.mp hd s hs⟩ ⟨rfl, rfl⟩
  rwa [List.append_nil] at this

/-- … hence no interleaving of any number of workers executing such paths reaches a race. -/
theorem structured_no_race (P : StmtTable) (M : List Op → Prop) (g : GuardMap)
    (hb : P.balanced = true) (hd : P.disciplined g = true)
    (n : Nat) (s : State) (h : Reach P.paths M n s) : ¬ Race s :=
  reach_no_race P.paths M g (structured_paths_disciplined P g hb hd) n s h

/-- `Race` is decidable through `raceB` (used by the concrete counterexamples). -/
theorem race_iff_raceB (s : State) : Race s ↔ raceB s = true :=
  ⟨raceB_of_race, race_of_raceB⟩

/-! ### the hypotheses are satisfiable and not vacuous -/

/-- shape of `SuppressionList::addSuppression` / `getSuppressions`: location 0 guarded by mutex 0 -/
def exGuard : GuardMap := guardOfList [.mutex 0, .readOnly]
def exLocked : Stmt := .locked 0 (.seq (.acc (.write 0)) (.alt (.acc (.read 0)) .skip))
def exReader : Stmt := .locked 0 (.scope (.loop (.scope (.seq (.acc (.read 0)) (.acc (.read 1))))))

example : StmtTable.balanced [exLocked, exReader] = true ∧ StmtTable.disciplined [exLocked, exReader] exGuard = true := by decide

example : MethodTable.balanced [exLocked.somePath, exReader.somePath] = true ∧
    MethodTable.disciplined [exLocked.somePath, exReader.somePath] exGuard = true := by decide

/-- the model really runs: two workers, the first inside its critical section, the second blocked on the mutex -/
example : run ⟨[exLocked.somePath], []⟩ 2 [.spawn, .start 1 0, .start 2 0, .exec 1, .exec 1, .exec 2] =
    ⟨.par, [idle, ⟨[0], [.read 0, .rel 0]⟩, ⟨[], [.acq 0, .write 0, .read 0, .rel 0]⟩]⟩ := by decide

/-- every path of a statement is a path: the early-exit path of `exLocked` after the write still unlocks -/
example : Path exLocked [.acq 0, .write 0, .rel 0] false :=
  Path.locked (p := [.write 0]) (Path.seq (Path.acc (.write 0)) (Path.abort _))

/-! ### the discipline is needed: what the theorem excludes

`unguardedReader` has the shape of `SuppressionList::getUnmatchedInlineSuppressions` (reads `mSuppressions` without taking
`mSuppressionsSync`).  If it could run on a worker while another worker runs `addSuppression`, the model has a race: -/

def unguardedReader : List Op := [.read 0]

theorem undisciplined_table_races :
    Race (run ⟨[exLocked.somePath, unguardedReader], []⟩ 2 [.spawn, .start 1 0, .start 2 1, .exec 1]) := by
  rw [race_iff_raceB]; decide

/-- the same unguarded event is harmless on the main thread after the join (fork–join ordering, no lock needed) -/
theorem unguarded_main_phase_event_is_fine :
    ∀ (n : Nat) (σ : List Sched), ¬ Race (run ⟨[exLocked.somePath], [unguardedReader]⟩ n σ) :=
  lockset_no_race ⟨[exLocked.somePath], [unguardedReader]⟩ exGuard (by decide) (by decide)

/-- … and the checks reject the table that lists it as a worker event -/
theorem unguarded_worker_event_rejected :
    MethodTable.disciplined [exLocked.somePath, unguardedReader] exGuard = false := by decide

/-- a write to a location declared read-only is rejected, as is re-locking a held mutex -/
example : Stmt.disciplined exGuard [] (.acc (.write 1)) = false := by decide
example : Stmt.balanced [] (.locked 0 (.locked 0 .skip)) = false := by decide

end Cppcheck.Lockset
