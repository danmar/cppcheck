import Cppcheck.Proofs.CacheCrash
/-
C20 — an interrupted run never corrupts later incremental results.

Byte level (`Cppcheck.XmlWf`, a model of tinyxml2's parser validated against the real one on every byte prefix of real
cache files): a byte prefix of a cache document loads with a root element only when at most the final newline is missing.
File level (`Cppcheck.CacheCrash`, for every per-file analysis / whole-program analysis / hash function): after any
history of kills and complete runs the next complete run reports what a run without a build directory reports, under two
hypotheses on the analysis and the options that the counterexamples show to be needed.
-/
namespace Cppcheck.XmlWf
open Cppcheck.Wire

/-- **No strict prefix of a cache document is well-formed** (other than the document without its final newline):
for every hash (decimal string) and every list of balanced items, a byte prefix `p` of
`header ++ items ++ "</analyzerinfo>\n"` with at least two bytes missing either fails to load or loads without any
root element. -/
theorem strict_prefix_not_wf (hash : Str) (items : List Str) (hok : hashOk hash = true)
    (hbal : ∀ it ∈ items, balancedItem hash it = true) (p : Str) (hp : p <+: document hash items)
    (hlen : p.length + 1 < (document hash items).length) :
    load p = .error ∨ load p = .ok none := by
  rw [List.prefix_iff_eq_take.mp hp]
  exact prefix_not_loaded hash items hok hbal p.length hlen

/-- the complete document — and the document without its final newline — loads with root `analyzerinfo` and the hash -/
theorem complete_document_loads (hash : Str) (items : List Str) (hok : hashOk hash = true)
    (hbal : ∀ it ∈ items, balancedItem hash it = true) :
    load (document hash items) = .ok (some (rootName, [(hashName, hash)])) ∧
    load ((document hash items).take ((document hash items).length - 1)) = .ok (some (rootName, [(hashName, hash)])) := by
  constructor
  · have := full_loaded hash items hok hbal (document hash items).length (by omega)
    rwa [List.take_length] at this
  · exact full_loaded hash items hok hbal ((document hash items).length - 1) (by omega)

/-- an `<error>` element with a nested element and text, as `ErrorMessage::toXML` prints -/
def sampleItem : Str :=
  "        <error id=\"nullPointer\" msg=\"Null &apos;p&apos;\">\n            <location file=\"a.c\" line=\"4\"/>\n            <symbol>p</symbol>\n        </error>\n".toList

example : hashOk "17007528919248187638".toList = true := by decide +kernel
example : balancedItem "17".toList ['<', 'e', ' ', 'a', '=', '"', '1', '"', '>', 'x', '<', '/', 'e', '>', '\n'] = true := by decide +kernel
/-- an item that closes the root element is not balanced -/
example : balancedItem "17".toList footer = false := by decide +kernel

end Cppcheck.XmlWf

namespace Cppcheck.CacheCrash
open Cppcheck.Wire Cppcheck.XmlWf

/-- **The property as worded** (reference = a run WITHOUT a build directory, `noBuildDirRun`: no cache, empty
`summaryReturn`, whole-program analysis over the in-memory FileInfo of all analysed files): after any history of kills and
complete runs on these inputs the next complete run reports exactly the findings of a run without a build directory.
`Reachable`: start from the empty directory; a kill (`crashDir`, any `Crash`:
every cache / summary / files.txt / checkers.txt file independently holds an arbitrary byte or line prefix of what the
run writes — a superset of all kill points of all executors, including the `reopen` window) or a complete run, any number
of times.  Hypotheses: the items the analysis writes are balanced XML and the keys decimal (`WellFormedWorld`, checked on
real cache files by the tie), the analysis of the current files does not depend on `summaryReturn`, the checkers report is
not printed.  Both of the latter are necessary (counterexamples below).  That the whole-program analysis is the same function
of the same FileInfo blocks whether they are kept in memory or re-read from the cache files is C22's statement (here: the
parameter `wp`). -/
theorem crash_then_run_eq_no_build_dir_partial (w : World) (o : Opts) (files : List Nat) (hw : WellFormedWorld w)
    (hs : SummInsensitive w files) (ho : o.reportCheckers = false) (d : Dir) (hd : Reachable w o files d) :
    (completeRun w o files d).1 = noBuildDirRun w o files :=
  (completeRun_findings w o files d hw hs ho (dirOK_reachable w o files hw hs ho d hd)).1

/-- a run on an empty build directory reports what a run without build directory reports -/
theorem empty_dir_run_eq_no_build_dir (w : World) (o : Opts) (files : List Nat) (hw : WellFormedWorld w)
    (hs : SummInsensitive w files) (ho : o.reportCheckers = false) :
    (completeRun w o files Dir.empty).1 = noBuildDirRun w o files :=
  crash_then_run_eq_no_build_dir_partial w o files hw hs ho _ .empty

/-- **After any history of interrupted and complete runs on these inputs, the next complete run reports exactly what a
run on an empty build directory reports.**  Same hypotheses as `crash_then_run_eq_no_build_dir_partial`. -/
theorem crash_then_run_eq_fresh_partial (w : World) (o : Opts) (files : List Nat) (hw : WellFormedWorld w)
    (hs : SummInsensitive w files) (ho : o.reportCheckers = false) (d : Dir) (hd : Reachable w o files d) :
    (completeRun w o files d).1 = (completeRun w o files Dir.empty).1 :=
  (crash_then_run_eq_no_build_dir_partial w o files hw hs ho d hd).trans (empty_dir_run_eq_no_build_dir w o files hw hs ho).symm

/-- the single-crash instance: kill the first run at any point, then run to completion -/
theorem crash_once_then_run_eq_fresh (w : World) (o : Opts) (files : List Nat) (hw : WellFormedWorld w)
    (hs : SummInsensitive w files) (ho : o.reportCheckers = false) (c : Crash) :
    (completeRun w o files (crashDir w files Dir.empty c)).1 = (completeRun w o files Dir.empty).1 :=
  crash_then_run_eq_fresh_partial w o files hw hs ho _ (.crash _ c .empty)

/-- a build directory written by runs on OTHER inputs (an edit history): every cache file records some analysis under the
key of its input, the hash is injective on analysis results, and no file that now returns before `analyzeFile` has a
cache file -/
theorem run_on_foreign_dir_eq_fresh (w : World) (o : Opts) (files : List Nat) (hw : WellFormedWorld w)
    (hs : SummInsensitive w files) (ho : o.reportCheckers = false) (d : Dir)
    (hinj : ∀ a b, w.hashOf a = w.hashOf b → ∀ s, (w.analyze a s).items = (w.analyze b s).items)
    (hvalid : ∀ f e, d.cache f = some e → ∃ g s, e.hash = w.hashOf g ∧ e.items = (w.analyze g s).items)
    (hearly : ∀ f ∈ files, w.early f ≠ none → d.cache f = none) :
    (completeRun w o files d).1 = (completeRun w o files Dir.empty).1 := by
  have ok : DirOK w files d.cache := fun f e h => by
    obtain ⟨g, s, hg, hi⟩ := hvalid f e h
    refine ⟨?_, fun hh => ⟨s, ?_⟩, fun hf => Decidable.not_not.mp fun hne => ?_⟩
    · unfold EntryWF; rw [hg, hi]; exact hw g s
    · rw [hi]; exact hinj g f (by rw [← hg, hh]) s
    · rw [hearly f hf hne] at h
      cases h
  exact (completeRun_findings w o files d hw hs ho ok).1.trans (empty_dir_run_eq_no_build_dir w o files hw hs ho).symm

/-- the file-level reuse test is the byte-level decision of `analyzeFile` (what the driver computes on real files) plus the
internalError-class rule -/
theorem usable_eq_decision (e : CacheEntry) (h : Str) :
    e.usable h = (decide (decision e.bytes h = .reuse) && !e.items.any Item.retry) := by
  unfold CacheEntry.usable CacheEntry.rootOk decision
  cases hl : load e.bytes with
  | error => simp
  | ok r =>
    cases r with
    | none => simp
    | some na =>
      obtain ⟨n, as⟩ := na
      by_cases hn : n = rootName
      · cases ha : attr as hashName with
        | none => simp [hn, ha]
        | some v => by_cases hv : v = h <;> simp [hn, ha, hv]
      · simp [hn]

/-! ### concrete worlds: the hypotheses are satisfiable, and each is necessary -/

def itemE (x : Nat) : Item := ⟨['<', 'e', '/', '>', '\n'], .err x false⟩
def itemI (i : Nat) : Item := ⟨['<', 'i', '/', '>', '\n'], .info i⟩

/-- file 1 leaks before a trailing call of `f` (function 5), which file 0 defines; with `f` in `summaryReturn` the leak
(finding 9) is reported, without it the check bails out -/
def wSumm : World :=
  { hashOf := fun _ => ['1']
    analyze := fun f s => if f = 1 then ⟨if 5 ∈ s then [itemE 9] else [], [], [1]⟩ else ⟨[itemI 3], [5], [1]⟩
    early := fun _ => none
    wp := fun is => is.map (· + 100)
    wpError := 99
    loadReturn := fun ls => ls.flatten
    checkersLine := fun act => 1000 + act.eraseDups.length
    wpActive := [7] }

/-- a world whose analysis ignores `summaryReturn` -/
def wPlain : World :=
  { wSumm with analyze := fun f _ => ⟨[itemE (10 + f), itemI f], [f], [1, 2]⟩ }

theorem itemE_balanced (x : Nat) : balancedItem ['1'] (itemE x).bytes = true := by
  show balancedItem ['1'] ['<', 'e', '/', '>', '\n'] = true
  decide +kernel

theorem itemI_balanced (x : Nat) : balancedItem ['1'] (itemI x).bytes = true := by
  show balancedItem ['1'] ['<', 'i', '/', '>', '\n'] = true
  decide +kernel

theorem hashOk_one : hashOk ['1'] = true := by decide

theorem wSumm_wf : WellFormedWorld wSumm := by
  intro g s
  refine ⟨hashOk_one, ?_⟩
  intro it hit
  simp only [wSumm] at hit
  split at hit
  · split at hit
    · simp only [List.mem_singleton] at hit; subst hit; exact itemE_balanced 9
    · cases hit
  · simp only [List.mem_singleton] at hit; subst hit; exact itemI_balanced 3

theorem wPlain_wf : WellFormedWorld wPlain := by
  intro g s
  refine ⟨hashOk_one, ?_⟩
  intro it hit
  simp only [wPlain, List.mem_cons, List.not_mem_nil, or_false] at hit
  rcases hit with rfl | rfl
  · exact itemE_balanced _
  · exact itemI_balanced _

example : SummInsensitive wPlain [0, 1, 2] := fun _ _ _ => rfl

/-- killed while file 1 is analysed: file 0 complete (cache and summary), file 1 just truncated -/
def crashSumm : Crash :=
  { cache := fun f => if f = 0 then .rewritten 1000 else .rewritten 0
    summ := fun f => if f = 0 then some 1 else none
    filesTxt := some 2
    checkers := none }

/-- **F20a.**  Without `SummInsensitive` the statement is false: the complete run after the kill loads the summary of
file 0, re-analyses file 1 with `summaryReturn = [5]` and reports finding 9, which a run on an empty directory lacks. -/
theorem crash_then_run_eq_fresh_counterexample_summaries :
    (completeRun wSumm ⟨false⟩ [0, 1] (crashDir wSumm [0, 1] Dir.empty crashSumm)).1 = [9, 103] ∧
    (completeRun wSumm ⟨false⟩ [0, 1] Dir.empty).1 = [103] := by decide +kernel

/-- killed after every cache file is complete, before checkers.txt is written -/
def crashLate : Crash :=
  { cache := fun _ => .rewritten 1000
    summ := fun _ => some 10
    filesTxt := some 2
    checkers := none }

/-- **F20b.**  With the checkers report printed the statement is false: after the kill every cached result is reused, no
per-file checker runs, checkers.txt was never written, and the report counts only the whole-program checker. -/
theorem crash_then_run_eq_fresh_counterexample_checkers :
    (completeRun wPlain ⟨true⟩ [0, 1] (crashDir wPlain [0, 1] Dir.empty crashLate)).1 = [10, 11, 100, 101, 1001] ∧
    (completeRun wPlain ⟨true⟩ [0, 1] Dir.empty).1 = [10, 11, 100, 101, 1003] := by decide +kernel

/-- hence the statement without the hypotheses on summaries / the checkers report does not hold of the code — already
for the single-kill instance from the empty directory (an instance of the `Reachable` form of the main theorem) -/
theorem crash_then_run_eq_fresh_counterexample :
    ¬ ∀ (w : World) (o : Opts) (files : List Nat) (c : Crash), WellFormedWorld w →
      (completeRun w o files (crashDir w files Dir.empty c)).1 = (completeRun w o files Dir.empty).1 := by
  intro h
  have h1 := h wSumm ⟨false⟩ [0, 1] crashSumm wSumm_wf
  rw [crash_then_run_eq_fresh_counterexample_summaries.1, crash_then_run_eq_fresh_counterexample_summaries.2] at h1
  revert h1; decide

/-- file 0 now returns before `analyzeFile` (e.g. a preprocessor error) but an older run left a torn cache file for it -/
def wEarly : World := { wPlain with early := fun f => if f = 0 then some [50] else none }

def staleDir : Dir :=
  { Dir.empty with cache := fun f => if f = 0 then some ⟨['1'], [itemE 10], 30⟩ else none }

/-- the premise of `run_on_foreign_dir_eq_fresh` about skipped files is needed: the torn cache file is never rewritten and
the whole-program phase reports an internalError (99) instead of its findings.  (Not reachable by kills on the SAME
inputs — `crash_then_run_eq_fresh_partial` has no such premise — it needs an edit between the runs.) -/
theorem stale_cache_of_skipped_file_counterexample :
    (completeRun wEarly ⟨false⟩ [0, 1] staleDir).1 = [50, 11, 99] ∧
    (completeRun wEarly ⟨false⟩ [0, 1] Dir.empty).1 = [50, 11, 101] := by decide +kernel

end Cppcheck.CacheCrash
