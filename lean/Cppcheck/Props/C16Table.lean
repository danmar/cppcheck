import Cppcheck.Props.C16
import Cppcheck.Gen.LockTable

/-!
C16 — statements over the table extracted from the current source (`Gen/LockTable.lean`, regenerated on every run by
`vlib/props/c16.py`).  `lockTable` = the structured events of all member functions of shared objects that can run on a
worker thread; `guardOf` = the guard of every shared location as inferred by the translator (the inference is not trusted:
`extracted_table_disciplined` re-checks every access of every event against it).
-/
namespace Cppcheck.Lockset
open Cppcheck.Gen.LockTable

/-- every extracted worker event has RAII-balanced, non-recursive locking and performs every access under the guard of the
    accessed location -/
theorem extracted_table_disciplined :
    lockTable.balanced = true ∧ lockTable.disciplined guardOf = true := by decide +kernel

/-- no interleaving of any number of workers executing any control-flow paths of the extracted events, with a main thread
    that executes arbitrary events `M` before the spawn / after the join, reaches a race -/
theorem extracted_no_race (M : List Op → Prop) (n : Nat) (s : State) (h : Reach lockTable.paths M n s) : ¬ Race s :=
  structured_no_race lockTable M guardOf extracted_table_disciplined.1 extracted_table_disciplined.2 n s h

/-- executable instance ONLY (one canonical complete path per extracted event as worker table, the undisciplined main-phase
    events as main table); strictly weaker than `extracted_no_race`, which covers all paths -/
theorem extracted_flat_no_race :
    ∀ (n : Nat) (σ : List Sched), ¬ Race (run ⟨lockTable.map Stmt.somePath, mainTable.map Stmt.somePath⟩ n σ) := by
  intro n σ
  refine reach_no_race (· ∈ lockTable.map Stmt.somePath) (· ∈ mainTable.map Stmt.somePath) guardOf ?_ n _
    (run_is_reachable ⟨lockTable.map Stmt.somePath, mainTable.map Stmt.somePath⟩ n σ)
  intro b hb
  obtain ⟨s, hs, rfl⟩ := List.mem_map.mp hb
  exact structured_paths_disciplined lockTable guardOf extracted_table_disciplined.1 extracted_table_disciplined.2 _
    ⟨s, hs, true, somePath_path s⟩

/-- the nine (location, mutex) pairs of the property record (ThreadData::mFileSync ×4, SyncLogForwarder::mReportSync,
    Executor::mErrorListSync, SuppressionList::mSuppressionsSync ×2, TimerResults::mResultsSync) are all present in the
    extracted table and are the guards the translator inferred -/
theorem extracted_anchor_guards :
    anchorGuards.length = 9 ∧ anchorGuards.all (fun p => guardOf p.1 == Guard.mutex p.2) = true := by decide

/-- non-vacuity on the extracted table itself: two workers start the witness event (`SyncLogForwarder::reportOut` on the
    current tree); after worker 1 executed its `acq` it holds exactly one mutex, and worker 2 — although scheduled twice — is
    still in front of its first operation (blocked on the same mutex), holding nothing -/
theorem extracted_table_runs :
    let T : Tables := ⟨lockTable.map Stmt.somePath, mainTable.map Stmt.somePath⟩
    let s := run T 2 [.spawn, .start 1 witnessEvent, .start 2 witnessEvent, .exec 1, .exec 2, .exec 2]
    s.phase = .par ∧ s.threads[1]?.map (·.held.length) = some 1 ∧ s.threads[2]?.map (·.held) = some [] ∧
      s.threads[2]?.map (·.rest) = T.worker[witnessEvent]? ∧ (T.worker[witnessEvent]?.bind List.head?).isSome = true := by
  decide

/-- … and the same event with its lock operations removed is a race between two workers: the discipline check is what
    excludes it, not the shape of the table -/
theorem extracted_witness_unlocked_races :
    Race (run ⟨[((lockTable.map Stmt.somePath)[witnessEvent]?.getD []).filter (fun o => !o.isLock)], []⟩ 2
      [.spawn, .start 1 0, .start 2 0]) := by
  rw [race_iff_raceB]; decide

end Cppcheck.Lockset
