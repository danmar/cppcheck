import Cppcheck.Model.Cache
import Cppcheck.Proofs.Cache
import Cppcheck.Props.C18
import Cppcheck.Gen.HashInput
import Cppcheck.Gen.OptionUse
/-
C19 — incremental analysis is transparent across option changes.

An option change is an `edit` of the tree: it rewrites the `opts` component (the option values the analysis reads) and the
`toolinfo` string (what CppCheck::calculateHash renders of them) of every file.  C18's theorems therefore speak about
option histories as well; what is specific to C19 is *which* options reach toolinfo – decided over the tables the
translators extract from cli/cmdlineparser.cpp, lib/settings.cpp and CppCheck::calculateHash.
The hypotheses' predicates: `HashInjOn`, `KeyFaithfulOn`, `MacroFree`, `SummFree`, `MapOK` at the top of Proofs/Cache.lean,
`PathPrefixed` and `OptsDetermined` in Props/C18.lean.
-/
namespace Cppcheck.Cache
open Cppcheck.Wire

variable {H S F : Type} [DecidableEq H]

/-! ## transparency across option changes -/

/-- **Transparency** for histories whose edits change options (and files): as C18, where `henc` now also says that on the
    history's inputs equal hash data implies equal option values (`View.opts`); it is `history_transparent_generic` of Props/C18
    under this property's name. -/
theorem option_history_transparent_generic (W : World H S F) (t0 : Tree) (evs : List Event)
    (hinj : HashInjOn W ((runsOf t0 evs).flatMap (·.2)))
    (henc : KeyFaithfulOn W.enc ((runsOf t0 evs).flatMap (·.2)))
    (hmac : ∀ r ∈ runsOf t0 evs, MacroFree W r.1 r.2)
    (hmap : ∀ r ∈ runsOf t0 evs, MapOK W.lk (r.2.map (·.path)))
    (hsum : ∀ r ∈ cachedRuns W ([], []) t0 evs, SummFree W r.1 r.2) :
    execCached W ([], []) t0 evs = execFresh W t0 evs :=
  history_transparent_generic W t0 evs hinj henc hmac hmap hsum

/-- with the key composition of the current code the only option-specific hypothesis is `hopt`: toolinfo determines the option values
    the analysis reads (`history_transparent_partial` of Props/C18 under this property's name) -/
theorem option_history_transparent_partial (W : World H S F) (t0 : Tree) (evs : List Event)
    (henc : W.enc = Encoding.fixed) (hlk : W.lk = .exactFirst)
    (hinj : HashInjOn W ((runsOf t0 evs).flatMap (·.2)))
    (hpath : ∀ r ∈ runsOf t0 evs, ∀ i ∈ r.2, PathPrefixed i)
    (hopt : OptsDetermined ((runsOf t0 evs).flatMap (·.2)))
    (hnd : ∀ r ∈ runsOf t0 evs, (r.2.map (·.path)).Nodup)
    (hmac : ∀ r ∈ runsOf t0 evs, MacroFree W r.1 r.2)
    (hsum : ∀ r ∈ cachedRuns W ([], []) t0 evs, SummFree W r.1 r.2) :
    execCached W ([], []) t0 evs = execFresh W t0 evs :=
  history_transparent_partial W t0 evs henc hlk hinj hpath hopt hnd hmac hsum

/-- an option history that satisfies the hypotheses: the option value is written into toolinfo, both option sets are analysed -/
example :
    let W := toyWorld Encoding.fixed .exactFirst
    let t0 : Tree := [(mkInput "t.c" [("%", 1, 1)] [] "opts= " "").withPathPrefix]
    let evs := [Event.run showAll, .edit (fun t => (setOptions "i".toList "opts=i".toList t).map FileInput.withPathPrefix), .run showAll]
    (∀ r ∈ runsOf t0 evs, ∀ i ∈ r.2, PathPrefixed i) ∧ OptsDetermined ((runsOf t0 evs).flatMap (·.2))
    ∧ (∀ r ∈ runsOf t0 evs, (r.2.map (·.path)).Nodup) ∧ (∀ r ∈ runsOf t0 evs, MacroFree W r.1 r.2)
    ∧ (∀ r ∈ cachedRuns W ([], []) t0 evs, SummFree W r.1 r.2)
    ∧ (execCached W ([], []) t0 evs).map (·.perFile.flatten.map (·.id)) = [[], ["inconclusive".toList]] := by
  decide +kernel

/-- an option that does not reach toolinfo: run, switch the option on (toolinfo unchanged), run – the cached run replays the
    result of the old option value, the fresh run reports the additional finding; the key composition plays no role -/
theorem uncovered_option_counterexample :
    let W := toyWorld Encoding.fixed .exactFirst
    let t0 : Tree := [(mkInput "t.c" [("%", 1, 1)] [] "opts" "").withPathPrefix]
    let evs := [Event.run showAll, .edit (fun t => (setOptions "i".toList "opts".toList t).map FileInput.withPathPrefix), .run showAll]
    ¬ OptsDetermined ((runsOf t0 evs).flatMap (·.2))
    ∧ ((execCached W ([], []) t0 evs).map (·.perFile.flatten.map (·.id)) = [[], []])
    ∧ ((execFresh W t0 evs).map (·.perFile.flatten.map (·.id)) = [[], ["inconclusive".toList]]) := by
  decide +kernel

/-! ## from the table to `hopt`: what is proved and what is not -/

/-- **one block at a time.** If two settings render equally before and after a block of the toolinfo chain (e.g. they differ only
    in the fields one option writes, and those are rendered by adjacent items), then equal toolinfo forces the block to render
    equally – contrapositive: changing what a covered option writes changes toolinfo, hence (no collision) the key. -/
theorem covered_block_determined (pre blk suf : List ToolItem) (sv sv' : SettingsView)
    (hp : renderToolinfo pre sv = renderToolinfo pre sv') (hs : renderToolinfo suf sv = renderToolinfo suf sv')
    (h : renderToolinfo (pre ++ (blk ++ suf)) sv = renderToolinfo (pre ++ (blk ++ suf)) sv')
    (hsome : (renderToolinfo (pre ++ (blk ++ suf)) sv).isSome = true) :
    renderToolinfo blk sv = renderToolinfo blk sv' := by
  obtain ⟨z, hz⟩ := Option.isSome_iff_exists.mp hsome
  obtain ⟨P, _, hP, h1, rfl⟩ := renderToolinfo_append_eq_some.mp hz
  obtain ⟨B, S, hB, hS, rfl⟩ := renderToolinfo_append_eq_some.mp h1
  obtain ⟨P', _, hP', h1', e⟩ := renderToolinfo_append_eq_some.mp (h ▸ hz)
  obtain ⟨B', S', hB', hS', rfl⟩ := renderToolinfo_append_eq_some.mp h1'
  -- both toolinfos are `P ++ (_ ++ S)`
  cases hP.symm.trans (hp.trans hP')
  cases hS.symm.trans (hs.trans hS')
  rw [hB, hB', List.append_cancel_right (List.append_cancel_left e)]

/-- settings for the witnesses below: everything off, `maxConfigsOption = mc`, `checkLevel = lvl`, user defines `ud`, the given addons -/
def svWitness (ud : String) (mc : Int) (lvl : Nat) (addons : List (List (String × Str))) : SettingsView :=
  { version := "2.21 dev".toList, product := [],
    sevs := [("warning", false), ("style", false), ("performance", false), ("portability", false), ("information", false)],
    bools := [("checkConfiguration", false), ("force", false), ("certainty:inconclusive", false),
              ("checks:unusedFunction", false), ("checks:missingInclude", false)],
    strs := [("userDefines", ud.toList), ("premiumArgs", []), ("standards.getC", "c11".toList), ("standards.getCPP", "c++20".toList),
             ("platform.toString", "native".toList)],
    ints := [("maxConfigsOption", mc)], enums := [("checkLevel", lvl)], addons := addons, dump := [], filePath := "a.c".toList,
    lists := [("userUndefs", []), ("libraries", [])] }

/-- the block lemma applied to the translated chain: `-DX` vs `-DY` (item 9 of the chain is `userDefines`) render equally before and
    after that item, so their toolinfos differ -/
example :
    let items := Cppcheck.Gen.HashInput.toolinfoItems
    let a := svWitness "X=1" 0 1 []
    let b := svWitness "Y=1" 0 1 []
    renderToolinfo (items.take 9) a = renderToolinfo (items.take 9) b
    ∧ renderToolinfo (items.drop 10) a = renderToolinfo (items.drop 10) b
    ∧ items = items.take 9 ++ ([.strField "userDefines"] ++ items.drop 10)
    ∧ renderToolinfo items a ≠ renderToolinfo items b := by
  decide +kernel

/-- **the chain as a whole is not uniquely decodable**: `--max-configs=11` at check level 0 and `--max-configs=1` at check level 1 with
    an addon named `0` render to the same toolinfo (no separator between `maxConfigsOption`, `checkLevel`, addon name/args and
    `premiumArgs`).  So `hopt` does not follow from `options_covered_partial` for arbitrary settings; addon names and `premiumArgs` are
    not options of the property's list and no command line over the listed options is known that collides. -/
theorem toolinfo_rendering_ambiguous :
    svWitness "" 11 0 [] ≠ svWitness "" 1 1 [[("name", ['0']), ("args", [])]]
    ∧ renderToolinfo Cppcheck.Gen.HashInput.toolinfoItems (svWitness "" 11 0 [])
        = renderToolinfo Cppcheck.Gen.HashInput.toolinfoItems (svWitness "" 1 1 [[("name", ['0']), ("args", [])]])
    ∧ (renderToolinfo Cppcheck.Gen.HashInput.toolinfoItems (svWitness "" 11 0 [])).isSome = true := by
  decide +kernel

/-! ## which options reach the key (tables regenerated from the source on every run) -/

/-- the fields CppCheck::calculateHash streams into toolinfo today -/
def currentHashFields : List String := hashFieldsOf Cppcheck.Gen.HashInput.toolinfoItems

/-- the options of the property's list whose handler writes something that is neither hashed, nor derived from a hashed field,
    nor re-applied after the cache, nor visible in the token stream, in the code as it is (after commit 40d3d51):
    `--language=` / `-x` sets the command line parser's `mEnforcedLang`, which becomes `file.lang()` – not a `Settings` member and
    not streamed into toolinfo (known finding `option-not-in-key:--language=`) -/
def knownUncovered : List String := ["--language="]

theorem uncovered_options :
    (Cppcheck.Gen.OptionUse.options.filter fun o => !optionCovered currentHashFields Cppcheck.Gen.OptionUse.readSeverities o).map (·.name)
      = knownUncovered ∧
    (Cppcheck.Gen.OptionUse.options.filter fun o => !optionCovered legacyHashFields Cppcheck.Gen.OptionUse.readSeverities o).map (·.name)
      = ["--inconclusive", "-U", "--std=", "--language=", "--platform=", "--library=",
         "--enable=all", "--enable=unusedFunction", "--enable=missingInclude", "--disable=all", "--disable=missingInclude"] := by
  decide +kernel

/-- **every other analysis option of the list reaches the key** the code computes today -/
theorem options_covered_partial :
    ∀ o ∈ Cppcheck.Gen.OptionUse.options, o.name ∉ knownUncovered →
      optionCovered currentHashFields Cppcheck.Gen.OptionUse.readSeverities o = true := by
  intro o ho hn
  cases h : optionCovered currentHashFields Cppcheck.Gen.OptionUse.readSeverities o with
  | true => rfl
  | false =>
    refine absurd ?_ hn
    rw [← uncovered_options.1]
    exact List.mem_map_of_mem (List.mem_filter.mpr ⟨ho, by rw [h]; rfl⟩)

/-- … and `--language=` does not -/
theorem options_covered_counterexample :
    (Cppcheck.Gen.OptionUse.options.filter fun o => !optionCovered currentHashFields Cppcheck.Gen.OptionUse.readSeverities o).map (·.name)
      = knownUncovered :=
  uncovered_options.1

/-- the toolinfo chain of the pinned commit (before 40d3d51) left all of these options outside the key -/
theorem options_covered_legacy_counterexample :
    (Cppcheck.Gen.OptionUse.options.filter fun o => !optionCovered legacyHashFields Cppcheck.Gen.OptionUse.readSeverities o).map (·.name)
      = ["--inconclusive", "-U", "--std=", "--language=", "--platform=", "--library=",
         "--enable=all", "--enable=unusedFunction", "--enable=missingInclude", "--disable=all", "--disable=missingInclude"] :=
  uncovered_options.2

/-- the table is the one the property's option list asks for (guards against an empty translation) -/
theorem option_table_nonempty :
    ∀ n ∈ ["--inconclusive", "-D", "-U", "-I", "--std=", "--language=", "--platform=", "--library=", "--suppress=",
           "--suppressions-list=", "--inline-suppr", "--max-configs=", "--check-level=", "--force", "--enable=warning", "--enable=style",
           "--enable=performance", "--enable=portability", "--enable=information", "--enable=unusedFunction", "--enable=missingInclude"],
      n ∈ Cppcheck.Gen.OptionUse.options.map (·.name) := by
  decide +kernel

end Cppcheck.Cache
