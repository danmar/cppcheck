import Cppcheck.Proofs.SevGate
import Cppcheck.Gen.SeverityGuards
/-
C27 — severity and certainty options gate findings monotonically.

`rows` (Gen/SeverityGuards.lean) is regenerated from the clang AST of the check classes on every run: one row per
(emission site, severity, certainty) with the guard formula the translator established for it.  The statements below are about
that whole table; `exemptGate` / `exemptInc` are the rows listed in corpus/C27/exempt.json (demonstrated findings and sites the
dominance analysis cannot resolve) — a site that loses its guard in the source is NOT in those lists and breaks `table_checks`.
In front of them: monotonicity of the positive fragment of the guard language, for any formula; at the end (`Select`): the value
selector ValueFlow::findValue.
-/
namespace Cppcheck.SevGate
open Cppcheck.Gen.SeverityGuards

/-- monotonicity holds for the POSITIVE fragment of the guard language (any such formula, any environment) … -/
theorem monotone_of_positive (f : Formula) (hp : f.positive = true) (o o' : Opts) (env : Env) (h : o ≤ o') :
    eval o env f = true → eval o' env f = true := by
  induction f with
  | tt => intro _; rfl
  | ff => intro h; exact h
  | opt a => exact evalAtom_mono h env a
  | nopt a => cases hp
  | lit k p => intro h; exact h
  | and a b iha ihb =>
    simp only [Formula.positive, Bool.and_eq_true] at hp
    intro hh
    simp only [eval, Bool.and_eq_true] at hh ⊢
    exact ⟨iha hp.1 hh.1, ihb hp.2 hh.2⟩
  | or a b iha ihb =>
    simp only [Formula.positive, Bool.and_eq_true] at hp
    intro hh
    simp only [eval, Bool.or_eq_true] at hh ⊢
    cases hh with
    | inl h1 => exact Or.inl (iha hp.1 h1)
    | inr h2 => exact Or.inr (ihb hp.2 h2)

/-- … and not for the language as a whole: a guard that tests an option for being disabled is not monotone -/
theorem monotone_needs_positive :
    ¬ (∀ (f : Formula) (o o' : Opts) (env : Env), o ≤ o' → eval o env f = true → eval o' env f = true) := by
  intro h
  have hle : (⟨fun _ => false, false⟩ : Opts) ≤ ⟨fun _ => true, true⟩ := ⟨fun _ _ => rfl, fun _ => rfl⟩
  have := h (.nopt .inconclusive) _ _ env0 hle rfl
  cases this

example : (Formula.and (en .style) (.or inc (.lit 3 false))).positive = true := by decide
example : (Formula.and (en .style) (nen .warning)).positive = false := by decide

example : (Opts.ofMask 0b0000000011) ≤ (Opts.ofMask 0b1000000111) := by
  constructor
  · intro s; cases s <;> decide
  · decide

/-- the four decisions over the WHOLE generated table.  The last one is the obligation "no live conjunction of a row's guard
tests an option for being disabled" (`Row.posOk`, over the disjunctive normal form; `Formula.positive` above is the syntactic
notion and is not what is decided here): the translator emits option tests with their real polarity, so an emission that the
source puts under `if (isEnabled(x)) return;` (or in the else branch of `if (isEnabled(x))`) makes it false. -/
theorem table_checks :
    rows.all (fun r => r.gateOk nFlags || exemptGate.contains r.idx) = true ∧
    rows.all (fun r => r.gateOkCli nFlags || exemptGateCli.contains r.idx) = true ∧
    rows.all (fun r => r.incOk nFlags || exemptInc.contains r.idx) = true ∧
    rows.all (fun r => r.posOk nFlags || exemptPos.contains r.idx) = true := by
  decide +kernel

/-- every row of the table (outside `exemptPos`, empty on the current tree) has a guard without a live disabled-option test -/
theorem table_positive : ∀ r ∈ rows, r.idx ∉ exemptPos → r.posOk nFlags = true :=
  of_all_exempt table_checks.2.2.2

/-- … hence, per site and for a fixed environment (the analysed program and the state other checks leave behind, e.g. `diag()`,
are part of `env`): enabling further severities or `--inconclusive` never disables a site that may report.  Soundness of `rows`
(the guard is implied by the execution of the site) is the translator's claim, validated by the correspondence, not proved. -/
theorem table_monotone : ∀ r ∈ rows, r.idx ∉ exemptPos → ∀ (o o' : Opts) (env : Env), defaultsHold nFlags env → o ≤ o' →
    mayReport r o env = true → mayReport r o' env = true :=
  fun r hr hex => posOk_sound (table_positive r hr hex)

/-- a finding of a gated severity is reported only when that severity is enabled (all option sets, all environments in which
the Settings flags named in `litNames` have their default value).  PARTIAL: rows of `exemptGate` (corpus/C27/exempt.json) are
excluded — the unrestricted statement is `gated_counterexample`; `rows` covers the check classes of lib/check*.cpp, and its
soundness w.r.t. the C++ is the translator's claim. -/
theorem gated_partial : ∀ r ∈ rows, r.idx ∉ exemptGate → ∀ (o : Opts) (env : Env), defaultsHold nFlags env →
    mayReport r o env = true → gatedSev (r.sev.eval env) = true → o.sev (r.sev.eval env) = true :=
  fun r hr hex => gateOk_sound (of_all_exempt table_checks.1 r hr hex)

/-- the same for option sets as the command line produces them from `--enable=` (style brings warning, performance and
portability with it): fewer rows are excluded -/
theorem gated_cli_partial : ∀ r ∈ rows, r.idx ∉ exemptGateCli → ∀ (o : Opts) (env : Env), o.cliClosed → defaultsHold nFlags env →
    mayReport r o env = true → gatedSev (r.sev.eval env) = true → o.sev (r.sev.eval env) = true :=
  fun r hr hex => gateOkCli_sound (of_all_exempt table_checks.2.1 r hr hex)

example : (Opts.ofMask 0b0000011111).cliClosed := fun _ => ⟨by decide, by decide, by decide⟩
example : defaultsHold nFlags env0 := defaultsHold_env0 nFlags

/-- an inconclusive finding is reported only with `--inconclusive` -/
theorem inconclusive_gated_partial : ∀ r ∈ rows, r.idx ∉ exemptInc → r.cert = .inconclusive → ∀ (o : Opts) (env : Env),
    defaultsHold nFlags env → mayReport r o env = true → o.inconclusive = true :=
  fun r hr hex => incOk_sound (of_all_exempt table_checks.2.2.1 r hr hex)

/-- the statement without the exclusion list is FALSE of the current code: some row may report although its severity is
disabled (all Settings flags at their default, `defaultsHold nFlags`) -/
theorem gated_counterexample : ¬ (∀ r ∈ rows, ∀ (o : Opts) (env : Env), defaultsHold nFlags env →
    mayReport r o env = true → gatedSev (r.sev.eval env) = true → o.sev (r.sev.eval env) = true) := by
  intro hall
  have hex : rows.any (fun r => r.refutesGate) = true := by decide +kernel
  obtain ⟨r, hr, hf⟩ := List.any_eq_true.mp hex
  simp only [Row.refutesGate, Bool.and_eq_true] at hf
  obtain ⟨⟨_, hg⟩, hm⟩ := hf
  have := hall r hr _ env0 (defaultsHold_env0 nFlags) hm hg
  simp [Opts.allBut] at this

theorem inconclusive_counterexample : ¬ (∀ r ∈ rows, r.cert = .inconclusive → ∀ (o : Opts) (env : Env),
    defaultsHold nFlags env → mayReport r o env = true → o.inconclusive = true) := by
  intro hall
  have hex : rows.any (fun r => r.refutesInc) = true := by decide +kernel
  obtain ⟨r, hr, hf⟩ := List.any_eq_true.mp hex
  simp only [Row.refutesInc, Bool.and_eq_true, beq_iff_eq] at hf
  have := hall r hr hf.1 _ env0 (defaultsHold_env0 nFlags) hf.2
  simp [Opts.allBut] at this

/-- tie used by the correspondence: whatever the environment, a row that reports under `o` is `possible` under `o`; a finding
of the real binary that is `possible` for no row of its id is a site the translator missed or mis-guarded -/
theorem possible_of_mayReport : ∀ r ∈ rows, ∀ (o : Opts) (env : Env), defaultsHold nFlags env →
    mayReport r o env = true → possible nFlags r.guard o = true :=
  fun r _ => possible_complete r.guard

/-! ### value selectors (ValueFlow::findValue): select-then-gate is monotone, filter-then-select is not -/
namespace Select

/-- findValue as it is in lib/valueflow.cpp (shape checked textually, behaviour compared in-process with the real function on
every run): the value it returns under an option set is returned, unchanged, under every larger one -/
theorem findValue_monotone {o o' : Opts} (h : o ≤ o') (vs : List Val) (v : Val) :
    findValue o vs = some v → findValue o' vs = some v :=
  select_then_gate_monotone select h vs v

/-- … and it is gated: an inconclusive value only with `--inconclusive`, a conditional one only with warning enabled -/
theorem findValue_gated {o : Opts} {vs : List Val} {v : Val} (h : findValue o vs = some v) :
    (v.inconclusive = true → o.inconclusive = true) ∧ (v.condition = true → o.sev .warning = true) :=
  gateVal_iff.mp (Option.filter_eq_some_iff.mp h).2

example : findValue (Opts.ofMask 0b1000000001) (ofDigits [5, 6]) = none ∧
          findValue (Opts.ofMask 0b1000000011) (ofDigits [5, 6]) = some ⟨false, true, true, 1⟩ := by decide

/-- the same gate applied INSIDE the loop (values the settings disallow are skipped before the preference is applied) is still
gated but NOT monotone: an inconclusive and a conditional match on one token — with `--inconclusive` alone the inconclusive value
is selected, adding warning selects the conditional one instead, so the first finding disappears -/
theorem findValueFiltered_not_monotone :
    ¬ (∀ (o o' : Opts) (vs : List Val) (v : Val), o ≤ o' → findValueFiltered o vs = some v → findValueFiltered o' vs = some v) := by
  intro h
  have hle : Opts.ofMask 0b1000000001 ≤ Opts.ofMask 0b1000000011 := by
    constructor
    · intro s; cases s <;> decide
    · decide
  have := h _ _ (ofDigits [5, 6]) ⟨true, false, true, 0⟩ hle (by decide)
  revert this
  decide

end Select

end Cppcheck.SevGate
