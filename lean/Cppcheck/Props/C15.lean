import Cppcheck.Proofs.Exec
import Cppcheck.Gen.C15Keys
/-
C15 — the transport round trips (message, suppression line) with the points where they fail; the duplicate filter under
permutation; the thread and the process executor against the single one, for every schedule; concrete runs that meet the
hypotheses or fall in an excluded region; last, the keys of the three duplicate filters as extracted from the source.
docs/C15.md gives the reading of every hypothesis.
-/
namespace Cppcheck.Serialize
open Cppcheck.Wire

/-- `fixInvalidChars` is idempotent: a message that went through one worker boundary is stable -/
theorem fixInvalidChars_idem (s : Str) : fixInvalidChars (fixInvalidChars s) = fixInvalidChars s :=
  fixInvalidChars_of_isPrint _ (fixInvalidChars_isPrint s)

/-- the transport round trip for all messages: any bytes in any field, any number of call-stack frames.  What the parent
    decodes is the message with `fixInvalidChars` applied to short/verbose/remark and `simplifyPath` to the frame files. -/
theorem deserialize_serialize (simp : Str → Str) (m : Msg) (h : m.transportable = true) :
    deserialize simp (serialize m) = .ok (m.sanitize simp) := deserialize_serialize_aux simp m h

/-- the hypothesis is satisfiable by messages with arbitrary bytes, tabs in the info, several frames -/
example : ({ id := "a b\t\n".toList, short := ['\x00', 'é', ';'], symbols := "12 ".toList, hash := 18446744073709551615,
             stack := [{ file := "d/../a.c".toList, origFile := "a.c".toList, line := -1, col := 7, info := "x\ty".toList },
                       { file := [], origFile := [], line := 2147483647, col := 4294967295 }] } : Msg).transportable = true := by decide +kernel

/-- the suppression transport round trip: what `handleRead` makes of the line `toString();column;checked;matched;extraComment`
    is the suppression with every field that is not written (type, lineBegin/lineEnd, macroName, hash, thisAndNextLine)
    back at its default and the file name through `simplifyPath`. -/
theorem suppr_transport (simp : Str → Str) (s : Suppr) (inl : Bool) (h : s.transportable = true) :
    supprDecode simp inl (supprEncode s) = .ok { s.transportView simp with isInline := inl } := by
  have ok := supprOK_of s h
  have h1 := notin_toStr_semicolon s ok
  have h2 := notin_renderInt_semicolon s.column
  have e : supprEncode s = s.toStr ++ ';' :: (renderInt s.column ++ ';' ::
      ([if s.checked then '1' else '0'] ++ ';' :: ([if s.matched then '1' else '0'] ++ ';' :: s.extraComment))) := by
    simp [supprEncode]
  unfold supprDecode
  rw [e, splitOnChar_append ';' _ _ h1, splitOnChar_append ';' _ _ h2,
    splitOnChar_append ';' [if s.checked then '1' else '0'] _ (by cases s.checked <;> simp),
    splitOnChar_append ';' [if s.matched then '1' else '0'] _ (by cases s.matched <;> simp)]
  obtain ⟨p4, more, hsp, hint⟩ := splitOnChar_cons ';' s.extraComment
  rw [hsp]
  simp only [parseLine_toStr simp s ok, parseInt32_renderInt _ ok.c1 ok.c2, hint, Suppr.transportView]
  cases s.checked <;> cases s.matched <;> simp

example : ({ errorId := "nullPointer".toList, fileName := "C:/src/dir.d/a.c".toList, lineNumber := 12, symbolName := "f*".toList,
             column := 3, checked := true, extraComment := "why; really # yes // ok".toList, isInline := true, type := 2,
             lineBegin := 3, lineEnd := 9, hash := 77 } : Suppr).transportable = true := by decide +kernel

/-- outside `Suppr.transportable` the line is really misread: a '#' in the file name starts a comment for `parseLine` -/
theorem suppr_transport_hash_counterexample :
    ¬ ∀ (s : Suppr), supprDecode id true (supprEncode s) = .ok { s.transportView id with isInline := true } := by
  intro h
  have e := h { errorId := ['x'], fileName := ['a', '#', 'b'] }
  have c : (match supprDecode id true (supprEncode { errorId := ['x'], fileName := ['a', '#', 'b'] }) with
      | .ok s' => decide (s'.fileName = ['a', '#', 'b'])
      | .error _ => false) = false := by decide +kernel
  rw [e] at c
  revert c
  decide +kernel

/-- F11b: a TAB inside a call-stack file name is outside `transportable`, and the round trip is really lost there:
    the frame of `a<TAB>b.c` comes back with file `a` and original file `b.c`. -/
theorem deserialize_serialize_tab_counterexample :
    ¬ ∀ (m : Msg), deserialize id (serialize m) = .ok (m.sanitize id) := by
  intro h
  have e := h { id := ['x'], stack := [{ file := ['a', '\t', 'b'], origFile := ['o'], line := 1, col := 2 }] }
  have c : (match deserialize id (serialize { id := ['x'], stack := [{ file := ['a', '\t', 'b'], origFile := ['o'], line := 1, col := 2 }] }) with
      | .ok m' => decide (m'.stack.map (·.file) = [['a', '\t', 'b']])
      | .error _ => false) = false := by decide +kernel
  rw [e] at c
  revert c
  decide +kernel

/-- F11: `sanitize` is not the identity — a message with a byte outside 0x20..0x7e arrives changed -/
theorem sanitize_nonascii_counterexample : ¬ ∀ (m : Msg), m.transportable = true → m.sanitize id = m := by
  intro h
  have := h { short := [Char.ofNat 195, Char.ofNat 169] } (by decide +kernel)
  revert this
  decide +kernel

end Cppcheck.Serialize

namespace Cppcheck.Dedup
open Cppcheck.Wire

/-- the duplicate filter is insensitive to the arrival order: the multiset of texts it lets through is the same for
    every permutation of the input, and so is the multiset of every observation the text determines -/
theorem dedup_perm {α β : Type} [DecidableEq α] (key : α → Str) (obs : α → β) (l l' : List α) (h : l.Perm l')
    (hk : ∀ a ∈ l, ∀ b ∈ l, key a = key b → obs a = obs b) :
    ((dedup key l).map key).Perm ((dedup key l').map key) ∧ ((dedup key l).map obs).Perm ((dedup key l').map obs) := by
  have hkeys : ((dedup key l).map key).Perm ((dedup key l').map key) := by
    apply (List.perm_ext_iff_of_nodup (nodup_keys_dedupGo key [] l) (nodup_keys_dedupGo key [] l')).2
    intro k
    simp only [keys_dedupGo, List.not_mem_nil, not_false_eq_true, true_and]
    constructor
    · rintro ⟨x, hx, e⟩; exact ⟨x, h.subset hx, e⟩
    · rintro ⟨x, hx, e⟩; exact ⟨x, h.symm.subset hx, e⟩
  refine ⟨hkeys, perm_map_of_perm_keys key obs _ _ hkeys ?_⟩
  intro a ha b hb e
  exact hk a (mem_dedupGo key [] l a ha).1 b (h.symm.subset (mem_dedupGo key [] l' b hb).1) e

/-- without "the key determines the finding" the surviving representatives depend on the order -/
theorem dedup_perm_counterexample :
    ¬ ∀ (l l' : List (Str × Nat)), l.Perm l' → ((dedup Prod.fst l).map Prod.snd).Perm ((dedup Prod.fst l').map Prod.snd) := by
  intro h
  have := h [(['k'], 1), (['k'], 2)] [(['k'], 2), (['k'], 1)] (List.Perm.swap _ _ _)
  have h2 : ((dedup Prod.fst [((['k'] : Str), 1), (['k'], 2)]).map Prod.snd) = [1] := by decide
  have h3 : ((dedup Prod.fst [((['k'] : Str), 2), (['k'], 1)]).map Prod.snd) = [2] := by decide
  rw [h2, h3] at this
  have := List.perm_singleton.1 this
  cases this

end Cppcheck.Dedup

namespace Cppcheck.Exec
open Cppcheck.Wire Cppcheck.Serialize

variable {F : Type}

/-- thread executor = single executor, for every file list, every logger input, every job count and every schedule
    (any enabled sequence of next / gate / print steps that ends with all workers finished):
    the multiset of printed texts and the result counter are those of the sequential run. -/
theorem thread_eq_single (cfg : Cfg) (raws : F → List Raw) (files : List F) (jobs : Nat) (σ : List TLabel) (s' : TState F)
    (hE : cfg.emitDuplicates = false)
    (hok : ∀ f ∈ files, keyOK cfg (raws f) = true ∧ safetyOK cfg (raws f) = true ∧ dedupOK cfg (raws f) = true)
    (hk : ∀ m ∈ forwarded cfg raws files, ∀ m' ∈ forwarded cfg raws files, cfg.keyGate m = cfg.keyGate m' → cfg.key2 m = cfg.key2 m')
    (hrun : trun cfg raws (tinit files jobs) σ = some s') (hterm : s'.terminal = true) :
    (s'.sink.reported.map cfg.key2).Perm ((runSingle cfg raws files).sink.reported.map cfg.key2) ∧
    s'.result = (runSingle cfg raws files).result := by
  obtain ⟨hI, e⟩ := tterminal cfg raws _ _ s' (trun_inv cfg hE raws _ _ σ _ s' (tinit_inv cfg raws files jobs) hrun) hterm
  obtain ⟨⟨_, hS⟩, eS⟩ := single_final cfg hE raws files hok hk
  exact ⟨Inv.agree hk hI hS cfg.key2 (fun _ _ _ _ e => e), e.trans eS.symm⟩

/-- … and the same multiset of findings under every observation `obs` (canonical tuple, XML element, …) that the
    printed text determines on the messages of the run ("the key determines the finding"). -/
theorem thread_obs_eq_single {β : Type} (cfg : Cfg) (raws : F → List Raw) (files : List F) (jobs : Nat) (σ : List TLabel)
    (s' : TState F) (obs : Msg → β)
    (hE : cfg.emitDuplicates = false)
    (hok : ∀ f ∈ files, keyOK cfg (raws f) = true ∧ safetyOK cfg (raws f) = true ∧ dedupOK cfg (raws f) = true)
    (hk : ∀ m ∈ forwarded cfg raws files, ∀ m' ∈ forwarded cfg raws files, cfg.keyGate m = cfg.keyGate m' → cfg.key2 m = cfg.key2 m')
    (hobs : ∀ m ∈ forwarded cfg raws files, ∀ m' ∈ forwarded cfg raws files, cfg.key2 m = cfg.key2 m' → obs m = obs m')
    (hrun : trun cfg raws (tinit files jobs) σ = some s') (hterm : s'.terminal = true) :
    (s'.sink.reported.map obs).Perm ((runSingle cfg raws files).sink.reported.map obs) := by
  have h := tterminal cfg raws _ _ s' (trun_inv cfg hE raws _ _ σ _ s' (tinit_inv cfg raws files jobs) hrun) hterm
  obtain ⟨⟨_, hS⟩, _⟩ := single_final cfg hE raws files hok hk
  exact Inv.agree hk h.1 hS obs hobs

/-- process executor = single executor, for every file list, logger input, job count and every schedule of
    fork / send / exit / read / reap steps over byte-level pipes that ends with all pipes closed and all workers
    reaped.  Hypotheses on what is sent: every forwarded message is transportable, fits a frame and is not changed by
    `fixInvalidChars` / `simplifyPath` (`Ev.good`); the suppression lines decode. -/
theorem process_eq_single (cfg : Cfg) (raws : F → List Raw) (sups : F → List (Bool × Suppr)) (files : List F) (jobs : Nat)
    (σ : List PLabel) (s' : PState F)
    (hE : cfg.emitDuplicates = false)
    (hok : ∀ f ∈ files, keyOK cfg (raws f) = true ∧ safetyOK cfg (raws f) = true ∧ dedupOK cfg (raws f) = true)
    (hk : ∀ m ∈ forwarded cfg raws files, ∀ m' ∈ forwarded cfg raws files, cfg.keyGate m = cfg.keyGate m' → cfg.key2 m = cfg.key2 m')
    (hmsg : ∀ m ∈ forwarded cfg raws files, (Ev.err m).good cfg = true)
    (hsup : ∀ f ∈ files, ∀ p ∈ sups f, (Ev.suppr p.1 p.2).good cfg = true)
    (hrun : prun cfg jobs raws sups (pinit files) σ = some s') (hterm : s'.terminal = true) :
    (s'.parent.sink.reported.map cfg.key2).Perm ((runSingle cfg raws files).sink.reported.map cfg.key2) ∧
    s'.parent.result = (runSingle cfg raws files).result := by
  obtain ⟨a', rfl, hinv⟩ := prun_pinit cfg jobs raws sups files hmsg hsup σ s' hrun
  have h := readAll_perm cfg raws sups files _ (aterminal cfg raws sups files a' hinv hterm)
  rw [← hinv.parent_eq] at h
  obtain ⟨hI, e, _⟩ := h
  obtain ⟨⟨_, hS⟩, eS⟩ := single_final cfg hE raws files hok hk
  exact ⟨Inv.agree hk (hI hE) hS cfg.key2 (fun _ _ _ _ e => e), e.trans eS.symm⟩

theorem process_obs_eq_single {β : Type} (cfg : Cfg) (raws : F → List Raw) (sups : F → List (Bool × Suppr)) (files : List F)
    (jobs : Nat) (σ : List PLabel) (s' : PState F) (obs : Msg → β)
    (hE : cfg.emitDuplicates = false)
    (hok : ∀ f ∈ files, keyOK cfg (raws f) = true ∧ safetyOK cfg (raws f) = true ∧ dedupOK cfg (raws f) = true)
    (hk : ∀ m ∈ forwarded cfg raws files, ∀ m' ∈ forwarded cfg raws files, cfg.keyGate m = cfg.keyGate m' → cfg.key2 m = cfg.key2 m')
    (hobs : ∀ m ∈ forwarded cfg raws files, ∀ m' ∈ forwarded cfg raws files, cfg.key2 m = cfg.key2 m' → obs m = obs m')
    (hmsg : ∀ m ∈ forwarded cfg raws files, (Ev.err m).good cfg = true)
    (hsup : ∀ f ∈ files, ∀ p ∈ sups f, (Ev.suppr p.1 p.2).good cfg = true)
    (hrun : prun cfg jobs raws sups (pinit files) σ = some s') (hterm : s'.terminal = true) :
    (s'.parent.sink.reported.map obs).Perm ((runSingle cfg raws files).sink.reported.map obs) := by
  obtain ⟨a', rfl, hinv⟩ := prun_pinit cfg jobs raws sups files hmsg hsup σ s' hrun
  have h := readAll_perm cfg raws sups files _ (aterminal cfg raws sups files a' hinv hterm)
  rw [← hinv.parent_eq] at h
  obtain ⟨⟨_, hS⟩, _⟩ := single_final cfg hE raws files hok hk
  exact Inv.agree hk (h.1 hE) hS obs hobs

/-- the received suppression state: at the end of every complete schedule the parent has been handed (to `addSuppression` /
    `updateSuppressionState`) exactly the decoded suppression lines of every worker, as a multiset — nothing lost, nothing
    twice, whatever the interleaving.  (What the merge and the unmatchedSuppression report make of them: C24.) -/
theorem process_recv_eq (cfg : Cfg) (raws : F → List Raw) (sups : F → List (Bool × Suppr)) (files : List F) (jobs : Nat)
    (σ : List PLabel) (s' : PState F)
    (hE : cfg.emitDuplicates = false)
    (hmsg : ∀ m ∈ forwarded cfg raws files, (Ev.err m).good cfg = true)
    (hsup : ∀ f ∈ files, ∀ p ∈ sups f, (Ev.suppr p.1 p.2).good cfg = true)
    (hrun : prun cfg jobs raws sups (pinit files) σ = some s') (hterm : s'.terminal = true) :
    s'.parent.recv.Perm (files.flatMap fun f => decodedSups cfg (sups f)) := by
  -- `hE` is not used: of `readAll_perm` only the part about the duplicate filter and the sink depends on it
  obtain ⟨a', rfl, hinv⟩ := prun_pinit cfg jobs raws sups files hmsg hsup σ s' hrun
  have h := readAll_perm cfg raws sups files _ (aterminal cfg raws sups files a' hinv hterm)
  rw [← hinv.parent_eq] at h
  exact h.2.2

/-- … and for transportable lines the decoded state is the transported view of what the worker had -/
theorem decodedSups_of_transportable (cfg : Cfg) (l : List (Bool × Suppr)) (h : ∀ p ∈ l, p.2.transportable = true) :
    decodedSups cfg l = l.map fun p => { p.2.transportView cfg.simp with isInline := p.1 } := by
  induction l with
  | nil => rfl
  | cons p l ih =>
    have hp := h p (by simp)
    simp only [decodedSups, List.filterMap_cons, suppr_transport cfg.simp p.2 p.1 hp, List.map_cons] at ih ⊢
    rw [ih (fun q hq => h q (by simp [hq]))]

/-- under the same hypotheses the parent never takes one of handleRead's `std::exit(EXIT_FAILURE)` / uncaught-exception
    paths, whatever the schedule and however far the run got -/
theorem process_never_dies (cfg : Cfg) (raws : F → List Raw) (sups : F → List (Bool × Suppr)) (files : List F) (jobs : Nat)
    (σ : List PLabel) (s' : PState F)
    (hE : cfg.emitDuplicates = false)
    (hmsg : ∀ m ∈ forwarded cfg raws files, (Ev.err m).good cfg = true)
    (hsup : ∀ f ∈ files, ∀ p ∈ sups f, (Ev.suppr p.1 p.2).good cfg = true)
    (hrun : prun cfg jobs raws sups (pinit files) σ = some s') : s'.dead = false := by
  -- `hE` is not used here either
  obtain ⟨a', rfl, _⟩ := prun_pinit cfg jobs raws sups files hmsg hsup σ s' hrun
  rfl

/-- what `process_eq_single` asks of the suppression lines follows from `Suppr.transportable` -/
theorem suppr_good_of_transportable (cfg : Cfg) (inl : Bool) (s : Suppr) (h : s.transportable = true)
    (hl : (supprEncode s).length < two32) : (Ev.suppr inl s).good cfg = true := by
  simp [Ev.good, hl, suppr_transport cfg.simp s inl h]

/-- exit status (as far as the executors determine it) without --safety -/
theorem thread_exit_eq_single (cfg : Cfg) (raws : F → List Raw) (files : List F) (jobs : Nat) (σ : List TLabel) (s' : TState F)
    (hE : cfg.emitDuplicates = false) (hS : cfg.safety = false)
    (hok : ∀ f ∈ files, keyOK cfg (raws f) = true ∧ safetyOK cfg (raws f) = true ∧ dedupOK cfg (raws f) = true)
    (hk : ∀ m ∈ forwarded cfg raws files, ∀ m' ∈ forwarded cfg raws files, cfg.keyGate m = cfg.keyGate m' → cfg.key2 m = cfg.key2 m')
    (hrun : trun cfg raws (tinit files jobs) σ = some s') (hterm : s'.terminal = true) :
    exitStatus cfg s'.result s'.sink = exitStatus cfg (runSingle cfg raws files).result (runSingle cfg raws files).sink := by
  simp only [exitStatus, hS, Bool.false_and, Bool.false_eq_true, ↓reduceIte,
    (thread_eq_single cfg raws files jobs σ s' hE hok hk hrun hterm).2]

theorem process_exit_eq_single (cfg : Cfg) (raws : F → List Raw) (sups : F → List (Bool × Suppr)) (files : List F) (jobs : Nat)
    (σ : List PLabel) (s' : PState F)
    (hE : cfg.emitDuplicates = false) (hS : cfg.safety = false)
    (hok : ∀ f ∈ files, keyOK cfg (raws f) = true ∧ safetyOK cfg (raws f) = true ∧ dedupOK cfg (raws f) = true)
    (hk : ∀ m ∈ forwarded cfg raws files, ∀ m' ∈ forwarded cfg raws files, cfg.keyGate m = cfg.keyGate m' → cfg.key2 m = cfg.key2 m')
    (hmsg : ∀ m ∈ forwarded cfg raws files, (Ev.err m).good cfg = true)
    (hsup : ∀ f ∈ files, ∀ p ∈ sups f, (Ev.suppr p.1 p.2).good cfg = true)
    (hrun : prun cfg jobs raws sups (pinit files) σ = some s') (hterm : s'.terminal = true) :
    exitStatus cfg s'.parent.result s'.parent.sink =
      exitStatus cfg (runSingle cfg raws files).result (runSingle cfg raws files).sink := by
  simp only [exitStatus, hS, Bool.false_and, Bool.false_eq_true, ↓reduceIte,
    (process_eq_single cfg raws sups files jobs σ s' hE hok hk hmsg hsup hrun hterm).2]

/-! ### witnesses: the hypotheses are satisfiable, and each excluded region really differs -/

/-- a concrete run is evaluated once: the schedule is enabled and its final state has the property -/
theorem exists_some_of_any {α : Type} {o : Option α} {P : α → Prop} [DecidablePred P]
    (h : (o.any fun s => decide (P s)) = true) : ∃ s, o = some s ∧ P s := by
  obtain ⟨s, hs, hp⟩ := (Option.any_eq_true _ _).1 h
  exact ⟨s, hs, of_decide_eq_true hp⟩

/-- template `{message}`; one global suppression of id `g`; `syntaxError` is critical -/
def exCfg (safety fix : Bool) : Cfg :=
  { key := fun m => m.short, keyGate := fun m => m.short, key2 := fun m => m.short, supG := fun v => v.errorId = ['g'], supGX := fun v => v.errorId = ['g'],
    critical := fun id => id = "syntaxError".toList, safety := safety, dedupFix := fix, exitCode := 3, simp := id }

def exMsg (id short : String) : Msg :=
  { id := id.toList, severity := .error, short := short.toList, verbose := short.toList,
    stack := [{ file := "h.h".toList, origFile := "h.h".toList, line := 3, col := 1 }] }

/-- two files that share a header finding, a locally suppressed finding, a globally suppressed one, a remark -/
def exRaws : Nat → List Raw
  | 0 => [{ msg := exMsg "nullPointer" "Null pointer dereference: p" }, { msg := exMsg "x" "local", locSup := true },
          { msg := exMsg "g" "global" }, { msg := exMsg "uninitvar" "u", remark := "why".toList }]
  | _ => [{ msg := exMsg "nullPointer" "Null pointer dereference: p" }, { msg := exMsg "memleak" "Memory leak: q", noFail := true }]

example : ∀ f ∈ [0, 1], keyOK (exCfg true false) (exRaws f) = true ∧ safetyOK (exCfg true false) (exRaws f) = true ∧
    dedupOK (exCfg true false) (exRaws f) = true := by decide +kernel
example : ∀ m ∈ forwarded (exCfg true false) exRaws [0, 1], (Ev.err m).good (exCfg true false) = true := by decide +kernel
example : (forwarded (exCfg true false) exRaws [0, 1]).length = 5 := by decide +kernel
/-- a complete schedule of the thread model (two workers, interleaved) and one of the process model exist for it -/
example : (match trun (exCfg true false) exRaws (tinit [0, 1] 2)
      [.next 0, .next 1, .gate 1, .gate 0, .print 1, .gate 0, .gate 1, .gate 0, .print 0, .print 1, .next 0, .next 1] with
    | some s => s.terminal && (s.sink.reported.length == 3) && (s.result == 2)
    | none => false) = true := by decide +kernel
set_option maxRecDepth 8000 in
example : (match prun (exCfg true false) 2 exRaws (fun _ => [(true, { errorId := "x".toList, fileName := "h.h".toList, lineNumber := 3 })])
      (pinit [0, 1])
      [.fork, .fork, .send 1, .send 0, .send 0, .read 1, .send 1, .send 1, .send 1, .send 0, .read 0, .send 0, .send 0, .exit 1, .read 1,
       .read 0, .read 0, .read 1, .read 1, .reap 1, .exit 0, .read 0, .read 0, .reap 0] with
    | some s => s.terminal && (s.parent.sink.reported.length == 3) && (s.parent.result == 2) && (s.parent.recv.length == 2)
    | none => false) = true := by decide +kernel

/-- F11 (process executor prints sanitised text): the message `caf\xc3\xa9` is transportable, the process model runs to the
    end and prints `caf\\303\\251` where the single executor model prints the bytes — `sanitize m = m` cannot be dropped. -/
theorem process_text_nonascii_counterexample :
    ∃ (cfg : Cfg) (raws : Nat → List Raw) (σ : List PLabel) (s' : PState Nat),
      cfg.emitDuplicates = false ∧
      (∀ f ∈ [0], keyOK cfg (raws f) = true ∧ safetyOK cfg (raws f) = true ∧ dedupOK cfg (raws f) = true) ∧
      (∀ m ∈ forwarded cfg raws [0], m.transportable = true) ∧
      prun cfg 2 raws (fun _ => []) (pinit [0]) σ = some s' ∧ s'.terminal = true ∧
      ¬ (s'.parent.sink.reported.map cfg.key2).Perm ((runSingle cfg raws [0]).sink.reported.map cfg.key2) := by
  refine ⟨exCfg false false,
    fun _ => [{ msg := { id := ['e'], severity := .error, short := ['c', 'a', 'f', Char.ofNat 195, Char.ofNat 169], verbose := ['x'] } }],
    [.fork, .send 0, .send 0, .exit 0, .read 0, .read 0, .reap 0], ?_⟩
  simp only [exists_and_left]
  refine ⟨rfl, by decide +kernel, by decide +kernel, ?_⟩
  apply exists_some_of_any
  decide +kernel

/-- `--safety --suppress=syntaxError`: the id is critical and matched by a non-local suppression -/
def safetyCfg : Cfg :=
  { key := fun m => m.id, keyGate := fun m => m.id, key2 := fun m => m.id, supG := fun v => v.errorId = "syntaxError".toList,
    supGX := fun v => v.errorId = "syntaxError".toList, critical := fun id => id = "syntaxError".toList, safety := true, simp := id }

/-- F11c: outside `safetyOK` the executors really differ — the single executor model ends with exit status 1 (critical
    error seen), the thread executor model, under its only complete schedule for one worker, with 0. -/
theorem thread_safety_counterexample :
    ∃ (cfg : Cfg) (raws : Nat → List Raw) (σ : List TLabel) (s' : TState Nat),
      cfg.emitDuplicates = false ∧ (∀ f ∈ [0], keyOK cfg (raws f) = true ∧ dedupOK cfg (raws f) = true) ∧
      trun cfg raws (tinit [0] 1) σ = some s' ∧ s'.terminal = true ∧
      exitStatus cfg s'.result s'.sink ≠ exitStatus cfg (runSingle cfg raws [0]).result (runSingle cfg raws [0]).sink := by
  refine ⟨safetyCfg, fun _ => [{ msg := exMsg "syntaxError" "bad" }], [.next 0, .gate 0, .next 0], ?_⟩
  simp only [exists_and_left]
  refine ⟨rfl, by decide +kernel, ?_⟩
  apply exists_some_of_any
  decide +kernel

/-- `--template={id} --suppress=nullPointer:*.c:2`: a global suppression that matches the first of two findings with
    the same text -/
def dedupCfg (fix : Bool) : Cfg :=
  { key := fun m => m.id, keyGate := fun m => m.id, key2 := fun m => m.id, supG := fun v => v.errorId = "nullPointer".toList ∧ v.line = 2,
    supGX := fun v => v.errorId = "nullPointer".toList ∧ v.line = 2, critical := fun _ => false, dedupFix := fix, simp := id }

def dedupRaws : Nat → List Raw := fun _ =>
  [{ msg := { id := "nullPointer".toList, severity := .error, short := ['p'], stack := [{ file := ['a'], origFile := ['a'], line := 2, col := 1 }] } },
   { msg := { id := "nullPointer".toList, severity := .error, short := ['q'], stack := [{ file := ['a'], origFile := ['a'], line := 4, col := 1 }] } }]

/-- F11d (lib/cppcheck.cpp between 9e24c55 and 9907ad7, `dedupFix = false`; fixed since): outside `dedupOK` the single
    executor model reports the second finding (result 1), the thread executor model reports nothing (result 0). -/
theorem thread_dedup_counterexample :
    ∃ (σ : List TLabel) (s' : TState Nat),
      trun (dedupCfg false) dedupRaws (tinit [0] 1) σ = some s' ∧ s'.terminal = true ∧
      s'.sink.reported.length = 0 ∧ s'.result = 0 ∧
      (runSingle (dedupCfg false) dedupRaws [0]).sink.reported.length = 1 ∧ (runSingle (dedupCfg false) dedupRaws [0]).result = 1 := by
  refine ⟨[.next 0, .gate 0, .next 0], ?_⟩
  apply exists_some_of_any
  decide +kernel

/-- … and for the current code (`dedupFix = true`, /repo 9907ad7) the same input satisfies `dedupOK`, so
    `thread_eq_single` applies to it -/
example : dedupOK (dedupCfg true) (dedupRaws 0) = true ∧ dedupOK (dedupCfg false) (dedupRaws 0) = false := by decide +kernel

/-! ### the duplicate-filter keys of the three loggers (arguments of the `toString` calls extracted from the source) -/

/-- key refinement: the key `Executor::hasToLog` computes distinguishes whatever the keys of `CppCheckLogger::reportErr` and
    of `StdLogger::reportErr` distinguish — for every `toString`, every template and every pair of messages — because the
    three calls in the current source pass the same arguments (`Gen/C15Keys.lean`, regenerated on every run). -/
theorem gate_key_refines (r : RenderCfg) (m m' : Msg) (h : r.keyOf Gen.gateKeyArgs m = r.keyOf Gen.gateKeyArgs m') :
    r.keyOf Gen.loggerKeyArgs m = r.keyOf Gen.loggerKeyArgs m' ∧ r.keyOf Gen.sinkKeyArgs m = r.keyOf Gen.sinkKeyArgs m' := by
  have h1 : Gen.gateKeyArgs = Gen.loggerKeyArgs := by decide
  have h2 : Gen.gateKeyArgs = Gen.sinkKeyArgs := by decide
  rw [← h1, ← h2]
  exact ⟨h, h⟩

/-- `thread_eq_single` for the keys the source computes: that the gate's key determines the sink's is not a hypothesis here
    (what is left about the keys is `keyOK`: no message of the run renders to the empty string) -/
theorem thread_eq_single_source_keys (base : Cfg) (r : RenderCfg) (raws : F → List Raw) (files : List F) (jobs : Nat)
    (σ : List TLabel) (s' : TState F)
    (hE : base.emitDuplicates = false)
    (hok : ∀ f ∈ files, keyOK (base.withKeys r Gen.loggerKeyArgs Gen.gateKeyArgs Gen.sinkKeyArgs) (raws f) = true ∧
      safetyOK (base.withKeys r Gen.loggerKeyArgs Gen.gateKeyArgs Gen.sinkKeyArgs) (raws f) = true ∧
      dedupOK (base.withKeys r Gen.loggerKeyArgs Gen.gateKeyArgs Gen.sinkKeyArgs) (raws f) = true)
    (hrun : trun (base.withKeys r Gen.loggerKeyArgs Gen.gateKeyArgs Gen.sinkKeyArgs) raws (tinit files jobs) σ = some s')
    (hterm : s'.terminal = true) :
    (s'.sink.reported.map (r.keyOf Gen.sinkKeyArgs)).Perm
      ((runSingle (base.withKeys r Gen.loggerKeyArgs Gen.gateKeyArgs Gen.sinkKeyArgs) raws files).sink.reported.map (r.keyOf Gen.sinkKeyArgs)) ∧
    s'.result = (runSingle (base.withKeys r Gen.loggerKeyArgs Gen.gateKeyArgs Gen.sinkKeyArgs) raws files).result :=
  thread_eq_single (base.withKeys r Gen.loggerKeyArgs Gen.gateKeyArgs Gen.sinkKeyArgs) raws files jobs σ s' hE hok
    (fun m _ m' _ h => (gate_key_refines r m m' h).2) hrun hterm

theorem process_eq_single_source_keys (base : Cfg) (r : RenderCfg) (raws : F → List Raw) (sups : F → List (Bool × Suppr))
    (files : List F) (jobs : Nat) (σ : List PLabel) (s' : PState F)
    (hE : base.emitDuplicates = false)
    (hok : ∀ f ∈ files, keyOK (base.withKeys r Gen.loggerKeyArgs Gen.gateKeyArgs Gen.sinkKeyArgs) (raws f) = true ∧
      safetyOK (base.withKeys r Gen.loggerKeyArgs Gen.gateKeyArgs Gen.sinkKeyArgs) (raws f) = true ∧
      dedupOK (base.withKeys r Gen.loggerKeyArgs Gen.gateKeyArgs Gen.sinkKeyArgs) (raws f) = true)
    (hmsg : ∀ m ∈ forwarded (base.withKeys r Gen.loggerKeyArgs Gen.gateKeyArgs Gen.sinkKeyArgs) raws files,
      (Ev.err m).good (base.withKeys r Gen.loggerKeyArgs Gen.gateKeyArgs Gen.sinkKeyArgs) = true)
    (hsup : ∀ f ∈ files, ∀ p ∈ sups f, (Ev.suppr p.1 p.2).good (base.withKeys r Gen.loggerKeyArgs Gen.gateKeyArgs Gen.sinkKeyArgs) = true)
    (hrun : prun (base.withKeys r Gen.loggerKeyArgs Gen.gateKeyArgs Gen.sinkKeyArgs) jobs raws sups (pinit files) σ = some s')
    (hterm : s'.terminal = true) :
    (s'.parent.sink.reported.map (r.keyOf Gen.sinkKeyArgs)).Perm
      ((runSingle (base.withKeys r Gen.loggerKeyArgs Gen.gateKeyArgs Gen.sinkKeyArgs) raws files).sink.reported.map (r.keyOf Gen.sinkKeyArgs)) ∧
    s'.parent.result = (runSingle (base.withKeys r Gen.loggerKeyArgs Gen.gateKeyArgs Gen.sinkKeyArgs) raws files).result :=
  process_eq_single (base.withKeys r Gen.loggerKeyArgs Gen.gateKeyArgs Gen.sinkKeyArgs) raws sups files jobs σ s' hE hok
    (fun m _ m' _ h => (gate_key_refines r m m' h).2) hmsg hsup hrun hterm

/-- template `{id}` with location template `{line}:{info}` -/
def idLocRender : RenderCfg :=
  { render := renderIdLoc, verbose := false, templateFormat := "{id}".toList, templateLocation := "{line}:{info}".toList }

/-- a `hasToLog` that renders its key with an empty location template (the arguments a "the notes are not needed for a key"
    change would pass) -/
def gateArgsWithoutLocation : KeyArgs :=
  { verbose := .settingsVerbose, format := .settingsTemplateFormat, location := .emptyString }

def noteMsg (note : String) : Msg :=
  { id := "zerodiv".toList, severity := .error, short := "Division by zero.".toList,
    stack := [{ file := "div.h".toList, origFile := "div.h".toList, line := 3, col := 13, info := note.toList },
              { file := "div.h".toList, origFile := "div.h".toList, line := 7, col := 14, info := "Division by zero".toList }] }

/-- the refinement is a property of the extracted arguments, not of `toString`: with an empty location template in the
    gate's call two findings that differ only in their path notes get one gate key and two logger keys … -/
theorem gate_key_without_location_counterexample :
    ¬ ∀ (r : RenderCfg) (m m' : Msg), r.keyOf gateArgsWithoutLocation m = r.keyOf gateArgsWithoutLocation m' →
        r.keyOf Gen.loggerKeyArgs m = r.keyOf Gen.loggerKeyArgs m' := by
  intro h
  have := h idLocRender (noteMsg "Assignment 'd=0', assigned value is 0") (noteMsg "Assignment 'd=1-1', assigned value is 0")
    (by decide +kernel)
  revert this
  decide +kernel

/-- … and the thread executor model then reports one finding where the single executor model reports two -/
theorem thread_gate_key_without_location_counterexample :
    ∃ (σ : List TLabel) (s' : TState Nat),
      trun ((exCfg false true).withKeys idLocRender Gen.loggerKeyArgs gateArgsWithoutLocation Gen.sinkKeyArgs)
        (fun f => [{ msg := noteMsg (if f = 0 then "Assignment 'd=0', assigned value is 0" else "Assignment 'd=1-1', assigned value is 0") }])
        (tinit [0, 1] 2) σ = some s' ∧ s'.terminal = true ∧ s'.sink.reported.length = 1 ∧
      (runSingle ((exCfg false true).withKeys idLocRender Gen.loggerKeyArgs gateArgsWithoutLocation Gen.sinkKeyArgs)
        (fun f => [{ msg := noteMsg (if f = 0 then "Assignment 'd=0', assigned value is 0" else "Assignment 'd=1-1', assigned value is 0") }])
        [0, 1]).sink.reported.length = 2 := by
  refine ⟨[.next 0, .next 1, .gate 0, .gate 1, .print 0, .next 0, .next 1], ?_⟩
  apply exists_some_of_any
  decide +kernel

end Cppcheck.Exec
