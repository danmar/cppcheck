/-
C12 — configuration selection honours -D and -U and covers guarded code.

`getConfigsWith fl` is the copy of `Preprocessor::getConfigs`; `Flags.code` is the code as it is (since commit
4aed040 the stack depth is kept at `#else`), `Flags.old` the fold before that commit, `Flags.repaired` additionally
treats `#if !defined(X)` as `#ifndef X` (modelled repair of F16, not in the code).

In order: coverage on the trees `safe fl` accepts; the code as it is (F15, F16 witnesses); `safe` is also necessary; the repaired
fold and the syntactic class `ndLeaf` of the code; budget, -D, -U; `reach`; coverage composed with the budget; the purge.
-/
import Cppcheck.Proofs.Configs
namespace Cppcheck.Configs

/-- the property's coverage claim for one variant of the algorithm: in every file of the family every
    region is live in at least one extracted configuration -/
def EveryRegionCovered (fl : Flags) : Prop :=
  ∀ (inp : Inp) (t : Items), inFamily inp t = true →
    ∀ r ∈ t.regions, ∃ c ∈ getConfigsWith fl inp t.flatten, live c t r = true

/-- on a file of the family the result set is what the rules of `Walk` give from the empty vector and the set `{""}` -/
theorem walk_family (fl : Flags) {inp : Inp} {t : Items} (hf : inFamily inp t = true) :
    Walk fl t [] [[]] (getConfigsWith fl inp t.flatten) := by
  simp only [inFamily, Bool.and_eq_true, List.isEmpty_iff, decide_eq_true_eq, List.all_eq_true, Bool.not_eq_true'] at hf
  obtain ⟨⟨hud, hnd⟩, hall⟩ := hf
  have fr : FreshAll inp (St.init inp) t.macros := fun x hx => by
    have h := hall x hx
    refine ⟨h.1.1, ?_, ?_, ?_⟩
    · rintro (⟨c, hc, hd⟩ | ⟨e, he, _⟩)
      · simp [St.init] at hc; subst hc; rw [defines_nil] at hd; exact absurd hd (by simp)
      · simp [St.init] at he
    · have := h.1.2; simpa [St.init] using this
    · simpa using h.2
  obtain ⟨r', h, e⟩ := walk_run fl inp hud t (St.init inp) ⟨rfl, by intro e he; simp [St.init] at he, by simp [St.init]⟩ hnd fr
  rw [getConfigsWith, e]; exact h

/-- coverage for every tree accepted by the decidable predicate `safe fl` -/
theorem every_region_covered_of_safe (fl : Flags) (inp : Inp) (t : Items)
    (hf : inFamily inp t = true) (hs : safe fl t = true) :
    ∀ r ∈ t.regions, ∃ c ∈ getConfigsWith fl inp t.flatten, live c t r = true := by
  intro r hr
  obtain ⟨c, hc, _, he⟩ := (walk_family fl hf).cover [] [] (by simp) ⟨[], by simp, by simp [Agrees]⟩ hs r hr
  exact ⟨c, hc, by simpa [live] using he⟩

/-! ### the code as it is -/

/-- the §6 / F15 witness: `#ifdef M4 R0 #if defined(M7) R1 #if defined(M3) R2 #else R3 #endif #ifdef M5 R4 #endif #endif #endif` -/
def witnessF15 : Items :=
  .cond .ifdef ['M','4'] (.region 0 (.cond .ifDefined ['M','7'] (.region 1
    (.condElse .ifDefined ['M','3'] (.region 2 .done) (.region 3 .done)
      (.cond .ifdef ['M','5'] (.region 4 .done) .done))) .done)) .done

/-- the F16 witness: `#if !defined(M3) R0 #if defined(M1) R1 #endif #endif` -/
def witnessF16 : Items :=
  .cond .ifNotDefined ['M','3'] (.region 0 (.cond .ifDefined ['M','1'] (.region 1 .done) .done)) .done

/-- F15 (fixed by commit 4aed040): the full-strength statement was false of the fold before the commit -/
theorem region_uncovered_counterexample : ¬ EveryRegionCovered Flags.old := by
  intro h
  have := h {} witnessF15 (by decide) 4 (by decide)
  revert this
  decide

/-- F16: the full-strength statement is false of the code as it is (and was false before 4aed040 for this reason too) -/
theorem region_uncovered_counterexample_notdefined :
    ¬ EveryRegionCovered Flags.code ∧ ¬ EveryRegionCovered Flags.old := by
  constructor
  · intro h
    have := h {} witnessF16 (by decide) 1 (by decide)
    revert this
    decide
  · intro h
    have := h {} witnessF16 (by decide) 1 (by decide)
    revert this
    decide

/-- the code covers every region of every family tree accepted by `safe Flags.code` -/
theorem every_region_covered_partial (inp : Inp) (t : Items)
    (hf : inFamily inp t = true) (hs : safe Flags.code t = true) :
    ∀ r ∈ t.regions, ∃ c ∈ getConfigs inp t.flatten, live c t r = true :=
  every_region_covered_of_safe Flags.code inp t hf hs

example : inFamily {} witnessF15 = true ∧ safe Flags.old witnessF15 = false ∧ safe Flags.code witnessF15 = true := by decide
example : inFamily {} witnessF16 = true ∧ safe Flags.code witnessF16 = false := by decide
/-- a non-trivial inhabitant of both hypotheses: nesting depth 3, `#else` of an `#ifndef` inside, a later sibling -/
example : let t : Items := .cond .ifdef ['A'] (.condElse .ifndef ['B'] (.region 0 .done) (.region 1 .done)
      (.cond .ifDefined ['C'] (.region 2 (.condElse .ifdef ['D'] (.region 3 .done) (.region 4 .done) .done)) .done)) (.region 5 .done)
    inFamily {} t = true ∧ safe Flags.code t = true := by decide

/-- `safe` is necessary: on a family tree (regions labelled apart) whose every region is live in an extracted configuration
    the checks of `safe fl` pass — for every variant of the algorithm -/
theorem safe_of_every_region_covered (fl : Flags) (inp : Inp) (t : Items) (hf : inFamily inp t = true) (hreg : t.regions.Nodup)
    (h : ∀ r ∈ t.regions, ∃ c ∈ getConfigsWith fl inp t.flatten, live c t r = true) : safe fl t = true :=
  (walk_family fl hf).needs _ [] [] hreg (by simp) (by simp [names]) (fun _ hc _ _ _ => hc) fun r hr => by
    obtain ⟨c, hc, hl⟩ := h r hr
    exact ⟨c, hc, by simp [Agrees], by simpa [live] using hl⟩

/-- the same read the other way: a family tree that `safe fl` rejects has a region which is live in no extracted
    configuration -/
theorem region_uncovered_of_unsafe (fl : Flags) (inp : Inp) (t : Items) (hf : inFamily inp t = true)
    (hreg : t.regions.Nodup) (hs : safe fl t = false) :
    ∃ r ∈ t.regions, ∀ c ∈ getConfigsWith fl inp t.flatten, live c t r = false := by
  apply Classical.byContradiction
  intro hno
  have := safe_of_every_region_covered fl inp t hf hreg fun r hr => Classical.byContradiction fun h =>
    hno ⟨r, hr, fun c hc => Bool.eq_false_iff.mpr fun hl => h ⟨c, hc, hl⟩⟩
  rw [hs] at this; cases this

/-- `safe fl` is exactly the class of family trees on which variant `fl` covers every region -/
theorem every_region_covered_iff_safe (fl : Flags) (inp : Inp) (t : Items) (hf : inFamily inp t = true)
    (hreg : t.regions.Nodup) :
    (∀ r ∈ t.regions, ∃ c ∈ getConfigsWith fl inp t.flatten, live c t r = true) ↔ safe fl t = true :=
  ⟨safe_of_every_region_covered fl inp t hf hreg, every_region_covered_of_safe fl inp t hf⟩

example : inFamily {} witnessF16 = true ∧ witnessF16.regions.Nodup ∧ safe Flags.code witnessF16 = false := by decide

/-! ### the repaired algorithm -/

theorem safe_repaired (t : Items) (h : ∀ m ∈ t.macros, okName m = true) : safe Flags.repaired t = true :=
  safeItems_of_sameSet (fl := Flags.repaired) t [] [] (fun m hm => okName_ne_nil (h m hm)) (Or.inl rfl) (Or.inl rfl) (sameSet_refl _)

/-- with the stack depth kept at `#else` and `#if !defined(X)` treated as `#ifndef X`, the full-strength
    statement holds -/
theorem every_region_covered_repaired : EveryRegionCovered Flags.repaired := by
  intro inp t hf
  apply every_region_covered_of_safe Flags.repaired inp t hf
  apply safe_repaired
  simp only [inFamily, Bool.and_eq_true, List.all_eq_true] at hf
  exact fun m hm => (hf.2 m hm).1.1

theorem family_names {inp : Inp} {t : Items} (hf : inFamily inp t = true) : ∀ m ∈ t.macros, m ≠ [] := by
  simp only [inFamily, Bool.and_eq_true, List.all_eq_true] at hf
  exact fun m hm => okName_ne_nil (hf.2 m hm).1.1

/-- **main theorem for the code as it is**: every region is covered in every family tree whose `#if !defined`
    conditionals contain regions only (what remains outside is F16) -/
theorem every_region_covered_fixElse (inp : Inp) (t : Items) (hf : inFamily inp t = true) (hl : ndLeaf t = true) :
    ∀ r ∈ t.regions, ∃ c ∈ getConfigs inp t.flatten, live c t r = true :=
  every_region_covered_of_safe Flags.code inp t hf
    (safeItems_of_sameSet (fl := Flags.code) t [] [] (family_names hf) (Or.inr hl) (Or.inl rfl) (sameSet_refl _))

example : inFamily {} witnessF15 = true ∧ ndLeaf witnessF15 = true := by decide

/-! ### budget, -D, -U -/

theorem map_currentConfig_nil {ud : Str} (hud : ud = []) (l : List Str) : l.map (currentConfig ud) = l := by
  have : currentConfig ([] : Str) = id := funext currentConfig_nil
  rw [hud, this, List.map_id]

/-- within the budget every extracted configuration is analysed (no `-D`) -/
theorem analysed_all_within_budget (o : CliOpts) (gc : List Str) (hud : o.userDefines = [])
    (hnil : [] ∈ gc) (hb : gc.length ≤ o.maxConfigs) : ∀ c ∈ gc, c ∈ analysed o gc := by
  intro c hc
  unfold analysed configurations
  rw [map_currentConfig_nil hud]
  by_cases h1 : o.maxConfigs > 1
  · simp only [h1, if_true]
    split
    · exact hc
    · rw [List.take_of_length_le hb]; exact hc
  · have hlen : gc.length ≤ 1 := by omega
    have : gc = [[]] := by
      match gc, hnil, hlen with
      | [x], hn, _ => simp at hn; rw [← hn]
    subst this
    have hc' : c = [] := by simpa using hc
    have hm : o.maxConfigs = 1 := by
      have : 1 ≤ o.maxConfigs := by simpa using hb
      omega
    simp [hud, hc', hm]

/-- every region that some extracted configuration reaches is analysed when the configurations fit `--max-configs` -/
theorem covered_within_budget (fl : Flags) (o : CliOpts) (d0 : List Str) (t : Items) (hud : o.userDefines = [])
    (hb : (getConfigsWith fl (o.inp d0) t.flatten).length ≤ o.maxConfigs) (r : Nat)
    (h : ∃ c ∈ getConfigsWith fl (o.inp d0) t.flatten, live c t r = true) :
    ∃ c ∈ analysed o (getConfigsWith fl (o.inp d0) t.flatten), live c t r = true := by
  obtain ⟨c, hc, hl⟩ := h
  exact ⟨c, analysed_all_within_budget o _ hud (nil_mem_getConfigs fl _ _) hb c hc, hl⟩

example : let o : CliOpts := { maxConfigsOption := 64 }
    (getConfigs (o.inp []) witnessF15.flatten).length ≤ o.maxConfigs := by decide

/-- with `-D X` every analysed configuration defines `X` (whatever the extracted configurations are) -/
theorem D_in_every_config (o : CliOpts) (X : Str) (h : defines o.userDefines X = true) (gc : List Str) :
    ∀ c ∈ analysed o gc, defines c X = true := by
  intro c hc
  simp only [analysed, List.mem_map] at hc
  obtain ⟨c', _, rfl⟩ := hc
  exact defines_currentConfig h

example : defines "A=1;B=2".toList "B".toList = true := by decide

theorem dirsOk_spec {ds : List Dir} (h : dirsOk ds = true) : ∀ k m, Dir.opn k m ∈ ds → okName m = true := by
  intro k m hm
  simp only [dirsOk, List.all_eq_true] at h
  exact h _ hm

/-- with `-U X` no extracted configuration defines `X` — for every directive list over well-formed names
    and every variant of the algorithm -/
theorem U_in_no_extracted_config (fl : Flags) (inp : Inp) (ds : List Dir)
    (hd : dirsOk ds = true) (X : Str) (h : X ∈ inp.undefs) :
    ∀ c ∈ getConfigsWith fl inp ds, defines c X = false :=
  fun c hc => getConfigs_no_undef fl inp ds (dirsOk_spec hd) c hc X h

/-- with `-U X` (and no `-D`) no analysed configuration defines `X` -/
theorem U_in_no_config (fl : Flags) (o : CliOpts) (d0 : List Str) (ds : List Dir)
    (hd : dirsOk ds = true) (hud : o.userDefines = []) (X : Str) (h : X ∈ o.undefs) :
    ∀ c ∈ analysed o (getConfigsWith fl (o.inp d0) ds), defines c X = false := by
  intro c hc
  unfold analysed at hc
  rw [map_currentConfig_nil hud] at hc
  -- an analysed configuration is an extracted one, or the user's (empty) one
  have hc' : c ∈ configurations o (getConfigsWith fl (o.inp d0) ds) := by
    split at hc
    · exact hc
    · exact List.mem_of_mem_take hc
  unfold configurations at hc'
  split at hc'
  · exact U_in_no_extracted_config fl (o.inp d0) ds hd X h c hc'
  · rw [List.mem_singleton.mp hc', hud]; exact defines_nil X

/-- with `-D` and the default budget (no `--force`, no `--max-configs`) only the user's configuration is
    analysed; it defines `X` for no `-U X` that is not also `-D`efined -/
theorem U_in_no_config_D (o : CliOpts) (gc : List Str) (hm : o.maxConfigs ≤ 1) (X : Str)
    (hX : defines o.userDefines X = false) : ∀ c ∈ analysed o gc, defines c X = false := by
  intro c hc
  have h1 : ¬ o.maxConfigs > 1 := by omega
  simp only [analysed, configurations, h1, if_false] at hc
  have : c = o.userDefines := by
    split at hc
    · simpa [currentConfig_self] using hc
    · obtain ⟨c', h', e⟩ := List.mem_map.mp hc
      have h'' : c' = o.userDefines := by simpa using List.mem_of_mem_take h'
      rw [← e, h'', currentConfig_self]
  rw [this]; exact hX

example : ({ userDefines := "A=1".toList } : CliOpts).maxConfigs ≤ 1 ∧ defines "A=1".toList "B".toList = false := by decide
example : dirsOk (.els :: .endif :: .opn .ifdef ['A'] :: witnessF15.flatten) = true := by decide

/-- the executable specification behind "coverage under -D / -U" (used by the check's P_impl through the driver):
    `r ∈ t.reach pos neg` iff some assignment that defines all of `pos` and none of `neg` contains region `r` -/
theorem reach_spec (t : Items) (r : Nat) (pos neg : List Str) (hc : ∀ x ∈ pos, x ∉ neg) :
    r ∈ t.reach pos neg ↔ ∃ d : Str → Bool, Agrees d pos neg ∧ r ∈ t.emit d := by
  induction t generalizing pos neg with
  | done => simp [Items.reach, Items.emit]
  | region r0 rest ih =>
    simp only [Items.reach, Items.emit, List.mem_cons, ih pos neg hc, and_or_left, exists_or]
    exact or_congr_left ⟨fun h => ⟨_, agrees_contains hc, h⟩, fun ⟨_, _, h⟩ => h⟩
  -- a conditional: both sides split over the places the region can sit (a branch with the macro forced, the rest)
  | cond k m t rest ihT ihR =>
    simp only [reach_cond, List.mem_append, mem_reachBranch ihT hc, ihR pos neg hc, mem_emit_cond, holds_true_iff, and_or_left,
      exists_or]
  | condElse k m t e rest ihT ihE ihR =>
    simp only [reach_condElse, List.mem_append, mem_reachBranch ihT hc, mem_reachBranch ihE hc, ihR pos neg hc, mem_emit_condElse,
      holds_true_iff, holds_false_iff, and_or_left, exists_or, or_assoc]

example : witnessF16.reach [] [['M','3']] = [0, 1] ∧ witnessF16.reach [['M','3']] [] = [] := by decide

/-! ### the property end to end: coverage composed with the budget -/

/-- the number of extracted configurations is bounded by a syntactic measure of the file: one per `#if..` line and one
    per `#else` line besides the empty configuration (3 sibling `#ifdef`s give 4 configurations, not 2^3) — this is how
    "the number of guard combinations" of the property statement is read -/
theorem length_getConfigs_le (inp : Inp) (t : Items) : (getConfigs inp t.flatten).length ≤ 1 + 2 * t.macros.length :=
  length_getConfigsWith_le Flags.code inp t

/-- **headline theorem (partial: F16 excluded by `ndLeaf`)**: in every file of the family whose `#if !defined` conditionals
    contain regions only, every region is *analysed* in at least one configuration when the extracted configurations
    fit `--max-configs` -/
theorem every_region_analysed_partial (o : CliOpts) (d0 : List Str) (t : Items)
    (hf : inFamily (o.inp d0) t = true) (hl : ndLeaf t = true)
    (hb : (getConfigs (o.inp d0) t.flatten).length ≤ o.maxConfigs) :
    ∀ r ∈ t.regions, ∃ c ∈ analysed o (getConfigs (o.inp d0) t.flatten), live c t r = true := by
  intro r hr
  have hud : o.userDefines = [] := by
    simp only [inFamily, Bool.and_eq_true, List.isEmpty_iff] at hf
    exact hf.1.1
  exact covered_within_budget Flags.code o d0 t hud hb r (every_region_covered_fixElse (o.inp d0) t hf hl r hr)

/-- the same with the budget stated on the input: at most `(maxConfigs - 1) / 2` conditionals -/
theorem every_region_analysed_of_size_partial (o : CliOpts) (d0 : List Str) (t : Items)
    (hf : inFamily (o.inp d0) t = true) (hl : ndLeaf t = true)
    (hb : 1 + 2 * t.macros.length ≤ o.maxConfigs) :
    ∀ r ∈ t.regions, ∃ c ∈ analysed o (getConfigs (o.inp d0) t.flatten), live c t r = true :=
  every_region_analysed_partial o d0 t hf hl (Nat.le_trans (length_getConfigs_le _ t) hb)

example : let o : CliOpts := { maxConfigsOption := 64 }
    inFamily (o.inp []) witnessF15 = true ∧ ndLeaf witnessF15 = true ∧ 1 + 2 * witnessF15.macros.length ≤ o.maxConfigs := by decide
example : let o : CliOpts := {}
    inFamily (o.inp []) witnessF15 = true ∧ (getConfigs (o.inp []) witnessF15.flatten).length ≤ o.maxConfigs := by decide

/-- the full end-to-end statement (without `ndLeaf`) is false of the code: F16 -/
theorem every_region_analysed_counterexample :
    ¬ ∀ (o : CliOpts) (d0 : List Str) (t : Items), inFamily (o.inp d0) t = true →
        (getConfigs (o.inp d0) t.flatten).length ≤ o.maxConfigs →
        ∀ r ∈ t.regions, ∃ c ∈ analysed o (getConfigs (o.inp d0) t.flatten), live c t r = true := by
  intro h
  have := h {} [] witnessF16 (by decide) (by decide) 1 (by decide)
  revert this
  decide

/-! ### the duplicate-configuration purge (`TokenList::calculateHash`) -/

/-- the hash separates the token lists of the file's configurations -/
def HashInjOn (hash : List Nat → Nat) (content : Nat → List Nat) (t : Items) (cs : List Str) : Prop :=
  ∀ c ∈ cs, ∀ c' ∈ cs, hash (tokensOf content t c) = hash (tokensOf content t c') → tokensOf content t c = tokensOf content t c'

/-- if the hash is injective on the token lists of the file's configurations, the purge drops only configurations
    whose token list is analysed anyway: every configuration has a checked one with the very same code -/
theorem purge_keeps_code_partial (hash : List Nat → Nat) (content : Nat → List Nat) (t : Items) (cs : List Str)
    (hinj : HashInjOn hash content t cs) :
    ∀ c ∈ cs, ∃ c' ∈ checkedConfigs hash content t cs, tokensOf content t c' = tokensOf content t c := by
  intro c hc
  obtain ⟨c', hc', hk⟩ := dedupBy_key (fun c => hash (tokensOf content t c)) cs c hc
  exact ⟨c', hc', hinj c' (dedupByGo_sub _ cs [] c' hc') c hc hk⟩

/-- … hence every region that is live in some configuration is live in a checked one, when regions with different
    labels have different code (`content r = [r]`: the planted findings of the check) -/
theorem purge_keeps_coverage_partial (hash : List Nat → Nat) (t : Items) (cs : List Str)
    (hinj : HashInjOn hash (fun r => [r]) t cs) (r : Nat) (h : ∃ c ∈ cs, live c t r = true) :
    ∃ c ∈ checkedConfigs hash (fun r => [r]) t cs, live c t r = true := by
  obtain ⟨c, hc, hl⟩ := h
  obtain ⟨c', hc', he⟩ := purge_keeps_code_partial hash (fun r => [r]) t cs hinj c hc
  refine ⟨c', hc', ?_⟩
  have : t.emit (defines c') = t.emit (defines c) := by
    simpa [tokensOf, List.flatMap_singleton'] using he
  simpa [live, this] using hl

/-- an order-insensitive hash (here: the sum of the tokens, like an XOR of per-token values) purges a configuration whose
    code is a permutation of an earlier one: `#ifdef A R0 #else R1 #endif` with R0 = `1 2`, R1 = `2 1` — the configuration
    `A=A` is dropped and R0's code is analysed in no configuration -/
theorem purge_loses_region_counterexample :
    let t : Items := .condElse .ifdef ['A'] (.region 0 .done) (.region 1 .done) .done
    let content : Nat → List Nat := fun r => if r = 0 then [1, 2] else [2, 1]
    let cs := getConfigs {} t.flatten
    (∃ c ∈ cs, live c t 0 = true) ∧ ¬ ∃ c ∈ checkedConfigs List.sum content t cs, live c t 0 = true := by
  decide

example : HashInjOn (fun l => l.foldl (fun a x => 31 * a + x + 1) 7) (fun r => [r]) witnessF15 (getConfigs {} witnessF15.flatten) := by
  unfold HashInjOn; decide

/-- `every_region_covered_fixElse` under a name that shows its excluding hypothesis `ndLeaf` -/
theorem every_region_covered_ndLeaf_partial (inp : Inp) (t : Items) (hf : inFamily inp t = true) (hl : ndLeaf t = true) :
    ∀ r ∈ t.regions, ∃ c ∈ getConfigs inp t.flatten, live c t r = true :=
  every_region_covered_fixElse inp t hf hl

/-- `live` (theorem side, `defines c`) is what the driver prints (`emit (effDefines inp c)`) for the family: without `-D`
    and for macros that are not `-U`ndefined the two notions of "defined" coincide -/
theorem live_spec_eq_driver (inp : Inp) (c x : Str) (hud : inp.userDefines = []) (hx : x ∉ inp.undefs) :
    effDefines inp c x = defines c x := by
  simp [effDefines, hud, hx, defines_nil]

end Cppcheck.Configs
