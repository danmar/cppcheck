import Cppcheck.Proofs.PathMatch
import Cppcheck.Proofs.PathCanon
import Cppcheck.Proofs.FileLister
/-
C31 — property theorems: file selection and path matching follow the documented rules.

The model (Cppcheck/Model/PathCanon.lean, PathMatch.lean, FileLister.lean) copies lib/pathmatch.h, lib/pathmatch.cpp,
lib/path.cpp, externals/simplecpp/simplecpp.cpp (`simplifyPath`) and cli/filelister.cpp (POSIX part).  It is parametrised
by `Variant`: `Variant.fixed` is the code of the working tree (with the repair 4dc0347 = proposed/C31-pathmatch.diff),
`Variant.old` the code before that repair; the theorems are about `Variant.fixed`, the behaviour before the repair is kept
as counterexample theorems.  Strings are byte strings (`List Char`) of any length; nothing below is bounded.
-/

namespace Cppcheck.PathMatch
open Cppcheck.Wire Cppcheck.PathCanon

/-! ## `PathMatch::match` -/

/-- **termination**: for both variants of the loop and all streams the backtracking loop of `PathMatch::match` returns
    within `matchFuel` iterations (`matchFuel` = the iteration count `costC` of the search, summed over the restart
    positions), and its answer is the answer of the recursive search `mC` from some restart position -/
theorem match_terminates (fx real : Bool) (s t : Str) (ht : NUL ∉ t) :
    matchStreams fx real s t = some (mC fx real s t || restAny fx real s t) :=
  matchStreams_eq fx real s t ht

/-- **`pathmatch_eq_spec` (the loop)**: on the reversed canonical pattern `P` and the reversed canonical path `Y` the
    repaired loop returns `true` exactly if the documented rule `SpecMatch` holds: some part of `Y` that starts at the
    start of `Y` (the only choice for a "real" pattern) or directly behind a separator and ends at a separator or at the
    end of `Y` is matched by the glob `P` (`**` any text, `*` any text without separator, `?` one non-separator; a run of
    three or more `*` may be read in any way, e.g. as `**` followed by `*`). -/
theorem pathmatch_eq_spec (real : Bool) (P Y : Str) (hP : NUL ∉ P) (hY : NUL ∉ Y) :
    ∃ b, matchStreams true real P.reverse Y.reverse = some b ∧ (b = true ↔ SpecMatch real P Y) := by
  refine ⟨_, matchStreams_eq true real _ _ (by simpa using hY), ?_⟩
  exact search_iff_spec true real P Y hP hY (Or.inl rfl)

/-- the loop before the repair: the same statement holds exactly for the patterns in which (reading backwards) no star
    is directly followed by `?` or `*` -/
theorem pathmatch_eq_spec_before_repair (real : Bool) (P Y : Str) (hP : NUL ∉ P) (hY : NUL ∉ Y)
    (hs : starOkR P.reverse = true) :
    ∃ b, matchStreams false real P.reverse Y.reverse = some b ∧ (b = true ↔ SpecMatch real P Y) := by
  refine ⟨_, matchStreams_eq false real _ _ (by simpa using hY), ?_⟩
  exact search_iff_spec false real P Y hP hY (Or.inr hs)

/-- what the loop accepts is always matched by the documented rule (both variants, every pattern) -/
theorem pathmatch_sound (fx real : Bool) (P Y : Str) (hP : NUL ∉ P) (hY : NUL ∉ Y)
    (h : matchStreams fx real P.reverse Y.reverse = some true) : SpecMatch real P Y := by
  rw [matchStreams_eq fx real _ _ (by simpa using hY)] at h
  exact search_sound fx real P Y hP hY (by simpa using h)

/-- **C31 `pathMatch_eq_spec` (the whole function)**: for every pattern, path, base path, file mode and syntax inside the
    documented domain, the repaired `PathMatch::match` decides exactly the documented rule.  The rule does not mention the
    `pattern == path` shortcut of the code: the shortcut is proved to be covered by the rule (`fast_path_spec`) whenever
    `FastPathOk` (pattern absolute / base-relative, or base path empty, or base path absolute and – always so on unix – the
    pattern without a root of its own); `pathMatch_shortcut_counterexample_*` show the two remaining input classes. -/
theorem pathMatch_eq_spec (syn : Syntax) (mode : Filemode) (pattern path base : Str)
    (hp : CanonDomain (rawPattern syn pattern base).1 (rawPattern syn pattern base).2 = true)
    (hx : CanonDomain (rawPath syn path base).1 (rawPath syn path base).2 = true)
    (hfp : pattern = path → FastPathOk syn pattern base = true) :
    pathMatch .fixed syn mode pattern path base = true ↔ PathMatchSpec syn mode pattern path base := by
  unfold pathMatch PathMatchSpec
  by_cases he : pattern = []
  · subst he; simp
  · have he' : pattern.isEmpty = false := by cases pattern <;> simp_all
    simp only [he', Bool.false_eq_true, if_false, ne_eq, he, not_false_eq_true, true_and]
    by_cases hs : (pattern == ['*'] || pattern == ['*', '*']) = true
    · rw [if_pos hs]
      exact iff_of_true rfl (star_pattern_spec syn pattern base _ (by simpa using hs))
    · rw [if_neg hs]
      rw [show (issep syn (pattern.getLastD NUL) && mode != .directory) = dirMismatch syn mode pattern from rfl]
      by_cases hf : (!dirMismatch syn mode pattern && pattern == path) = true
      · -- the shortcut: covered by the rule (`fast_path_spec`)
        rw [if_pos hf]
        simp only [Bool.and_eq_true, Bool.not_eq_true', beq_iff_eq] at hf
        obtain ⟨hdm, rfl⟩ := hf
        rw [hdm, if_neg Bool.false_ne_true]
        exact iff_of_true rfl (fast_path_spec syn pattern base hp hx (hfp rfl))
      · rw [if_neg hf, fromPattern_stream syn pattern base hp, fromPath_stream syn path base hx]
        have hPn : NUL ∉ canonPattern syn pattern base := by
          simpa [fromPattern_stream syn pattern base hp] using stream_no_nul .fixed (fromPattern .fixed syn pattern base)
        have hXn : NUL ∉ canonPath syn path base := by
          simpa [fromPath_stream syn path base hx] using stream_no_nul .fixed (fromPath .fixed syn path base)
        -- the path side: the whole path, or (the last component skipped) its parent directory
        cases dirMismatch syn mode pattern
        · exact matchStreams_spec true (isReal pattern) _ _ hPn hXn (Or.inl rfl)
        · rw [if_pos rfl, if_pos rfl, show Variant.fixed.dirsep = true from rfl, skipLast_reverse _ hXn]
          exact matchStreams_spec true (isReal pattern) _ _ hPn (parentOf_no_nul _ hXn) (Or.inl rfl)

/-- **suppression file patterns** (`lib/suppressions.cpp` calls `PathMatch::match(fileName, path)`: empty base path,
    regular file, platform syntax) follow the same rule; with an empty base path the shortcut needs no hypothesis -/
theorem suppression_file_pattern_rule (pattern path : Str)
    (hp : CanonDomain (rawPattern .unix pattern []).1 (rawPattern .unix pattern []).2 = true)
    (hx : CanonDomain (rawPath .unix path []).1 (rawPath .unix path []).2 = true) :
    pathMatch .fixed .unix .regular pattern path [] = true ↔ PathMatchSpec .unix .regular pattern path [] :=
  pathMatch_eq_spec .unix .regular pattern path [] hp hx (fun _ => fastPathOk_unix pattern [] (Or.inr rfl))

/-- the executable form of the rules used by the check (`spec` op of the driver) decides the documented rule -/
theorem pathMatchSpecB_iff (syn : Syntax) (mode : Filemode) (pattern path base : Str) :
    pathMatchSpecB syn mode pattern path base = true ↔ PathMatchSpec syn mode pattern path base := by
  unfold pathMatchSpecB PathMatchSpec
  simp only [Bool.and_eq_true, Bool.not_eq_true', List.isEmpty_eq_false_iff, specMatchB_iff, ne_eq]

/-- where the shortcut is NOT covered by the rule (1): a free pattern whose canonical form is empty, with a relative
    base path – `match("a/..", "a/..", "b")` is true by the shortcut, the rule (`"b"` matched by the empty pattern) is false -/
theorem pathMatch_shortcut_counterexample_relative_base :
    pathMatch .fixed .unix .regular "a/..".toList "a/..".toList "b".toList = true ∧
    pathMatchSpecB .unix .regular "a/..".toList "a/..".toList "b".toList = false ∧
    FastPathOk .unix "a/..".toList "b".toList = false ∧
    CanonDomain (rawPattern .unix "a/..".toList "b".toList).1 (rawPattern .unix "a/..".toList "b".toList).2 = true ∧
    CanonDomain (rawPath .unix "a/..".toList "b".toList).1 (rawPath .unix "a/..".toList "b".toList).2 = true := by decide +kernel

/-- where the shortcut is NOT covered by the rule (2): windows syntax (on this build only used by tests), a pattern with
    a drive root of its own that is not absolute for `Path::isAbsolute` -/
theorem pathMatch_shortcut_counterexample_windows_root :
    pathMatch .fixed .windows .regular "c:/..".toList "c:/..".toList "/b".toList = true ∧
    pathMatchSpecB .windows .regular "c:/..".toList "c:/..".toList "/b".toList = false ∧
    FastPathOk .windows "c:/..".toList "/b".toList = false := by
  decide +kernel

/-- before the repair (C31-3): a star followed (reading backwards) by `?` found no backtrack position -/
theorem pathmatch_star_counterexample_before_repair :
    pathMatch .old .unix .regular "a?*".toList "abc".toList [] = false ∧
    pathMatchSpecB .unix .regular "a?*".toList "abc".toList [] = true ∧
    pathMatch .fixed .unix .regular "a?*".toList "abc".toList [] = true := by decide +kernel

/-- before the repair (C31-4): a directory pattern ending in `*` also matched regular files of the directory itself -/
theorem pathmatch_dirpattern_counterexample_before_repair :
    pathMatch .old .unix .regular "a/*/".toList "/a/f".toList [] = true ∧
    pathMatchSpecB .unix .regular "a/*/".toList "/a/f".toList [] = false ∧
    pathMatch .fixed .unix .regular "a/*/".toList "/a/f".toList [] = false := by decide +kernel

/-! the hypotheses are met by ordinary inputs (`MatchOk .fixed`, the driver's classifier, is the conjunction of the three
    hypotheses of `pathMatch_eq_spec`), and the documented rule distinguishes them -/
example : MatchOk .fixed .unix .regular "s/*.c".toList "s/a.c".toList "/b".toList = true := by decide +kernel
example : MatchOk .fixed .unix .regular "s/a.c".toList "s/a.c".toList "/b".toList = true ∧
    FastPathOk .unix "s/a.c".toList "/b".toList = true ∧ FastPathOk .unix "s/a.c".toList [] = true := by decide +kernel
example : pathMatch .fixed .unix .regular "s/*.c".toList "s/a.c".toList "/b".toList = true ∧
    pathMatch .fixed .unix .regular "s/*.c".toList "s/t/a.c".toList "/b".toList = false := by decide +kernel
example : pathMatch .fixed .unix .regular "**/a".toList "x//./a".toList [] = true := by decide +kernel
example : starOkR "src/**/*.c".toList.reverse = true ∧ starOkR "a?*".toList.reverse = false ∧
    starOkR "a***b".toList.reverse = false := by decide +kernel
example : pathMatch .fixed .unix .regular "a***b".toList "a/x/b".toList [] = true := by decide +kernel

end Cppcheck.PathMatch

namespace Cppcheck.PathCanon
open Cppcheck.Wire

/-! ## `PathMatch::PathIterator` and `simplifyPath` -/

/-- **`pathiter_eq_canon`**: for every pair of strings and both syntaxes the repaired iterator reads the documented
    canonical form of `a`, separator, `b` (`/./`, `/dir/../`, `//` collapsed, trailing separators removed, the root kept,
    `..` at the root removed), inside the documented domain: the root is empty or ends with a separator (excludes the
    windows forms `C:dir`, `//.` the header lists as unsupported) and, without a root, no `..` climbs above the start -/
theorem pathiter_eq_canon (syn : Syntax) (a b : Str)
    (h : CanonDomain (rawOf syn a b).1 (rawOf syn a b).2 = true) :
    (Iter.mk' .fixed syn a b).read .fixed = canonOf syn a b :=
  iter_read_eq_canon syn a b h

/-- before the repair (C31-1): the separator at a double separator inside a path was lost -/
theorem pathiter_eq_canon_counterexample_dsep :
    ¬ (((Iter.mk' .old .unix "/a//x".toList []).read .old) = canonOf .unix "/a//x".toList []) ∧
    (Iter.mk' .old .unix "/a//x".toList []).read .old = "/ax".toList ∧
    (Iter.mk' .old .unix "/".toList "x".toList).read .old = "x".toList := by decide +kernel

/-- before the repair (C31-2): `..` directly behind the root consumed the root -/
theorem pathiter_eq_canon_counterexample_rootdd :
    ¬ (((Iter.mk' .old .unix "/../x".toList []).read .old) = canonOf .unix "/../x".toList []) ∧
    (Iter.mk' .old .unix "/../x".toList []).read .old = "x".toList := by decide +kernel

/-- outside the documented domain the statement is false also for the repaired code: a relative path that climbs
    above its start (no documented canonical form) -/
theorem pathiter_eq_canon_counterexample_relative_escape :
    ¬ (((Iter.mk' .fixed .unix "../../x".toList []).read .fixed) = canonOf .unix "../../x".toList []) ∧
    CanonDomain (rawOf .unix "../../x".toList []).1 (rawOf .unix "../../x".toList []).2 = false := by decide +kernel

example : CanonDomain (rawOf .unix "/base/./x/..".toList "a//../b/".toList).1 (rawOf .unix "/base/./x/..".toList "a//../b/".toList).2 = true := by
  decide +kernel
example : (Iter.mk' .fixed .unix "/base/./x/..".toList "a//../b/".toList).read .fixed = "/base/b".toList := by decide +kernel
example : CanonDomain (rawOf .windows "C:\\Program Files\\".toList "..".toList).1 (rawOf .windows "C:\\Program Files\\".toList "..".toList).2 = true := by
  decide +kernel
example : CanonDomain (rawOf .unix "src/../lib".toList []).1 (rawOf .unix "src/../lib".toList []).2 = true := by decide +kernel

/-- **`simplifyPath_idempotent` is false of the code** (C31-5, externals/simplecpp): at `pos == 0` the `size_t`
    expressions wrap -/
theorem simplifyPath_idempotent_counterexample :
    ¬ (simplifyPath (simplifyPath "/a/../../a/../a".toList) = simplifyPath "/a/../../a/../a".toList) ∧
    simplifyPath "/a/../../a/../a".toList = "/../a/../".toList ∧
    simplifyPath "/../a/../".toList = "/../".toList := by decide +kernel

/-- `simplifyPath` does not give the canonical form when a `..` climbs above the root: the last component is erased -/
theorem simplifyPath_eq_canon_counterexample :
    simplifyPath "/a/../../x/y".toList = "/../x/".toList ∧ canon 1 "/a/../../x/y".toList = "/x/y".toList := by decide +kernel

end Cppcheck.PathCanon

namespace Cppcheck.FileLister
open Cppcheck.Wire Cppcheck.PathCanon Cppcheck.PathMatch

/-! ## `FileLister::addFiles` -/

/-- the selection the documentation describes, for an existing start path `root` naming `node` -/
def selected (ign : Str → Filemode → Bool) (acc : Str → Bool × Lang) (root : Str) (node : Tree) : List (Str × Lang) :=
  ((allFiles root [] node).filter (fun f => accepted acc root f && !ignoredAlong ign root f)).map
    (fun f => (f.1, langOf acc root f.1))

/-- **`lister_exact`**: for every directory tree (any depth, any order of the entries), every matcher and every
    acceptance test, `addFiles` returns no error and the sorted list of exactly the files that are accepted (extension
    test; not applied to a file given as start path) and not cut off by an ignore pattern on the way down -/
theorem lister_exact (ign : Str → Filemode → Bool) (acc : Str → Bool × Lang) (path : Str) (node : Tree)
    (hp : path ≠ []) :
    addFiles ign acc path (some node) = ("", sortFiles (selected ign acc (correctedPath path) node)) := by
  have : path.isEmpty = false := by cases path <;> simp_all
  simp only [addFiles, this, Bool.false_eq_true, if_false, selected, collectPath_eq]

/-- the listing is a permutation of the selection … -/
theorem lister_perm (ign : Str → Filemode → Bool) (acc : Str → Bool × Lang) (path : Str) (node : Tree) (hp : path ≠ []) :
    (addFiles ign acc path (some node)).2.Perm (selected ign acc (correctedPath path) node) := by
  rw [lister_exact ign acc path node hp]; exact sortFiles_perm _

/-- … without duplicates (for a well-formed tree: sibling names differ, no separator inside a name) … -/
theorem lister_nodup (ign : Str → Filemode → Bool) (acc : Str → Bool × Lang) (path : Str) (node : Tree) (hp : path ≠ [])
    (hw : node.wf = true) : ((addFiles ign acc path (some node)).2.map (·.1)).Nodup :=
  ((lister_perm ign acc path node hp).map (·.1)).nodup_iff.2 (nodup_selection _ (langOf acc _) _ node hw)

/-- … and strictly ascending in the order of `std::string::operator<` -/
theorem lister_sorted (ign : Str → Filemode → Bool) (acc : Str → Bool × Lang) (path : Str) (node : Tree) (hp : path ≠ [])
    (hw : node.wf = true) : ((addFiles ign acc path (some node)).2.map (·.1)).Pairwise (fun a b => strLt a b = true) := by
  have hnd := lister_nodup ign acc path node hp hw
  rw [lister_exact ign acc path node hp] at hnd ⊢
  exact List.pairwise_map.2 (pairwise_strict (·.1) _ _ (fun _ _ => strLt_of_pathLe) (sortFiles_sorted _) hnd)

/-- an empty path is an error, a path that does not exist yields nothing -/
theorem lister_no_path (ign : Str → Filemode → Bool) (acc : Str → Bool × Lang) (node : Option Tree) :
    addFiles ign acc [] node = ("no path specified", []) := rfl

theorem lister_missing (ign : Str → Filemode → Bool) (acc : Str → Bool × Lang) (path : Str) (hp : path ≠ []) :
    addFiles ign acc path none = ("", []) := by
  have : path.isEmpty = false := by cases path <;> simp_all
  simp [addFiles, this]

/-! ## `cppcheck -i <str>`: from the command line to the selection -/

/-- hypothesis of the command-line theorems: a pattern that is neither absolute nor relative to the current directory
    (it may match at any directory boundary) must not contain a `..` that climbs above its own start -/
def UserPatternOk (u : Str) : Bool :=
  absoluteU (removeQuotationMarks u) || relativeU (removeQuotationMarks u) ||
    CanonDomain (rawOf .unix (normalizeIgnored u) []).1 (rawOf .unix (normalizeIgnored u) []).2

/-- **one `-i` value**: with an absolute current directory, the matcher applied to the value as `parseFromArgs` hands it
    over (quotation marks removed, native separators converted – nothing else) decides exactly the documented rule for the
    text the user wrote: a pattern that is `.`/`..` or starts with `./` `../` (either separator) is resolved against the
    current directory and must match from the start of the path, a pattern starting with a separator is absolute, every other
    pattern may match behind any separator; a trailing separator makes it a directory pattern -/
theorem cli_ignore_eq_rule (mode : Filemode) (u path cwd : Str) (hcwd : isAbsolute cwd = true)
    (hu : UserPatternOk u = true) :
    pathMatch .fixed .unix mode (normalizeIgnored u) path cwd = true ↔ UserIgnoreSpec mode u path cwd := by
  rw [← pathMatchSpec_normalized]
  refine Cppcheck.PathMatch.pathMatch_eq_spec .unix mode _ path cwd
    (canonDomain_rawPattern _ cwd hcwd ?_) (canonDomain_rawPath path cwd hcwd)
    (fun _ => fastPathOk_unix _ cwd (Or.inl hcwd))
  have hr : isRelativePattern (normalizeIgnored u) = relativeU (removeQuotationMarks u) := isRelativePattern_fromNative _
  have ha : isAbsolute (normalizeIgnored u) = absoluteU (removeQuotationMarks u) := isAbsolute_fromNative _
  rw [hr, ha]
  exact hu

/-- **the whole `-i` path**: `cppcheck -i u₁ -i u₂ … path` run in the absolute directory `cwd` selects, for every
    directory tree, exactly the sorted list of the accepted files that the documented rule – applied to the patterns as
    the user wrote them – does not cut off on the way down -/
theorem cli_selection_exact (us : List Str) (acc : Str → Bool × Lang) (cwd path : Str) (node : Tree)
    (hcwd : isAbsolute cwd = true) (hus : ∀ u ∈ us, UserPatternOk u = true) (hp : path ≠ []) :
    addFiles (cliIgnored us cwd) acc path (some node) =
      ("", sortFiles (selected (fun p m => us.any (fun u => userIgnoreSpecB m u p cwd)) acc (correctedPath path) node)) := by
  have hfun : cliIgnored us cwd = fun p m => us.any (fun u => userIgnoreSpecB m u p cwd) := by
    funext p m
    simp only [cliIgnored, pathMatchList, List.any_map]
    refine Text.any_congr_mem (fun u hu => ?_)
    rw [Function.comp, Bool.eq_iff_iff, userIgnoreSpecB_iff]
    exact cli_ignore_eq_rule m u p cwd hcwd (hus u hu)
  rw [hfun]
  exact lister_exact _ acc path node hp

/-! ### `--file-filter=<str>`, de-duplication, and the step from `argv` to the values -/

/-- hypothesis on a `--file-filter` value (it reaches the matcher verbatim): as for `-i` -/
def FilterOk (f : Str) : Bool :=
  isAbsolute f || isRelativePattern f || CanonDomain (rawOf .unix f []).1 (rawOf .unix f []).2

/-- **`--file-filter`**: `CmdLineParser::filterFiles` keeps exactly the files the documented rule selects for one of the
    filters (file mode regular, patterns relative to the current directory) -/
theorem file_filter_eq_rule (ffs : List Str) (cwd : Str) (files : List (Str × Lang)) (hcwd : isAbsolute cwd = true)
    (hff : ∀ f ∈ ffs, FilterOk f = true) :
    filterFiles ffs cwd files =
      files.filter (fun x => ffs.any (fun f => pathMatchSpecB .unix .regular f x.1 cwd)) := by
  unfold filterFiles
  apply List.filter_congr
  intro x _
  refine Text.any_congr_mem (fun f hf => ?_)
  rw [Bool.eq_iff_iff, Cppcheck.PathMatch.pathMatchSpecB_iff]
  exact Cppcheck.PathMatch.pathMatch_eq_spec .unix .regular f x.1 cwd (canonDomain_rawPattern f cwd hcwd (hff f hf))
    (canonDomain_rawPath x.1 cwd hcwd) (fun _ => fastPathOk_unix _ cwd (Or.inl hcwd))

/-- **de-duplication**: the first entry for every file (key = its absolute path) stays, in the given order, and
    nothing else is removed -/
theorem cli_dedup_spec (key : Str → Str) (l : List (Str × Lang)) :
    (dedupBy key l).Sublist l ∧ ((dedupBy key l).map (fun f => key f.1)).Nodup ∧
    (∀ x ∈ l, ∃ y ∈ dedupBy key l, key y.1 = key x.1) ∧
    ((l.map (fun f => key f.1)).Nodup → dedupBy key l = l) :=
  ⟨dedupBy_sublist key l, dedupBy_nodup key l, dedupBy_complete key l, dedupBy_of_nodup key l⟩

/-! **from `argv` to the values**: the argument loop, one equation per form it accepts; each proof evaluates the `if`
    chain of `splitArgs` on that form -/
theorem splitArgs_path (a : Str) (rest : List Str) (h : hd a ≠ '-') :
    splitArgs (a :: rest) = (splitArgs rest).map (fun r => { r with paths := a :: r.paths }) := by
  have h' : (hd a != '-') = true := by simpa using h
  rw [splitArgs.eq_def]
  simp only [h', if_true]

theorem splitArgs_i_separate (v : Str) (rest : List Str) (h : hd v ≠ '-') :
    splitArgs (['-', 'i'] :: v :: rest) =
      (splitArgs rest).map (fun r => if v.isEmpty then r else { r with ignored := v :: r.ignored }) := by
  have h1 : (hd v == '-') = false := by simpa using h
  have h2 : (hd ['-', 'i'] != '-') = false := by decide
  rw [splitArgs.eq_def]
  simp only [h2, Bool.false_eq_true, if_false, beq_self_eq_true, if_true, h1]

theorem splitArgs_i_joined (v : Str) (rest : List Str) (hv : v ≠ []) :
    splitArgs (('-' :: 'i' :: v) :: rest) = (splitArgs rest).map (fun r => { r with ignored := v :: r.ignored }) := by
  have h2 : (hd ('-' :: 'i' :: v) != '-') = false := by simp [hd]
  have h3 : (('-' :: 'i' :: v) == ['-', 'i']) = false := by simp [hv]
  have h4 : (['-', 'i'].isPrefixOf ('-' :: 'i' :: v)) = true := by simp [List.isPrefixOf]
  rw [splitArgs.eq_def]
  simp only [h2, h3, h4, Bool.false_eq_true, if_false, if_true, List.drop_succ_cons, List.drop_zero]

theorem splitArgs_filter (f : Str) (rest : List Str) (h1 : f ≠ ['-']) (h2 : f ≠ ['+']) :
    splitArgs ((fileFilterPrefix ++ f) :: rest) = (splitArgs rest).map (fun r => { r with filters := f :: r.filters }) := by
  have e1 : (hd (fileFilterPrefix ++ f) != '-') = false := by simp [fileFilterPrefix, hd]
  have e2 : ((fileFilterPrefix ++ f) == ['-', 'i']) = false := by simp [fileFilterPrefix]
  have e3 : (['-', 'i'].isPrefixOf (fileFilterPrefix ++ f)) = false := by simp [fileFilterPrefix, List.isPrefixOf]
  have e4 : fileFilterPrefix.isPrefixOf (fileFilterPrefix ++ f) = true := by simp [fileFilterPrefix, List.isPrefixOf]
  have e5 : (fileFilterPrefix ++ f).drop 14 = f := by simp [fileFilterPrefix]
  have e6 : (f == ['-'] || f == ['+']) = false := by simp [h1, h2]
  rw [splitArgs.eq_def]
  simp only [e1, e2, e3, e4, e5, e6, Bool.false_eq_true, if_false, if_true]

/-- what `parseFromArgs` hands on: the `-i` values and the path names normalised, the filters verbatim -/
theorem parseIgnoreArgs_values (args : List Str) (a : CliArgs) (hs : splitArgs args = some a) (hp : a.paths ≠ []) :
    parseIgnoreArgs args = some (a.ignored.map normalizeIgnored, a.filters, a.paths.map normalizeIgnored) := by
  have : a.paths.isEmpty = false := by cases h : a.paths <;> simp_all
  simp [parseIgnoreArgs, hs, this]

/-- the selection the documentation describes for `cppcheck [-i u]… [--file-filter=f]… path…` in the directory `cwd`:
    every path name listed by the rule for the `-i` patterns as written, the filters applied by the rule, duplicates dropped -/
def ruleListing (us : List Str) (cwd p : Str) (node : Option Tree) : List (Str × Lang) :=
  match node with
  | none => []
  | some n =>
    if p = [] then []
    else sortFiles (selected (fun q m => us.any (fun u => userIgnoreSpecB m u q cwd)) (acceptFile []) (correctedPath p) n)

def ruleSelect (a : CliArgs) (cwd : Str) (resolve : Str → Option Tree) : Option (List Str) :=
  let resolved := (a.paths.map normalizeIgnored).flatMap (fun p => ruleListing a.ignored cwd p (resolve p))
  if resolved.isEmpty then none
  else
    let files := if a.filters.isEmpty then resolved
      else resolved.filter (fun x => a.filters.any (fun f => pathMatchSpecB .unix .regular f x.1 cwd))
    if files.isEmpty then none else mapSpath (dedupBy (absKey cwd) files)

/-- **the whole command line** (`-i`, `--file-filter`, several path names): the model of `parseFromArgs` +
    `fillSettingsFromArgs` (this is the function the driver executes, op `clisel`) selects exactly what the documented
    rules select for the values as the user wrote them -/
theorem cli_select_exact (args : List Str) (a : CliArgs) (cwd : Str) (resolve : Str → Option Tree)
    (hs : splitArgs args = some a) (hp : a.paths ≠ []) (hcwd : isAbsolute cwd = true)
    (hus : ∀ u ∈ a.ignored, UserPatternOk u = true) (hff : ∀ f ∈ a.filters, FilterOk f = true) :
    cliSelect args cwd resolve = ruleSelect a cwd resolve := by
  unfold cliSelect ruleSelect
  rw [parseIgnoreArgs_values args a hs hp]
  simp only []
  have hl : ∀ p : Str,
      (addFiles (pathMatchList .fixed .unix (a.ignored.map normalizeIgnored) cwd) (acceptFile []) p (resolve p)).2 =
        ruleListing a.ignored cwd p (resolve p) := by
    intro p
    unfold ruleListing
    cases hr : resolve p with
    | none =>
      by_cases hp0 : p = []
      · subst hp0; rfl
      · rw [lister_missing _ _ p hp0]
    | some n =>
      by_cases hp0 : p = []
      · subst hp0; simp [lister_no_path]
      · simp only [hp0, if_false]
        have h2 : cliIgnored a.ignored cwd = pathMatchList .fixed .unix (a.ignored.map normalizeIgnored) cwd := by
          funext q m; rfl
        rw [← h2, cli_selection_exact a.ignored (acceptFile []) cwd p n hcwd hus hp0]
  simp only [hl]
  rw [file_filter_eq_rule a.filters cwd _ hcwd hff]

/-- the values reach the matcher exactly as `normalizeIgnored` leaves them, in the order given; empty values are dropped,
    a missing value is an error -/
example : parseIgnoreArgs ["-i".toList, ".\\g\\".toList, "-i\"a b\"/".toList, "-i".toList, [], "--file-filter=*.c".toList,
      "s\\t".toList] =
    some (["./g/".toList, "a b/".toList], ["*.c".toList], ["s/t".toList]) := by decide +kernel
example : parseIgnoreArgs ["-i".toList, "-x".toList, "s".toList] = none ∧ parseIgnoreArgs ["s".toList, "-i".toList] = none := by
  decide +kernel

/-- `Path::simplifyPath` is NOT a valid normalisation of an ignore pattern: it strips the leading `./` that anchors the
    pattern at the current directory (`-i ./g` would also exclude `l/g/b.c`) -/
theorem cli_simplifyPath_normalisation_counterexample :
    simplifyPath "./g".toList = "g".toList ∧ normalizeIgnored "./g".toList = "./g".toList ∧
    pathMatch .fixed .unix .regular "g".toList "l/g/b.c".toList "/w".toList = true ∧
    pathMatch .fixed .unix .regular "./g".toList "l/g/b.c".toList "/w".toList = false ∧
    ¬ UserIgnoreSpec .regular "./g".toList "l/g/b.c".toList "/w".toList := by
  refine ⟨by decide +kernel, by decide +kernel, by decide +kernel, by decide +kernel, ?_⟩
  rw [← cli_ignore_eq_rule .regular _ _ _ (by decide) (by decide)]
  decide +kernel

example : UserPatternOk "./gen".toList = true ∧ UserPatternOk "gen/*.c".toList = true ∧ UserPatternOk ".\\gen\\".toList = true ∧
    UserPatternOk "a/../../b".toList = false := by decide +kernel

example : (Tree.dir [] [.file "b.cpp".toList, .dir "sub".toList [.file "a.c".toList, .file "n.txt".toList], .file "m.h".toList]).wf = true := by
  decide +kernel
example : selected (fun p _ => p == "r/s".toList) (acceptFile []) "r".toList
    (.dir [] [.file "b.cpp".toList, .dir "s".toList [.file "a.c".toList], .dir "l".toList [.file "z.c".toList, .file "n.txt".toList]])
    = [("r/b.cpp".toList, .cpp), ("r/l/z.c".toList, .c)] := by decide +kernel

end Cppcheck.FileLister
