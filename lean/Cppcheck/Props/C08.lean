import Cppcheck.Proofs.VarMap
import Cppcheck.Proofs.ClassVars
/-
C08 — property theorems (name resolution on the scope fragment).

Model under the theorems (Cppcheck/Model/VarMap.lean, ScopeProg.lean):
  `VarMap`     the undo-log symbol table `VariableMap` of lib/tokenize.cpp, with the repaired (newest-first) replay
               order of `leaveScope` (/repo commit "fix: VariableMap::leaveScope restores shadowed bindings newest-first");
  `implProg`   the `enterScope / leaveScope / addVariable / lookup` events `Tokenizer::setVarIdPass1` performs on a scope
               program (globals, prototypes, functions with parameters, blocks, if/else, while, do-while, for, declarations
               with initialisers, enumerators, C++ `::x` and condition declarations);
  `Spec`       a stack of scopes (op level);  `specProg`  lexical scoping written on the syntax tree.

Ids are numbered in order of declaration on both sides, so equality of the id lists says: every declaration token gets
a fresh id, and every use gets the id of exactly the declaration lexical scoping binds it to (0 = not a variable).

Two defects stand against the full-strength statements:
  F4   (fixed in /repo)  `leaveScope` replayed its undo log oldest-first       -> `varmap_oldorder_counterexample`
  F8b  (known finding)   an enumerator that hides a variable is invisible to the `VariableMap`
                                                                               -> `varmap_enum_counterexample`, `_partial` theorems
-/
namespace Cppcheck.VarMap

/-! ## the undo-log table refines the stack of scopes -/

/-- **Refinement, state level.** After any sequence of scope events in which no enumerator hides a visible variable,
the current table of the (repaired) `VariableMap` gives every name the id the stack of scopes gives it. -/
theorem varmap_refines_partial (ops : List Op) (h : noVarHidden Spec.init ops = true) (x : VName) :
    (lookup (exec VarMap.init ops).cur x).getD 0 =
      (slookup (sexec Spec.init ops).inner (sexec Spec.init ops).glob x).getD 0 :=
  R_lookup (exec_refines ops _ _ Rel_init h).1 x

/-- the same without any hypothesis for event lists that contain no enumerator event (enter / leave / declare / use:
the op language of DESIGN.md Appendix A) -/
theorem varmap_refines (ops : List Op) (h : noHide ops = true) (x : VName) :
    (lookup (exec VarMap.init ops).cur x).getD 0 =
      (slookup (sexec Spec.init ops).inner (sexec Spec.init ops).glob x).getD 0 :=
  varmap_refines_partial ops (noVarHidden_of_noHide ops _ h) x

/-- **F8b**: the full-strength statement is false — `int x; enum { x };` : lexical scoping now binds `x` to the
enumerator (not a variable, id 0), the `VariableMap` still answers with the variable's id 1. -/
theorem varmap_enum_counterexample :
    ¬ ∀ (ops : List Op) (x : VName),
        (lookup (exec VarMap.init ops).cur x).getD 0 =
          (slookup (sexec Spec.init ops).inner (sexec Spec.init ops).glob x).getD 0 := by
  intro h
  have := h [.decl 0 true, .enter, .hide 0] 0
  revert this
  decide

example : noVarHidden Spec.init [.hide 0, .enter, .decl 0 true, .use 0, .leave, .use 0] = true := by decide
example : noHide [.decl 0 true, .enter, .decl 0 false, .decl 0 false, .leave, .use 0] = true := by decide

/-- **Refinement, token level**: the ids written to all name tokens (declarations, uses, `::x` uses, enumerators) equal
those of the stack-of-scopes specification, for every event list whose `::x` part is well formed and in which no
enumerator hides a visible variable. -/
theorem run_eq_srun_partial (ops : List Op) (h : globalOK 0 [] ops = true) (hv : noVarHidden Spec.init ops = true) :
    run VarMap.init ops = srun Spec.init ops :=
  globalOK_run ops VarMap.init Spec.init Rel_init ⟨[], nofun, h⟩ hv

/-- without `::x` (every C program) the first hypothesis disappears -/
theorem run_eq_srun_of_noGuse_partial (ops : List Op) (h : noGuse ops = true) (hv : noVarHidden Spec.init ops = true) :
    run VarMap.init ops = srun Spec.init ops :=
  noGuse_run ops _ _ Rel_init h hv

/-- the `::x` hypothesis of `run_eq_srun_partial` cannot be dropped: a parameter named `a` (declared while
`scopeStack.size() <= 1`) is entered into `mVariableId_global`, so a later `::a` with no file-scope `a` (not a valid
program) is linked to it -/
theorem run_guse_undeclared_counterexample :
    ¬ ∀ ops : List Op, noVarHidden Spec.init ops = true → run VarMap.init ops = srun Spec.init ops := by
  intro h
  have := h [.enter, .decl 0 true, .leave, .guse 0] (by decide)
  revert this
  decide

example : globalOK 0 [] [.decl 0 true, .enter, .decl 0 true, .enter, .decl 0 false, .guse 0, .leave, .leave] = true := by
  decide
example : noGuse [.decl 0 true, .enter, .decl 0 false, .decl 0 false, .leave, .use 0] = true := by decide

/-! ## scope programs -/

/-- **Programs**: on every scope program whose `::x` uses name variables declared at file scope earlier in the text and
in which no enumerator hides a visible variable, the modelled tokenizer gives every name token the id lexical scoping
gives it. Unbounded nesting, any number of functions, any shadowing / re-declaration pattern (including several
declarations of one name in one scope, and variables that shadow enumerators). -/
theorem resolve_eq_spec_partial (p : Prog) (h : progOK [] p = true) (hv : noEnumHidesVar p = true) :
    resolve p = specProg p := by
  have h1 := run_eq_srun_partial (implProg p) (globalOK_implProg p [] h) hv
  have h2 := srun_implProg p [] 0
  simpa [resolve, specProg, Spec.init] using h1.trans h2

/-- the F8b witness as a scope program: `int v0; int f(void) { enum { v0 }; return v0; }` -/
def f8bProg : Prog := [.gdecl 0 [], .func [] (.cons (.enumd 0 []) (.cons (.expr [.loc 0]) .nil))]

/-- **F8b on programs**: the full-strength statement is false; the model (as the real tokenizer) links the `return v0`
to the file-scope variable, lexical scoping binds it to the enumerator -/
theorem resolve_enum_counterexample : ¬ ∀ p : Prog, progOK [] p = true → resolve p = specProg p := by
  intro h
  have := h f8bProg (by decide)
  revert this
  decide

example : resolve f8bProg = [1, 0, 1] ∧ specProg f8bProg = [1, 0, 0] := by decide

/-- the F4 witness as a scope program: `int f(int v0) { for (int v0 = 0; ; ) { int v0; } return v0; }` -/
def f4Prog : Prog :=
  [.func [0] (.cons (.fors (.decl 0 []) [] [] (.cons (.decl 0 []) .nil)) (.cons (.expr [.loc 0]) .nil))]

example : progOK [] f4Prog = true ∧ noEnumHidesVar f4Prog = true := by decide
example : resolve f4Prog = [1, 2, 3, 1] := by decide
/-- a program that uses `::` and enumerators and satisfies both hypotheses (a variable may shadow an enumerator):
`enum { v1 }; int v0; int f(int v0) { int v1 = ::v0 + v0; enum { v2 = sizeof(v1) }; return v2; }` -/
example : progOK [] [.genum 1 [], .gdecl 0 [], .func [0] (.cons (.decl 1 [.glob 0, .loc 0])
    (.cons (.enumd 2 [.loc 1]) (.cons (.expr [.loc 2]) .nil)))] = true ∧
  noEnumHidesVar [.genum 1 [], .gdecl 0 [], .func [0] (.cons (.decl 1 [.glob 0, .loc 0])
    (.cons (.enumd 2 [.loc 1]) (.cons (.expr [.loc 2]) .nil)))] = true := by decide

/-! ## distinct ids -/

/-- **Distinct ids**: the ids handed to the declarations of any event list are pairwise distinct
(they are `1, 2, …, number of declarations`). -/
theorem ids_distinct (ops : List Op) : (declIds VarMap.init ops).Nodup := by
  rw [declIds_eq]
  exact List.nodup_range'

theorem declIds_range (ops : List Op) : declIds VarMap.init ops = List.range' 1 (countDecls ops) := by
  simpa [VarMap.init] using declIds_eq ops VarMap.init

/-! ## F4 (documentation; fixed in /repo) -/

/-- with the replay order `leaveScope` had before the fix (oldest log entry first) the refinement is false — two
declarations of one name in one scope leave the inner id bound after the scope:
`int x; { extern int x; extern int x; } x` resolves the last `x` to id 2 instead of 1. -/
theorem varmap_oldorder_counterexample :
    ¬ ∀ ops : List Op, noGuse ops = true → noHide ops = true → runOld VarMap.init ops = srun Spec.init ops := by
  intro h
  have := h [.decl 0 true, .enter, .decl 0 false, .decl 0 false, .leave, .use 0] (by decide) (by decide)
  revert this
  decide

/-- the same on a scope program (valid C): the `return v0` after the loop is linked to the for-init variable -/
theorem resolveOld_counterexample :
    ¬ ∀ p : Prog, progOK [] p = true → noEnumHidesVar p = true → resolveOld p = specProg p := by
  intro h
  have := h f4Prog (by decide) (by decide)
  revert this
  decide

/-! ## class members in member functions defined outside the class (setVarIdPass2: `thisClassVars`) -/

/-- **Member table, all hierarchies (partial)**: whenever C++ member lookup of `x` in class `i` is not ambiguous, the table
"bases first without overwriting, then own members overwriting" gives exactly its answer: the found declaration's id,
or nothing. Any number of classes, any depth, several bases allowed. -/
theorem classvars_refines_partial (cs : List ClassDecl) (h : classesWF cs = true) (i : Nat) (hi : i < cs.length) (x : VName) :
    (∀ v, memberLookup cs (i + 1) i x = .found v → lookup ((buildAll cs).getD i []) x = some v) ∧
    (memberLookup cs (i + 1) i x = .notFound → lookup ((buildAll cs).getD i []) x = none) := by
  have ha := table_agrees cs (WF_of_classesWF cs h) i hi (i + 1) (by omega) x
  constructor
  · intro v hv; rw [hv] at ha; exact ha
  · intro hn; rw [hn] at ha; exact ha

/-- **Single inheritance chains (full)**: the id a member name gets in a member function of class `i` is the id of the
declaration C++ member lookup finds (own members hide base members at every level), 0 if there is none. -/
theorem classvars_refines (cs : List ClassDecl) (h : classesWF cs = true) (hs : singleInheritance cs = true)
    (i : Nat) (hi : i < cs.length) (x : VName) :
    classVarId cs i x = (match memberLookup cs (i + 1) i x with | .found v => v | _ => 0) := by
  obtain ⟨hf, hn⟩ := classvars_refines_partial cs h i hi x
  unfold classVarId
  cases hr : memberLookup cs (i + 1) i x with
  | found v => rw [hf v hr]; rfl
  | notFound => rw [hn hr]; rfl
  | ambiguous => exact absurd hr (single_not_ambiguous cs hs x (i + 1) i)

/-- a three-level chain `C0 { v0, v1 }  C1 : C0 { v0 }  C2 : C1 { v1 }` satisfies the hypotheses; in C2 `v0` is C1's -/
example : classesWF [⟨[], [(0, 1), (1, 2)]⟩, ⟨[0], [(0, 3)]⟩, ⟨[1], [(1, 4)]⟩] = true ∧
    singleInheritance [⟨[], [(0, 1), (1, 2)]⟩, ⟨[0], [(0, 3)]⟩, ⟨[1], [(1, 4)]⟩] = true ∧
    classVarId [⟨[], [(0, 1), (1, 2)]⟩, ⟨[0], [(0, 3)]⟩, ⟨[1], [(1, 4)]⟩] 2 0 = 3 := by decide

/-- with two bases that both declare the name the use is ambiguous (ill-formed) for the compiler, the table silently
answers with the first base: the full-strength statement needs the non-ambiguity premise -/
theorem classvars_two_bases_counterexample :
    ¬ ∀ (cs : List ClassDecl) (i : Nat) (x : VName), classesWF cs = true → i < cs.length →
        classVarId cs i x = (match memberLookup cs (i + 1) i x with | .found v => v | _ => 0) := by
  intro h
  have := h [⟨[], [(0, 1)]⟩, ⟨[], [(0, 2)]⟩, ⟨[0, 1], []⟩] 2 0 (by decide) (by decide)
  revert this
  decide

/-- **the seeded change** (`thisClassVars.emplace` instead of `operator[]`: own members do not overwrite): refuted already
by `struct C0 { v0 }; struct C1 : C0 { v0 };` — in C1 the base's id wins -/
theorem classvars_nooverwrite_counterexample :
    ¬ ∀ (cs : List ClassDecl) (i : Nat) (x : VName), classesWF cs = true → singleInheritance cs = true → i < cs.length →
        (lookup ((buildAllNoOverwrite cs).getD i []) x).getD 0 = (match memberLookup cs (i + 1) i x with | .found v => v | _ => 0) := by
  intro h
  have := h [⟨[], [(0, 1)]⟩, ⟨[0], [(0, 2)]⟩] 1 0 (by decide) (by decide) (by decide)
  revert this
  decide

end Cppcheck.VarMap
