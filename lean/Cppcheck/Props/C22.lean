import Cppcheck.Proofs.UnusedText
/-
C22 — whole-program results do not depend on how summaries are stored: property theorems.

Reading guide.  `toStr`/`toXml`/`store` are the writers of the code (text, byte for byte), `fromBuildDir` is the reader
(`processFilesTxt` + handler: modelled tinyxml2 lexer, tree builder, attribute reader, then the `loadFromXml` family),
`inMemory` is what `CppCheck::analyseWholeProgram()` uses without a build dir.  `simp` stands for `Path::simplifyPath`
(a parameter).  Every hypothesis is a decidable predicate on the value:
  * `XmlSafe s`  – all bytes of `s` are TAB, LF, CR or 0x20..0x7f (needed for strings written through `toxml`),
  * `RawSafe s`  – no `"`, `&`, CR, NUL (needed for the fields written without escaping: function ids, argument names),
  * `inS n i` / `inU n i` – `i` is a value of the C++ field's integer type,
  * `simp p.file = p.file` – value-path file names are already simplified (they always are: `FileLocation` stores
    `simplifyPath(file)`).
Each hypothesis comes with a counterexample theorem (and a replayed witness in corpus/C22).  `XmlSafe` is in Model/Ctu.lean, `RawSafe` in
Proofs/CtuText.lean; the `Ok` predicates that collect them per summary kind are in Proofs/CtuRoundtrip.lean (behind the lemmas on attribute lists, `BufferInfo.Ok`
further down), `TUSummary.Ok` in Proofs/CtuChecks.lean.
-/
namespace Cppcheck.Ctu
open Cppcheck.Wire

/-- **escaping.** What the tinyxml2 attribute reader returns for a string written with `ErrorLogger::toxml`, for EVERY byte
    string: bytes outside TAB/LF/CR/0x20..0x7f come back as 'x', NUL as the two characters `\0`. -/
theorem attrDecode_toxml (s : Str) : attrDecode (toxml s) = lossy s := attrDecode_toxml' s

theorem lossy_eq_self_iff (s : Str) : lossy s = s ↔ XmlSafe s = true :=
  ⟨safe_of_lossy s, lossy_of_safe s⟩

/-- the hypothesis is needed: a UTF-8 file name does not survive (ä.c ↦ xx.c) -/
theorem toxml_lossy_counterexample :
    attrDecode (toxml [Char.ofNat 0xC3, Char.ofNat 0xA4, '.', 'c']) = "xx.c".toList
    ∧ ¬ (∀ s : Str, attrDecode (toxml s) = s) := by
  refine ⟨by decide, ?_⟩
  intro h
  exact absurd (h [Char.ofNat 0xC3]) (by decide)

/-- **numbers.** Every `long long` written with `operator<<` is read back by `XMLUtil::ToInt64` -/
theorem scanInt64_showInt (i : Int) (h : inS 64 i = true) : scanInt64 (showInt i) = some i := scanInt64_showInt' i h

example : XmlSafe "a<b> & \"q\"\t'x'\r\n".toList = true := by decide +kernel
example : RawSafe "dir/x.h:12:7".toList = true := by decide +kernel
example : inS 64 (-9223372036854775808) = true ∧ inS 32 2147483647 = true ∧ inU 8 255 = true := by decide

/-- **C22, main theorem.**  For every list of translation-unit summaries (function calls with value paths, nested calls,
    unsafe usages of the three CTU checks, class definitions), each written to its cache file by the writers of the code:
    what `analyseWholeProgram(buildDir)` reads back is exactly the in-memory input of `analyseWholeProgram()`.
    Hence every whole-program result computed from it (`analysis` is arbitrary) is the same in both modes. -/
theorem wholeProgram_storage_independent {α : Type} (simp : Str → Str) (tus : List (Nat × TUSummary))
    (h : ∀ t ∈ tus, t.2.Ok simp = true) (analysis : WholeProgram → α) :
    (fromBuildDir (tus.map fun t => t.2.store simp t.1) WholeProgram.empty).map analysis
      = some (analysis (inMemory (tus.map (·.2)))) := by
  rw [fromBuildDir_stores simp tus WholeProgram.empty h]
  rfl

/-- one cache file: reading it adds to the accumulated input what the in-memory run adds -/
theorem cacheFile_roundtrip (simp : Str → Str) (hash : Nat) (t : TUSummary) (h : t.Ok simp = true) (wp : WholeProgram) :
    fromBuildDir [t.store simp hash] wp = some (addInMemory wp t) := by
  have := fromBuildDir_stores simp [(hash, t)] wp (by
    intro x hx
    simp at hx
    subst hx
    exact h)
  simpa using this

/-- a summary with only CTU call data -/
def onlyCtu (fi : FileInfo) : TUSummary := ⟨fi, ⟨[], []⟩, [], [], []⟩

/-- **CTU file info** (any number of function calls and nested calls) -/
theorem fileInfo_roundtrip (simp : Str → Str) (hash : Nat) (fi : FileInfo) (h : fi.Ok simp = true) :
    fromBuildDir [(onlyCtu fi).store simp hash] WholeProgram.empty = some { WholeProgram.empty with ctu := fi } := by
  have hok : (onlyCtu fi).Ok simp = true := by simp [onlyCtu, TUSummary.Ok, h, BufferInfo.Ok]
  rw [cacheFile_roundtrip simp hash _ hok]
  simp [addInMemory, onlyCtu, WholeProgram.empty]

/-- **function call** incl. its value path -/
theorem functionCall_roundtrip (simp : Str → Str) (hash : Nat) (c : FunctionCall) (h : c.Ok simp = true) :
    fromBuildDir [(onlyCtu ⟨[c], []⟩).store simp hash] WholeProgram.empty = some { WholeProgram.empty with ctu := ⟨[c], []⟩ } :=
  fileInfo_roundtrip simp hash ⟨[c], []⟩ (by simp [FileInfo.Ok, h])

/-- **nested call** (with the element name `<nested-call>` of the repair, 14f46e5) -/
theorem nestedCall_roundtrip (simp : Str → Str) (hash : Nat) (c : NestedCall) (h : c.Ok = true) :
    fromBuildDir [(onlyCtu ⟨[], [c]⟩).store simp hash] WholeProgram.empty = some { WholeProgram.empty with ctu := ⟨[], [c]⟩ } :=
  fileInfo_roundtrip simp hash ⟨[], [c]⟩ (by simp [FileInfo.Ok, h])

example : FunctionCall.Ok id ⟨"x.h:1:6".toList, "ns::h<int>".toList, 1, ⟨"dir/b.c".toList, 2, 15⟩, "&buf[\"k\"]".toList, 7, -1, 1, true,
    [⟨"b.c".toList, "Assignment 'p=0', assigned value is <0>".toList, 3, 4294967295⟩]⟩ = true := by decide +kernel
example : NestedCall.Ok ⟨"x.h:1:6".toList, "h".toList, 1, ⟨"b.c".toList, 2, 15⟩, "x.h:1:20".toList, 1⟩ = true := by decide +kernel

/-- **unsafe usage list** (CheckNullPointer; CheckUninitVar is the same with `uninitVar`) -/
theorem unsafeUsage_roundtrip (simp : Str → Str) (hash : Nat) (l : List UnsafeUsage) (h : l.all UnsafeUsage.Ok = true) :
    fromBuildDir [TUSummary.store simp hash ⟨⟨[], []⟩, ⟨[], []⟩, [], l, l⟩] WholeProgram.empty
      = some { WholeProgram.empty with nullPointer := if l = [] then [] else [l], uninitVar := if l = [] then [] else [l] } := by
  have hok : TUSummary.Ok simp ⟨⟨[], []⟩, ⟨[], []⟩, [], l, l⟩ = true := by simp [TUSummary.Ok, FileInfo.Ok, BufferInfo.Ok, h]
  rw [cacheFile_roundtrip simp hash _ hok]
  simp [addInMemory, WholeProgram.empty]

/-- **CheckBufferOverrun** (array-index and pointer-arith lists) -/
theorem bufferInfo_roundtrip (simp : Str → Str) (hash : Nat) (b : BufferInfo) (h : b.Ok = true) :
    fromBuildDir [TUSummary.store simp hash ⟨⟨[], []⟩, b, [], [], []⟩] WholeProgram.empty
      = some { WholeProgram.empty with buffer := if b.arrayIndex = [] ∧ b.pointerArith = [] then [] else [b] } := by
  have hok : TUSummary.Ok simp ⟨⟨[], []⟩, b, [], [], []⟩ = true := by simp [TUSummary.Ok, FileInfo.Ok, h]
  rw [cacheFile_roundtrip simp hash _ hok]
  simp [addInMemory, WholeProgram.empty]

/-- **CheckClass** (one-definition-rule data) -/
theorem classInfo_roundtrip (simp : Str → Str) (hash : Nat) (l : List ClassDef) (h : l.all ClassDef.Ok = true) :
    fromBuildDir [TUSummary.store simp hash ⟨⟨[], []⟩, ⟨[], []⟩, l, [], []⟩] WholeProgram.empty
      = some { WholeProgram.empty with classes := if l = [] then [] else [l] } := by
  have hok : TUSummary.Ok simp ⟨⟨[], []⟩, ⟨[], []⟩, l, [], []⟩ = true := by simp [TUSummary.Ok, FileInfo.Ok, BufferInfo.Ok, h]
  rw [cacheFile_roundtrip simp hash _ hok]
  simp [addInMemory, WholeProgram.empty]

example : UnsafeUsage.Ok ⟨"x.h:1:6".toList, 1, "p".toList, ⟨"a&b.c".toList, 2, 16⟩, -9223372036854775808⟩ = true := by decide +kernel
example : ClassDef.Ok ⟨"ns::S<int>".toList, "k.cpp".toList, "A;B=\"1\"".toList, 1, 8, 18446744073709551615⟩ = true := by decide +kernel

/-- the writer before the fix (F2): nested calls as `<function-call …>` -/
def storeOld (simp : Str → Str) (hash : Nat) (fi : FileInfo) : Str := storeFile hash [("ctu".toList, fi.toStrOld simp)]

/-- **before the fix, every nested call was lost**: whatever the summary, only the function calls came back -/
theorem nestedCall_lost_before_fix (simp : Str → Str) (hash : Nat) (fi : FileInfo) (h : fi.Ok simp = true) :
    fromBuildDir [storeOld simp hash fi] WholeProgram.empty = some { WholeProgram.empty with ctu := ⟨fi.functionCalls, []⟩ } := by
  have hr := fileInfo_renders simp "function-call" (by decide +kernel) fi h
  simp only [FileInfo.Ok, Bool.and_eq_true] at h
  refine (fromBuildDir_storeFile hash [⟨"ctu".toList, fi.toStrOld simp, _⟩]
    (List.forall_mem_singleton.2 ⟨(by decide +kernel : RawSafe "ctu".toList = true), hr⟩) [] _).trans ?_
  simp only [List.map_cons, List.map_nil, Info.entry, handleInfos, handleInfo_ctu, Option.bind_some, fromBuildDir, FileInfo.loadFromXml,
    infoElem, Elem.kids, loadCalls_append, loadCalls_fcs simp _ _ h.1, loadCalls_ncs_old, WholeProgram.empty, List.nil_append]

/-- so the round trip was false of the old code: a single nested call is a counterexample -/
theorem nestedCall_old_counterexample :
    ¬ (∀ (simp : Str → Str) (hash : Nat) (fi : FileInfo), fi.Ok simp = true →
        fromBuildDir [storeOld simp hash fi] WholeProgram.empty = some { WholeProgram.empty with ctu := fi }) := by
  intro hall
  let nc : NestedCall := ⟨"x.h:1:6".toList, "h".toList, 1, ⟨"b.c".toList, 2, 15⟩, "x.h:1:20".toList, 1⟩
  have hok : FileInfo.Ok id ⟨[], [nc]⟩ = true := by decide +kernel
  have h1 := hall id 1 ⟨[], [nc]⟩ hok
  rw [nestedCall_lost_before_fix id 1 ⟨[], [nc]⟩ hok] at h1
  simp [WholeProgram.empty] at h1

/-- a function id with an entity look-alike (file `&amp;.h`) comes back different; one with a quote (`a"b.h`) makes the
    whole cache file unreadable (`failed to load …`, internalError, no whole-program analysis at all) -/
theorem rawField_counterexample :
    fromBuildDir [(onlyCtu ⟨[⟨"&amp;.h:1:6".toList, "f".toList, 1, ⟨"a.c".toList, 1, 2⟩, "p".toList, 0, 0, 0, false, []⟩], []⟩).store id 1] WholeProgram.empty
      = some { WholeProgram.empty with ctu := ⟨[⟨"&.h:1:6".toList, "f".toList, 1, ⟨"a.c".toList, 1, 2⟩, "p".toList, 0, 0, 0, false, []⟩], []⟩ }
    ∧ fromBuildDir [(onlyCtu ⟨[⟨"a\"b.h:1:6".toList, "f".toList, 1, ⟨"a.c".toList, 1, 2⟩, "p".toList, 0, 0, 0, false, []⟩], []⟩).store id 1] WholeProgram.empty
      = none := by
  decide +kernel

/-- the unrestricted statement ("every summary value survives") is therefore false of the code -/
theorem roundtrip_unrestricted_counterexample :
    ¬ (∀ (simp : Str → Str) (hash : Nat) (fi : FileInfo),
        fromBuildDir [(onlyCtu fi).store simp hash] WholeProgram.empty = some { WholeProgram.empty with ctu := fi }) := by
  intro hall
  have h1 := hall id 1 ⟨[⟨"a\"b.h:1:6".toList, "f".toList, 1, ⟨"a.c".toList, 1, 2⟩, "p".toList, 0, 0, 0, false, []⟩], []⟩
  rw [rawField_counterexample.2] at h1
  exact absurd h1 (by simp)

theorem onlyCtu_store_simpPath (simp : Str → Str) (hash : Nat) (fi : FileInfo) :
    (onlyCtu fi).store simp hash = (onlyCtu ⟨fi.functionCalls.map (FunctionCall.simpPath simp), fi.nestedCalls⟩).store id hash := by
  simp only [TUSummary.store, TUSummary.infos, onlyCtu, FileInfo.toStr, FileInfo.toStrWith,
    functionCallsStr_simpPath simp fi.functionCalls]

/-- a value-path file name that `simplifyPath` changes does not come back (here `simp` maps everything to "a.c") -/
theorem pathFile_counterexample :
    fromBuildDir [(onlyCtu ⟨[⟨"x.h:1:6".toList, "f".toList, 1, ⟨"a.c".toList, 1, 2⟩, "p".toList, 0, 0, 0, false,
        [⟨"./a.c".toList, "note".toList, 3, 4⟩]⟩], []⟩).store (fun _ => "a.c".toList) 1] WholeProgram.empty
      = some { WholeProgram.empty with ctu := ⟨[⟨"x.h:1:6".toList, "f".toList, 1, ⟨"a.c".toList, 1, 2⟩, "p".toList, 0, 0, 0, false,
        [⟨"a.c".toList, "note".toList, 3, 4⟩]⟩], []⟩ } := by
  rw [onlyCtu_store_simpPath]
  exact functionCall_roundtrip id 1 _ (by decide +kernel)

end Cppcheck.Ctu

namespace Cppcheck.Unused
open Cppcheck.Wire Cppcheck.Ctu

/-- **summary text.** The `<FileInfo check="CheckUnusedFunctions">` text of a translation unit, written into a cache file
    and read back by the handler of `analyseWholeProgram(buildDir)`, yields the declarations and calls of that unit. -/
theorem unusedInfo_roundtrip (src : Str) (c : Collected) (t : TU) (h : t.TextOk = true) :
    collectText src c (analyzerInfo t) = .ok (collectTU c t) := collectText_analyzerInfo src c t h

example : TU.TextOk ⟨[⟨"f<1>".toList, "u0.c".toList, 3, 13, true, false, false⟩], [⟨"g".toList, "u0.c".toList⟩]⟩ = true := by decide +kernel

/-- **the two algorithms, on the collected data** (text layer removed; the statement about what the driver and the code
    execute is `unused_wp_equiv` below).  On every program (list of translation units given by the effects of `parseTokens`) that satisfies
    `UnusedHyp`, the `unusedFunction` findings of the in-memory algorithm (`CheckUnusedFunctions::check`) and of the build-dir
    algorithm (`analyseWholeProgram(buildDir)`) are the same set, and neither list has duplicates.
    `entry` = `Library::isentrypoint`, arbitrary. -/
theorem unused_collected_equiv (entry : Str → Bool) (tus : List TU) (h : UnusedHyp tus = true) :
    (∀ x, x ∈ unusedInMemory entry tus ↔ x ∈ unusedBuildDir entry tus)
    ∧ (unusedInMemory entry tus).Nodup ∧ (unusedBuildDir entry tus).Nodup := by
  have inv : Inv (allDecls tus) (finalMap tus) (tus.foldl collectTU ⟨[], []⟩) :=
    inv_tus (allDecls tus) tus [] ⟨[], []⟩ (declOk_of_hyp tus h) (inv_empty _)
  refine findings_of_inv entry tus inv fun n hn => ?_
  obtain ⟨d, hd, hname, _⟩ := inv.fromDecl n hn
  obtain ⟨t, ht, hdt⟩ := List.mem_flatMap.mp hd
  rw [← hname]
  exact strip_id _ (declOk_of_hyp tus h t ht d hdt).noLt

example : UnusedHyp [⟨[⟨"f".toList, "u0.c".toList, 1, 13, true, true, false⟩, ⟨"main".toList, "u0.c".toList, 2, 5, true, false, false⟩],
    [⟨"f".toList, "u0.c".toList⟩]⟩, ⟨[⟨"g".toList, "u1.c".toList, 1, 6, true, false, false⟩], []⟩] = true := by decide +kernel

def isMainName (n : Str) : Bool := n = "main".toList

/-- the location hypothesis is needed (F19): one name defined in two files, both unused —
    in memory the first definition is reported, with a build dir the last one -/
theorem unused_dupname_counterexample :
    unusedInMemory isMainName [⟨[⟨"f".toList, "a.c".toList, 1, 13, true, true, false⟩], []⟩, ⟨[⟨"f".toList, "b.c".toList, 3, 13, true, true, false⟩], []⟩]
      = [⟨"a.c".toList, 1, 13, "f".toList⟩]
    ∧ unusedBuildDir isMainName [⟨[⟨"f".toList, "a.c".toList, 1, 13, true, true, false⟩], []⟩, ⟨[⟨"f".toList, "b.c".toList, 3, 13, true, true, false⟩], []⟩]
      = [⟨"b.c".toList, 3, 13, "f".toList⟩] := by
  decide +kernel

/-- **the build-dir run through the text.**  The fold the driver executes (every translation unit's summary written as text into a
    cache file, parsed, handled) collects exactly the text-free data. -/
theorem unusedBuildDir_via_text (entry : Str → Bool) (tus : List TU) (ht : ∀ t ∈ tus, t.TextOk = true) :
    unusedViaText entry tus = some (unusedBuildDir entry tus) := by
  unfold unusedViaText collectViaText
  rw [collectViaText_eq tus ⟨[], []⟩ ht]
  rfl

/-- **C22 for unusedFunction.**  `unusedViaText` = `analyseWholeProgram(settings, logger, buildDir)` on the written summaries,
    `unusedInMemory` = `CheckUnusedFunctions::check`: same findings, no duplicates, for every program satisfying `UnusedHyp`
    whose names / files are XML-safe (`TextOk`). -/
theorem unused_wp_equiv (entry : Str → Bool) (tus : List TU) (h : UnusedHyp tus = true) (ht : ∀ t ∈ tus, t.TextOk = true) :
    ∃ b, unusedViaText entry tus = some b ∧ (∀ x, x ∈ unusedInMemory entry tus ↔ x ∈ b)
      ∧ (unusedInMemory entry tus).Nodup ∧ b.Nodup :=
  ⟨_, unusedBuildDir_via_text entry tus ht, unused_collected_equiv entry tus h⟩

/-- **the real cache file** (five whole-program summaries and the `CheckUnusedFunctions` summary in one file): the whole-program
    handler and the unused-function handler each read their part and ignore the rest -/
theorem realCacheFile_both (simp : Str → Str) (hash : Nat) (t : TUSummary) (u : TU) (h : t.Ok simp = true) (hu : u.TextOk = true)
    (wp : WholeProgram) (src : Str) (c : Collected) :
    fromBuildDir [storeAll simp hash t u] wp = some (addInMemory wp t)
    ∧ collectFile src c (storeAll simp hash t u) = .ok (collectTU c u) :=
  storeAll_both simp hash t u h hu wp src c

/-- **main theorem on the real files**: for every list of (hash, whole-program summaries, unused-function summary), both
    consumers of the build dir get exactly what the in-memory run has -/
theorem wholeProgram_storage_independent_realFiles (simp : Str → Str) (l : List (Nat × TUSummary × TU))
    (h : ∀ x ∈ l, x.2.1.Ok simp = true ∧ x.2.2.TextOk = true) :
    fromBuildDir (l.map fun x => storeAll simp x.1 x.2.1 x.2.2) WholeProgram.empty = some (inMemory (l.map (·.2.1)))
    ∧ collectFiles (l.map fun x => storeAll simp x.1 x.2.1 x.2.2) = .ok ((l.map (·.2.2)).foldl collectTU ⟨[], []⟩) :=
  ⟨fromBuildDir_storeAll simp l WholeProgram.empty fun x hx => (h x hx).1, collectFiles_storeAll simp l ⟨[], []⟩ h⟩

example : TUSummary.Ok id ⟨⟨[⟨"x.h:1:6".toList, "h".toList, 1, ⟨"b.c".toList, 2, 15⟩, "0".toList, 0, 0, 0, false, [⟨"b.c".toList, "note".toList, 3, 4⟩]⟩],
      [⟨"x.h:1:6".toList, "h".toList, 1, ⟨"b.c".toList, 2, 15⟩, "x.h:1:20".toList, 1⟩]⟩,
    ⟨[⟨"x.h:2:6".toList, 1, "p".toList, ⟨"a.c".toList, 2, 16⟩, 40⟩], []⟩,
    [⟨"S".toList, "k.cpp".toList, "".toList, 1, 8, 77⟩], [⟨"x.h:1:6".toList, 1, "p".toList, ⟨"a.c".toList, 2, 16⟩, 0⟩], []⟩ = true := by decide +kernel

/-- the clause "no '<' in declared names" of `UnusedHyp` is needed: `ab<1>` and `ab<2>` are one entry `a` of `mFunctions`
    (`stripTemplateParameters`) but two entries of the build-dir map -/
theorem unused_templatename_counterexample :
    unusedInMemory isMainName [⟨[⟨"ab<1>".toList, "a.cpp".toList, 1, 6, false, false, false⟩, ⟨"ab<2>".toList, "a.cpp".toList, 2, 6, false, false, false⟩], []⟩]
      = [⟨"a.cpp".toList, 1, 6, "a".toList⟩]
    ∧ unusedBuildDir isMainName [⟨[⟨"ab<1>".toList, "a.cpp".toList, 1, 6, false, false, false⟩, ⟨"ab<2>".toList, "a.cpp".toList, 2, 6, false, false, false⟩], []⟩]
      = [⟨"a.cpp".toList, 1, 6, "a".toList⟩, ⟨"a.cpp".toList, 2, 6, "a".toList⟩] := by
  decide +kernel

/-- `staticFunction` exists only in memory (F20): `void g(void){}` used only inside its own C file -/
theorem static_counterexample :
    staticInMemory isMainName [⟨[⟨"g".toList, "c.c".toList, 1, 6, true, false, false⟩, ⟨"k".toList, "c.c".toList, 2, 6, true, false, false⟩],
      [⟨"g".toList, "c.c".toList⟩]⟩] = [⟨"c.c".toList, 1, 6, "g".toList⟩]
    ∧ unusedBuildDir isMainName [⟨[⟨"g".toList, "c.c".toList, 1, 6, true, false, false⟩, ⟨"k".toList, "c.c".toList, 2, 6, true, false, false⟩],
      [⟨"g".toList, "c.c".toList⟩]⟩] = [⟨"c.c".toList, 2, 6, "k".toList⟩] := by
  decide +kernel

/-- the attribute hypothesis is needed in the model (no C input that reaches this branch of `parseTokens` was found) -/
theorem unused_retattr_counterexample :
    unusedInMemory isMainName [⟨[⟨"f".toList, "a.c".toList, 1, 13, true, false, true⟩], []⟩] = []
    ∧ unusedBuildDir isMainName [⟨[⟨"f".toList, "a.c".toList, 1, 13, true, false, true⟩], []⟩] = [⟨"a.c".toList, 1, 13, "f".toList⟩] := by
  decide +kernel

end Cppcheck.Unused
