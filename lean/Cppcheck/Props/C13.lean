import Cppcheck.Proofs.ExcFunnel
import Cppcheck.Gen.ExceptionFunnel
import Cppcheck.Proofs.LifetimeBudget
import Cppcheck.Gen.LifetimeBudget
/-
C13 — property theorems.  Part (a), the exception funnel: statements about the table
`Cppcheck.Gen.ExceptionFunnel.prog`, regenerated from /repo's working tree on every run; the finite
checks are decided by the kernel over the *whole* table and lifted by the generic lemmas of
Proofs/ExcFunnel.lean to propagation chains of any length; then the handler order and actions of the three funnels.
Part (a2), at the end: the number of invocations of the reference-following recursion under the two ways of
charging its budget (`Model/LifetimeBudget.lean`), and the charges `Gen.LifetimeBudget` extracted from the source.
-/
namespace Cppcheck.C13
open Cppcheck.ExcFunnel
open Cppcheck.Gen.ExceptionFunnel

/-- the one evaluation of the whole table.  `rowCodes` is a chain of appends; walked as one list every element would pass
through each of them. -/
theorem table_checked : tableOk prog cert types.length alarmIds rowCodes protRows = true := by
  simp only [tableOk, rowCodes, List.all_append]
  decide +kernel

/-- the translator's certificate is inductive for every site except the alarms -/
theorem cert_closed : closed prog cert types alarmIds = true := (tableOk_sound rfl table_checked).1

/-- no exception type can propagate out of an entry point (`main`, static initialisation, the analysis API, every `noexcept`
function and destructor) under the certificate -/
theorem cert_entries_clear : entriesClear prog cert types = true := (tableOk_sound rfl table_checked).2

/-- Every throw site and every call of a throwing std function in the working tree is one of the listed alarms,
or carries a guard recognised by the translator (an AST heuristic that the semantics does not trust: such sites are
listed in the evidence as assumptions), or is contained: along no call chain (of any length, through virtual calls,
lambdas and function references) does its exception leave an entry point uncaught — neither `main` (abnormal
termination), nor the analysis API (problem not reported as a finding), nor any `noexcept` function / destructor
(`std::terminate`). -/
theorem funnel_complete : ∀ s ∈ prog.sites, s.id ∈ alarmIds ∨ s.guard ≠ 0 ∨ ¬ Aborts prog s := by
  intro s hs
  by_cases h : s.id ∈ alarmIds
  · exact Or.inl h
  · by_cases hg : s.guard = 0
    · exact Or.inr (Or.inr (no_abort cert_closed cert_entries_clear hs h hg))
    · exact Or.inr (Or.inl hg)

/-- the same with the exclusions as explicit hypotheses -/
theorem funnel_complete_partial : ∀ s ∈ prog.sites, s.id ∉ alarmIds → s.guard = 0 → ¬ Aborts prog s :=
  fun _ => no_abort cert_closed cert_entries_clear

/-- the hypotheses are met by sites whose containment really needs the interprocedural argument: unguarded, not an alarm,
not caught inside their own function, and the certificate says the type does propagate out of the function -/
example : ∃ s ∈ prog.sites, s.id ∉ alarmIds ∧ s.guard = 0 ∧ caughtIn prog.hier s.ctx s.ty = false ∧
    cert.mem s.ty s.fn = true := by decide +kernel

/-- full-strength statement for the unguarded sites, available exactly when the translator finds no alarm
(vacuous while `alarmIds ≠ []`) -/
theorem funnel_full_of_no_alarm : alarmIds = [] → ∀ s ∈ prog.sites, s.guard = 0 → ¬ Aborts prog s := by
  intro h s hs hg
  exact funnel_complete_partial s hs (by rw [h]; simp) hg

/-- every row code of the generated table is well formed (callee digit present, no zero digit, nothing cut off by the
decoder's fuel): `decodeRow` reads exactly what the translator wrote -/
theorem rowCodes_wf : rowCodes.all codeWf = true := tableOk_codeWf table_checked

/-- Every alarm that is recorded as a *finding* is a real propagation chain of the model: the listed
chain of functions leads from the site to an entry point through calls whose try blocks do not take the
type.  (The corresponding inputs in corpus/C13 make the real binary terminate abnormally.)  Vacuous while
`findingPaths = []`. -/
theorem finding_paths_real : ∀ p ∈ findingPaths, ∃ s ∈ prog.sites, s.id = p.site ∧ Aborts prog s := by
  have h : findingPaths.all (pathOk prog) = true := by decide +kernel
  intro p hp
  exact pathOk_aborts (List.all_eq_true.mp h p hp)

/-- hence the full-strength statement is refuted by the current tree whenever a finding is listed -/
theorem funnel_full_counterexample : findingPaths ≠ [] → ¬ ∀ s ∈ prog.sites, ¬ Aborts prog s := by
  intro hne hall
  obtain ⟨p, hp⟩ := List.exists_mem_of_ne_nil _ hne
  obtain ⟨s, hs, _, hab⟩ := finding_paths_real p hp
  exact hall s hs hab

/-- Handler order and actions of the three funnels (outer and per-configuration try of
`CppCheck::checkInternal`, `CppCheck::checkClang`): whatever a funnel takes becomes a finding; only
`TerminateException` (and its subtypes) is swallowed; nothing is rethrown and no handler exits. -/
theorem funnel_actions : funnels.all (fun f => funnelActionsOk hier f types tyTerminateException) = true := by
  decide +kernel

/-- user termination is not reported as an internal error although `TerminateException <: std::runtime_error`:
its handler comes first -/
theorem terminate_swallowed :
    (firstMatch hier funnel_checkInternal_outer.handlers tyTerminateException).map Prod.snd = some Action.swallow := by
  decide +kernel

/-- the outer funnel takes the types the analysis is designed to raise: `InternalError`, `std::runtime_error`
(with subtypes) and `std::bad_alloc` -/
theorem funnel_takes_analysis_types :
    [tyInternalError, ty_std_runtime_error, ty_std_bad_alloc].all
      (fun t => caughtBy hier (funnel_checkInternal_outer.handlers.map Prod.fst) t) = true := by
  decide +kernel

/-! ### bounded work of the reference-following recursion (`getLifetimeTokens`, `followAllReferencesInternal`)

`Gen.LifetimeBudget.fanoutCharges` lists, for the recursive calls inside the loops over the callee's return statements, the
budget expression found in the source (`depth - returns.size()` = `.perReturns`, `depth - 1` = `.perCall`). -/

open Cppcheck.LifetimeBudget in
/-- with the budget charged by the number of return statements the recursion makes at most `(r + 1) * 2 ^ (depth + 1)`
invocations — for the fixed initial budget this is linear in the size `r` of the callee -/
theorem budget_perReturns_linear (r depth : Nat) : calls .perReturns r (depth + 1) ≤ (r + 1) * 2 ^ (depth + 1) :=
  calls_perReturns_le r (depth + 1)

open Cppcheck.LifetimeBudget in
/-- with one unit charged per level the recursion makes at least `r ^ (depth + 1)` invocations; already for three recursive
return statements and the initial budget of the code that exceeds the linear bound by three orders of magnitude -/
theorem budget_perCall_explodes :
    (∀ r depth, r ^ (depth + 1) ≤ calls .perCall r (depth + 1)) ∧
    (3 + 1) * 2 ^ (initialDepth + 1) * 1000 < calls .perCall 3 (initialDepth + 1) :=
  ⟨fun r d => calls_perCall_ge r (d + 1), Nat.lt_of_lt_of_le (by decide) (calls_perCall_ge 3 (initialDepth + 1))⟩

open Cppcheck.LifetimeBudget in
/-- the two regimes, as a case split on the charge `p.2` of a fan-out site: the bounds hold for any charge and depth, so the
membership hypotheses only say what the statement is applied to.  Which case the four extracted sites are in is read off the
table by the check, which requires the first for all of them. -/
theorem budget_verdict : ∀ p ∈ Cppcheck.Gen.LifetimeBudget.fanoutCharges, ∀ d ∈ Cppcheck.Gen.LifetimeBudget.initialDepths,
    (p.2 = Charge.perReturns ∧ ∀ r, calls p.2 r (d + 1) ≤ (r + 1) * 2 ^ (d + 1)) ∨
    (p.2 = Charge.perCall ∧ ∀ r, r ^ (d + 1) ≤ calls p.2 r (d + 1)) := by
  intro p _ d _
  cases hc : p.2 with
  | perReturns => exact Or.inl ⟨rfl, fun r => calls_perReturns_le r (d + 1)⟩
  | perCall => exact Or.inr ⟨rfl, fun r => calls_perCall_ge r (d + 1)⟩

/-- the extracted table is not empty: `budget_verdict` ranges over something -/
example : Cppcheck.Gen.LifetimeBudget.fanoutCharges ≠ [] := by decide

end Cppcheck.C13
