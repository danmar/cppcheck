import Cppcheck.Model.SevDecide
import Cppcheck.Proofs.SevDecide
import Cppcheck.Model.MiniC
import Cppcheck.Model.LeakStraight
import Cppcheck.Proofs.LeakStraight
/-!
C04 — definite runtime-error findings are true positives.

Part 1: the value-based checkers.  `Cppcheck.SevDecide` copies, per checker, how a value of the operand is picked, gated and
graded.  The theorems say what an *error*-severity finding guarantees about the value behind it: for most checkers
`errorSeverity()` = "no condition, not a default argument" on a value that is not Impossible (it may be Known, Possible or —
with `--inconclusive` — Inconclusive); only nullPointer, uninitvar and invalidFunctionArg additionally demand a Known value.
Two places where the code as found guaranteed less were repaired in /repo (4fa5b48: shiftNegative was always an error, F04a;
43eccce: an access with several indexes was graded by one value of the index vector, F04c); the repaired code is the model,
the bodies as found (`shiftNegativeAsFound`, `arrayIndexNAsFound`) are kept only for `*_asFound_counterexample`.
`*_trigger_is_ub`: an operand value that triggers the checker makes the evaluation of the flagged operator undefined in the
MiniC semantics (C01), so a sound Known fact means no UB-free execution evaluates it.
-/
namespace Cppcheck.SevDecide

/-- the value is "definite" in the sense of `ValueFlow::Value::errorSeverity()`: it does not depend on a condition that may be
    redundant nor on a default argument, and it is not an Impossible value -/
def Definite (v : Value) : Prop := v.cond = false ∧ v.defaultArg = false ∧ v.kind ≠ .impossible

def sampleValue (k : Kind) (i : Int) (c : Bool) : Value :=
  { vtype := .int, kind := k, intvalue := i, cond := c, defaultArg := false, path := 0, hasErrorPath := false, safe := false,
    ufr := .no, indirect := 0 }

def allOn : Opts := { warning := true, portability := true, inconclusive := true, cpp14 := false }
def allOff : Opts := { warning := false, portability := false, inconclusive := false, cpp14 := false }

theorem definite_of_error {v : Value} (himp : v.isImpossible = false) (he : sevOf v.errorSeverity = .error) : Definite v :=
  have ⟨hc, hd⟩ := errorSeverity_eq_true.mp (sevOf_eq_error.mp he)
  ⟨hc, hd, kind_ne_impossible himp⟩

/-- **grading step, every checker**: severity `error` ⇒ the picked value has no condition and is not a default argument; for
    nullPointer / uninitvar / invalidFunctionArg it is moreover Known (for uninitvar *only* Known is guaranteed: `uninitvarError`
    never looks at `condition`/`defaultArg` when it grades). -/
theorem error_implies_definite (c : Checker) (v : Value) (ic : Bool) (o : Opts) (h : decideSev c v ic o = some .error) :
    (c ≠ .uninitvar → v.cond = false ∧ v.defaultArg = false) ∧
    ((c = .nullPointer ∨ c = .uninitvar ∨ c = .invalidFunctionArg) → v.kind = .known) := by
  cases c <;> simp [decideSev, sevOf_eq_error, errorSeverity_eq_true, isKnown_eq_true] at h ⊢
  case nullPointer =>
    obtain ⟨-, -, h⟩ := h
    split at h
    · cases h
    · rename_i hn
      simp [sevOf_eq_error, isKnown_eq_true] at h hn
      exact ⟨hn, h⟩
  case shiftTooManyBitsSigned =>
    obtain ⟨-, h⟩ := h
    split at h
    · split at h <;> cases h
    · simpa [sevOf_eq_error, errorSeverity_eq_true] using h
  -- elsewhere the gate and the grade are independent conjuncts
  all_goals simp [h]

example : decideSev .zerodiv (sampleValue .possible 0 false) false allOff = some .error := by decide
example : decideSev .nullPointer (sampleValue .known 0 false) false allOff = some .error := by decide
example : decideSev .nullPointer (sampleValue .possible 0 false) false allOff = some .warning := by decide

/-! #### list level: pick + gate + grade -/

theorem zerodiv_error_definite (o : Opts) (vals : List Value) (r : Report)
    (hr : r ∈ zerodiv o vals) (he : r.sev = .error) :
    ∃ v ∈ vals, Definite v ∧ v.isInt = true ∧ v.intvalue = 0 := by
  -- `zerodiv` is not unfolded: its `match` on the picked value is the matcher `mem_onSome` is stated with (here and below)
  obtain ⟨v, hv, hr⟩ := mem_onSome hr
  obtain ⟨hm, hi, himp, h0⟩ := getValue_spec hv
  obtain rfl := List.mem_singleton.mp (List.mem_ite_nil_right.mp hr).2
  exact ⟨v, hm, definite_of_error himp he, hi, h0⟩

theorem nullPointer_error_known (o : Opts) (d : Deref) (vals : List Value) (r : Report)
    (hr : r ∈ nullPointer o d vals) (he : r.sev = .error) :
    ∃ v ∈ vals, Definite v ∧ v.kind = .known ∧ v.isInt = true ∧ v.intvalue = 0 := by
  obtain ⟨v, hv, hr⟩ := mem_onSome hr
  obtain ⟨hm, hi, himp, h0⟩ := getValue_spec hv
  refine ⟨v, hm, ?_⟩
  replace hr := (List.mem_ite_nil_left.mp hr).2
  split at hr
  · cases hr
  · replace hr := (List.mem_ite_nil_left.mp hr).2
    -- the three grades: only the last one can be `error`
    by_cases hc : v.cond = true
    · rw [if_pos hc] at hr; obtain rfl := List.mem_singleton.mp hr; cases he
    · by_cases hd : v.defaultArg = true
      · rw [if_neg hc, if_pos hd] at hr; obtain rfl := List.mem_singleton.mp hr; cases he
      · rw [if_neg hc, if_neg hd] at hr
        obtain rfl := List.mem_singleton.mp hr
        have hk := isKnown_eq_true.mp (sevOf_eq_error.mp he)
        exact ⟨⟨by simpa using hc, by simpa using hd, kind_ne_impossible himp⟩, hk, hi, h0⟩

/-- an error-severity arrayIndexOutOfBounds / negativeIndex report on `a[i1]…[ik]`: some index position has a definite value that
    is out of bounds -/
theorem arrayIndexN_error_definite (o : Opts) (dims : List (Int × List Value)) (r : Report)
    (hr : r ∈ arrayIndexN o dims) (he : r.sev = .error) :
    ∃ d ∈ dims, ∃ v ∈ d.2, Definite v ∧ v.isInt = true ∧ (d.1 ≤ v.intvalue ∨ v.intvalue ≤ -1) := by
  have es {l : List Value} {a b : String} (hr : r ∈ indexVectorErrorV true o a b l) {v : Value} (hv : v ∈ l) :
      sevOf v.errorSeverity = .error := sevOf_eq_error.mpr (indexVectorError_error hr he v hv)
  unfold arrayIndexN arrayIndexNV at hr
  rw [overrunIndexValues_eq] at hr
  rcases List.mem_append.mp hr with hr | hr
  · obtain ⟨hflag, hr⟩ := List.mem_ite_nil_right.mp hr
    obtain ⟨d, hd, v, hv, hmem⟩ := flag_pick _ hflag
    obtain ⟨hm, hi, himp, hs⟩ := isOutOfBounds_spec hv
    exact ⟨d, hd, v, hm, definite_of_error himp (es hr hmem), hi, Or.inl hs⟩
  · obtain ⟨hflag, hr⟩ := List.mem_ite_nil_right.mp hr
    obtain ⟨d, hd, v, hv, hmem⟩ := flag_pick _ hflag
    obtain ⟨hm, himp, hi, hs, _⟩ := getValueLE_spec hv
    exact ⟨d, hd, v, hm, definite_of_error himp (es hr hmem), hi, Or.inr hs⟩

/-- one-dimensional access -/
theorem arrayIndex_error_definite (o : Opts) (size : Int) (vals : List Value) (r : Report)
    (hr : r ∈ arrayIndex o size vals) (he : r.sev = .error) :
    ∃ v ∈ vals, Definite v ∧ v.isInt = true ∧ (size ≤ v.intvalue ∨ v.intvalue ≤ -1) := by
  obtain ⟨d, hd, v, hv, h⟩ := arrayIndexN_error_definite o [(size, vals)] r hr he
  obtain rfl := List.mem_singleton.mp hd
  exact ⟨v, hv, h⟩

example : arrayIndexN allOn
    [(2, [{ sampleValue .possible 2 true with hasErrorPath := true }]), (3, [{ sampleValue .known 1 false with hasErrorPath := true }])] =
    [⟨"arrayIndexOutOfBoundsCond", .warning, .normal⟩] := by decide +kernel

/-- regression (F04c, repaired by 43eccce): with arrayIndexError as it was found the statement failed for two index positions —
    `a[j][i]` on `int a[2][3]` where `j` is 2 only under a condition and `i` is a Known, in-bounds 1 that carries an error path
    (an assignment) was graded `error`, id without `Cond` -/
theorem arrayIndexN_asFound_counterexample :
    ¬ ∀ (o : Opts) (dims : List (Int × List Value)) (r : Report), r ∈ arrayIndexNAsFound o dims → r.sev = .error →
        ∃ d ∈ dims, ∃ v ∈ d.2, (d.1 ≤ v.intvalue ∨ v.intvalue ≤ -1) ∧ v.cond = false := by
  intro h
  obtain ⟨d, hd, v, hv, hoob, hc⟩ := h allOn
    [(2, [{ sampleValue .possible 2 true with hasErrorPath := true }]), (3, [{ sampleValue .known 1 false with hasErrorPath := true }])]
    ⟨"arrayIndexOutOfBounds", .error, .normal⟩ (by decide +kernel) rfl
  simp at hd
  rcases hd with hd | hd
  all_goals
    subst hd
    simp at hv
    subst hv
    revert hoob hc
    decide

theorem shiftTooManyBits_error_definite (o : Opts) (lhsbits : Int) (sg : Bool) (vals : List Value) (r : Report)
    (hr : r ∈ shiftTooManyBits o lhsbits sg vals) (he : r.sev = .error) :
    ∃ v ∈ vals, Definite v ∧ v.isInt = true ∧ lhsbits - 1 ≤ v.intvalue ∧ (r.id = "shiftTooManyBits" → lhsbits ≤ v.intvalue) := by
  unfold shiftTooManyBits at hr
  split at hr
  · rename_i v hsel
    obtain rfl := List.mem_singleton.mp hr
    split at hsel
    · rename_i v' hv
      split at hsel
      · obtain rfl := Option.some.inj hsel
        obtain ⟨hm, himp, hi, hs, _⟩ := getValueGE_spec hv
        exact ⟨_, hm, definite_of_error himp he, hi, by omega, fun _ => hs⟩
      · cases hsel
    · cases hsel
  · replace hr := (List.mem_ite_nil_right.mp hr).2
    cases hv : getValueGE o vals (lhsbits - 1) with
    | none => rw [hv] at hr; cases hr
    | some v =>
      rw [hv] at hr
      obtain ⟨hm, himp, hi, hs, _⟩ := getValueGE_spec hv
      replace hr := (List.mem_ite_nil_right.mp hr).2
      obtain rfl := List.mem_singleton.mp (List.mem_ite_nil_left.mp hr).2
      -- under C++14 the finding is `portability`, never `error`
      cases h14 : o.cpp14
      · rw [h14] at he
        exact ⟨_, hm, definite_of_error himp he, hi, hs, by simp⟩
      · rw [h14] at he; cases he

theorem integerOverflow_error_definite (o : Opts) (bits : Nat) (shl : Bool) (vals : List Value) (r : Report)
    (hr : r ∈ integerOverflow o bits shl vals) (he : r.sev = .error) :
    ∃ v ∈ vals, Definite v ∧ v.isInt = true ∧ (v.intvalue > 2 ^ (bits - 1) - 1 ∨ v.intvalue < -(2 ^ (bits - 1))) := by
  obtain ⟨v, hsel, hr⟩ := mem_onSome hr
  replace hr := (List.mem_ite_nil_left.mp hr).2
  obtain rfl := List.mem_singleton.mp (List.mem_ite_nil_left.mp hr).2
  split at hsel
  · rename_i v' hv
    obtain rfl := Option.some.inj hsel
    obtain ⟨hm, himp, hi, hs, _⟩ := getValueGE_spec hv
    exact ⟨_, hm, definite_of_error himp he, hi, Or.inl (by omega)⟩
  · obtain ⟨hm, himp, hi, hs, _⟩ := getValueLE_spec hsel
    exact ⟨_, hm, definite_of_error himp he, hi, Or.inr (by omega)⟩

theorem uninitvar_error_known (o : Opts) (vals : List Value) (r : Report)
    (hr : r ∈ uninitvar o vals) (he : r.sev = .error) :
    ∃ v ∈ vals, v.vtype = .uninit ∧ v.kind = .known := by
  obtain ⟨v, hv, hr⟩ := mem_onSome hr
  refine ⟨v, List.mem_of_find?_eq_some hv, by simpa using List.find?_some hv, ?_⟩
  replace hr := (List.mem_ite_nil_left.mp hr).2
  replace hr := (List.mem_ite_nil_left.mp hr).2
  obtain rfl := List.mem_singleton.mp (List.mem_ite_nil_left.mp hr).2
  exact isKnown_eq_true.mp (sevOf_eq_error.mp he)

theorem invalidFunctionArg_error_known (o : Opts) (valid : Int → Bool) (vals : List Value) (r : Report)
    (hr : r ∈ invalidFunctionArg o valid vals) (he : r.sev = .error) :
    ∃ v ∈ vals, Definite v ∧ v.kind = .known ∧ v.isInt = true ∧ valid v.intvalue = false := by
  obtain ⟨v, hv, hr⟩ := mem_onSome hr
  obtain ⟨hm, hp, _, _⟩ := findValue_spec hv
  simp at hp
  obtain rfl := List.mem_singleton.mp hr
  obtain ⟨hes, hk⟩ := Bool.and_eq_true_iff.mp (sevOf_eq_error.mp he)
  obtain ⟨hc, hd⟩ := errorSeverity_eq_true.mp hes
  exact ⟨v, hm, ⟨hc, hd, kind_ne_impossible hp.1.1⟩, isKnown_eq_true.mp hk, hp.1.2, hp.2⟩

/-- shiftNegative: error ⇒ a definite value ≤ -1 of the right operand -/
theorem shiftNegative_error_definite (o : Opts) (ls rs : Bool) (lv rv : List Value)
    (r : Report) (hr : r ∈ shiftNegative o ls rs lv rv) (he : r.sev = .error) :
    ∃ v ∈ rv, Definite v ∧ v.isInt = true ∧ v.intvalue ≤ -1 := by
  unfold shiftNegative shiftNegativeV at hr
  by_cases hp : (o.portability && ls && (getValueLE o lv (-1)).isSome) = true
  · rw [if_pos hp] at hr; obtain rfl := List.mem_singleton.mp hr; cases he
  · rw [if_neg hp] at hr
    replace hr := (List.mem_ite_nil_right.mp hr).2
    cases hv : getValueLE o rv (-1) with
    | none => rw [hv] at hr; cases hr
    | some v =>
      rw [hv] at hr
      obtain ⟨hm, himp, hi, hle, _⟩ := getValueLE_spec hv
      obtain rfl := List.mem_singleton.mp (List.mem_ite_nil_right.mp hr).2
      exact ⟨v, hm, definite_of_error himp he, hi, hle⟩

example : (shiftNegative allOn true true [] [sampleValue .possible (-1) true]) = [⟨"shiftNegative", .warning, .normal⟩] ∧
    (shiftNegative allOn true true [] [sampleValue .known (-1) false]) = [⟨"shiftNegative", .error, .normal⟩] ∧
    (shiftNegative allOff true true [] [{ sampleValue .possible (-1) false with defaultArg := true }]) = [] := by decide +kernel

/-- regression (F04a, repaired by 4fa5b48): negativeBitwiseShiftError as it was found graded `error` on a list that holds nothing
    but a value hanging on a condition -/
theorem shiftNegative_asFound_counterexample :
    ¬ ∀ (o : Opts) (ls rs : Bool) (lv rv : List Value) (r : Report),
        r ∈ shiftNegativeAsFound o ls rs lv rv → r.sev = .error → ∃ v ∈ rv, Definite v := by
  intro h
  obtain ⟨v, hm, hd⟩ := h { allOn with portability := false } true true [] [sampleValue .possible (-1) true]
    ⟨"shiftNegative", .error, .normal⟩ (by decide +kernel) rfl
  simp at hm; subst hm
  exact absurd hd.1 (by decide)

/-! #### the trigger conditions are undefined behaviour in the MiniC semantics (C01's specification side) -/

open Cppcheck.MiniC in
/-- zerodiv: a right operand equal to 0 makes `/` and `%` undefined, whatever the operand types -/
theorem zerodiv_trigger_is_ub (P : Cppcheck.Platforms.Platform) (ta tb : Ty) (a : Int) :
    evalBin P .div ta tb a 0 = none ∧ evalBin P .mod ta tb a 0 = none := by
  have h0 : ∀ t, conv P t 0 = 0 := by
    intro t; unfold conv Cppcheck.Trunc.wrapC; split <;> simp
  constructor <;> simp [evalBin, BinOp.isShift, h0]

open Cppcheck.MiniC in
/-- shiftTooManyBits / shiftNegative: a shift count (a value of the promoted right operand type) that is negative or at least
    the width of the promoted left operand makes `<<` and `>>` undefined -/
theorem shift_trigger_is_ub (P : Cppcheck.Platforms.Platform) (ta tb : Ty) (a c : Int)
    (hrep : conv P (promote P tb) c = c) (htrig : c < 0 ∨ c ≥ bits P (promote P ta)) :
    evalBin P .shl ta tb a c = none ∧ evalBin P .shr ta tb a c = none := by
  constructor <;> simp [evalBin, BinOp.isShift, hrep, htrig]

open Cppcheck.MiniC in
/-- integerOverflow: a mathematical result outside the signed operation type is undefined -/
theorem overflow_trigger_is_ub (P : Cppcheck.Platforms.Platform) (t : Ty) (r : Int) (hs : t.signed = true)
    (htrig : r > tmax P t ∨ r < tmin P t) : arith P t r = none := by
  unfold arith
  simp [hs]
  omega

example : Cppcheck.MiniC.conv Cppcheck.MiniC.lp64 (Cppcheck.MiniC.promote Cppcheck.MiniC.lp64 Cppcheck.MiniC.tInt) 32 = 32 ∧
    (32 : Int) ≥ Cppcheck.MiniC.bits Cppcheck.MiniC.lp64 (Cppcheck.MiniC.promote Cppcheck.MiniC.lp64 Cppcheck.MiniC.tInt) := by
  decide

end Cppcheck.SevDecide

/-!
Part 2: `CheckLeakAutoVar::checkScope` on straight-line functions (`Cppcheck.LeakStraight`): programs are lists of
`alloc x | free x | use x | assign x y | ret x | ret0` of any length over any number of pointer variables; `reports` is the
automaton copied from the code, `oracle` the events of the one concrete execution (fresh block per allocation, freed set,
uninitialised variables; execution stops at the first return).
-/
namespace Cppcheck.LeakStraight

/-- **no false positives on straight-line code**: when no statement follows a `return`, every memleak / doubleFree /
    deallocuse / deallocret the automaton reports is an event of the concrete execution at the same statement for the same
    variable — unless the execution has read an uninitialised pointer at an earlier statement (it was undefined before). -/
theorem leak_reports_sound (p : List Op) (h : retOnlyLast p = true) :
    ∀ r ∈ reports p, r ∈ oracle p ∨ ∃ u ∈ oracle p, u.kind = .uninit ∧ u.pos < r.pos :=
  scan_sound (nvars p) p clearA init 0 inv_init h

example : retOnlyLast [.alloc 0, .alloc 1, .free 0, .use 0, .ret 0] = true ∧
    reports [.alloc 0, .alloc 1, .free 0, .use 0, .ret 0] = [⟨.deallocuse, 0, 3⟩, ⟨.deallocret, 0, 4⟩, ⟨.memleak, 1, 4⟩] := by
  decide +kernel

/-- the hypothesis is needed: checkScope keeps scanning behind a `return`, the execution does not.
    `return 0; free(p0); free(p0);` is reported as doubleFree although `free` is never executed (finding F04b). -/
theorem leak_reports_sound_counterexample :
    ¬ ∀ p : List Op, ∀ r ∈ reports p, r ∈ oracle p ∨ ∃ u ∈ oracle p, u.kind = .uninit ∧ u.pos < r.pos := by
  intro h
  have := h [.ret0, .free 0, .free 0] ⟨.doubleFree, 0, 2⟩ (by decide +kernel)
  revert this
  decide

/-- a function whose execution neither leaks nor misuses a block (and reads no uninitialised pointer) gets no finding -/
theorem clean_program_no_reports (p : List Op) (h : retOnlyLast p = true) (hc : oracle p = []) : reports p = [] := by
  apply List.eq_nil_iff_forall_not_mem.mpr
  intro r hr
  rcases leak_reports_sound p h r hr with h1 | ⟨u, hu, _⟩
  · rw [hc] at h1; simp at h1
  · rw [hc] at hu; simp at hu

example : retOnlyLast [.alloc 0, .use 0, .assign 1 0, .free 1, .alloc 0, .ret 0] = true ∧
    oracle [.alloc 0, .use 0, .assign 1 0, .free 1, .alloc 0, .ret 0] = [] := by decide +kernel

/-- **exactness without pointer copies**: no `px = py`, no read of an uninitialised pointer, nothing behind a return ⇒ the
    automaton reports exactly the events of the execution, in the same order. -/
theorem leak_automaton_exact (p : List Op) (h1 : retOnlyLast p = true) (h2 : noAssign p = true) (h3 : noUninit p = true) :
    reports p = oracle p := by
  apply scan_exact (nvars p) p clearA init 0 exact_init h1 h2
  intro u hu
  unfold noUninit at h3
  have := List.all_eq_true.mp h3 u hu
  simpa using this

example : retOnlyLast [.alloc 0, .alloc 0, .free 0, .free 0, .alloc 1, .ret0] = true ∧
    noAssign [.alloc 0, .alloc 0, .free 0, .free 0, .alloc 1, .ret0] = true ∧
    noUninit [.alloc 0, .alloc 0, .free 0, .free 0, .alloc 1, .ret0] = true ∧
    oracle [.alloc 0, .alloc 0, .free 0, .free 0, .alloc 1, .ret0] = [⟨.memleak, 0, 1⟩, ⟨.doubleFree, 0, 3⟩, ⟨.memleak, 1, 5⟩] := by
  decide +kernel

/-- with a pointer copy the automaton is no longer complete (it forgets both variables): `p1 = p0; free(p0); free(p1);` -/
theorem leak_automaton_exact_counterexample :
    ¬ ∀ p : List Op, retOnlyLast p = true → noUninit p = true → reports p = oracle p := by
  intro h
  have := h [.alloc 0, .assign 1 0, .free 0, .free 1] (by decide +kernel) (by decide +kernel)
  revert this
  decide

end Cppcheck.LeakStraight

/-!
Part 3: allocation groups (`Cppcheck.LibGroups`, lib/library.cpp `Library::load`): which deallocator matches which allocator.
-/
namespace Cppcheck.LibGroups

/-- every function a block declares is registered with the block's group -/
theorem loadBlock_registers (st : LibState) (b : Block) :
    (∀ n ∈ b.allocs, allocGroup (loadBlock st b) n = some (groupFor st b).1) ∧
    (∀ n ∈ b.deallocNames, deallocGroup (loadBlock st b) n = some (groupFor st b).1) := by
  constructor
  all_goals
    intro n hn
    simp only [loadBlock, allocGroup, deallocGroup]
    rw [lookup_map_append, if_pos hn]

/-- functions the block does not declare keep their group -/
theorem loadBlock_keeps (st : LibState) (b : Block) :
    (∀ n, n ∉ b.allocs → allocGroup (loadBlock st b) n = allocGroup st n) ∧
    (∀ n, n ∉ b.deallocNames → deallocGroup (loadBlock st b) n = deallocGroup st n) := by
  constructor
  all_goals
    intro n hn
    simp only [loadBlock, allocGroup, deallocGroup]
    rw [lookup_map_append, if_neg hn]

/-- **a block joins the group of a deallocator it shares** — whichever `<dealloc>` element names it — provided all of its
    already registered deallocator names are in that one group -/
theorem groupFor_joins (st : LibState) (b : Block) (d : String) (g : Nat)
    (hd : d ∈ b.deallocNames) (hg : deallocGroup st d = some g) (hall : knownAllIn st b g = true) :
    (groupFor st b).1 = g := by
  unfold groupFor
  cases hf : firstKnown st.dealloc b.deallocNames with
  | none =>
    have := firstKnown_none hf d hd
    simp [deallocGroup] at hg
    rw [this] at hg; simp at hg
  | some g' =>
    obtain ⟨n, hn, hl⟩ := firstKnown_some hf
    have := List.all_eq_true.mp hall n hn
    simp [hl] at this
    simpa using this

/-- two blocks that share a deallocator name: after both are loaded, every allocator and deallocator of either block is in the
    first block's group (so each deallocator of one matches each allocator of the other) -/
theorem shared_dealloc_same_group_partial (st : LibState) (b1 b2 : Block) (d : String)
    (h1 : d ∈ b1.deallocNames) (h2 : d ∈ b2.deallocNames)
    (hall : knownAllIn (loadBlock st b1) b2 (groupFor st b1).1 = true) :
    let st2 := loadBlock (loadBlock st b1) b2
    (∀ a ∈ b1.allocs ++ b2.allocs, allocGroup st2 a = some (groupFor st b1).1) ∧
    (∀ n ∈ b1.deallocNames ++ b2.deallocNames, deallocGroup st2 n = some (groupFor st b1).1) := by
  have hg2 : (groupFor (loadBlock st b1) b2).1 = (groupFor st b1).1 :=
    groupFor_joins _ b2 d _ h2 ((loadBlock_registers st b1).2 d h1) hall
  constructor
  · intro a ha
    by_cases hb : a ∈ b2.allocs
    · rw [(loadBlock_registers _ b2).1 a hb, hg2]
    · rw [(loadBlock_keeps _ b2).1 a hb]
      exact (loadBlock_registers st b1).1 a ((List.mem_append.mp ha).resolve_right hb)
  · intro n hn
    by_cases hb : n ∈ b2.deallocNames
    · rw [(loadBlock_registers _ b2).2 n hb, hg2]
    · rw [(loadBlock_keeps _ b2).2 n hb]
      exact (loadBlock_registers st b1).2 n ((List.mem_append.mp hn).resolve_right hb)

/-- the hypothesis is satisfiable; and the rule looks at *all* `<dealloc>` elements: a block whose first `<dealloc>` is new and
    whose second one is `free` joins the group of `free` (the pool.cfg shape of the seeded change) -/
example :
    let std : Block := ⟨false, ["malloc", "calloc"], [["free"]]⟩
    let pool : Block := ⟨false, ["pool_strdup"], [["pool_release"], ["free"]]⟩
    knownAllIn (loadBlock empty std) pool (groupFor empty std).1 = true ∧
    allocGroup (load empty [std, pool]) "pool_strdup" = some 2 ∧ allocGroup (load empty [std, pool]) "malloc" = some 2 ∧
    deallocGroup (load empty [std, pool]) "free" = some 2 ∧ deallocGroup (load empty [std, pool]) "pool_release" = some 2 := by
  decide +kernel

/-- without the hypothesis the rule is not the equivalence closure of "declared in one block": a block whose deallocators are
    known in two different groups joins the first and *moves* the other deallocator there — the allocator that was declared together
    with it stays behind (`a2` / `d2` of one block no longer match) -/
theorem groups_not_closure_counterexample :
    let bs : List Block := [⟨false, ["a1"], [["d1"]]⟩, ⟨false, ["a2"], [["d2"]]⟩, ⟨false, ["a3"], [["d1"], ["d2"]]⟩]
    allocGroup (load empty bs) "a2" = some 4 ∧ deallocGroup (load empty bs) "d2" = some 2 ∧
    allocGroup (load empty bs) "a3" = some 2 ∧ allocGroup (load empty bs) "a1" = some 2 := by
  decide +kernel

end Cppcheck.LibGroups
