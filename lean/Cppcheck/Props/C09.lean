import Cppcheck.Proofs.ConvSpec
import Cppcheck.Gen.PlatformsC09
/-
C09 — expression types follow the language's conversion rules.

`conv*`  (Cppcheck.ValueTypeConv) = what SymbolDatabase::setValueType does, in three states of the code
          (`.base` unpatched, `.fixA` / `.fixAB` with the proposed patches);
`spec*`  (Cppcheck.ConvSpec)      = C17 6.3.1.1 / 6.3.1.8 / 6.5.x and C++17 [expr], from the platform's sizes;
`Gen.PlatformsC09.platforms`      = the table extracted from lib/platform.cpp and platforms/*.xml on this run.

All theorems hold for EVERY consistent shape, i.e. for every platform whose sizes are ordered — not only for the table;
the table enters through `platforms_sane` and the concrete witnesses.  The quantifiers over operators, types and shapes
are finite: arithmetic on two integer operands is decided whole by the kernel, the other rules follow by unfolding
(Cppcheck/Proofs/ConvSpec.lean); literal values and expression trees are unbounded and handled by proof.  Nothing here
is sampled.
-/
namespace Cppcheck.C09
open Cppcheck.ValueTypeConv Cppcheck.ConvSpec Cppcheck.Gen.PlatformsC09

/-! ## the platform table -/

/-- every built-in and every file platform has ordered sizes, hence a consistent shape -/
theorem platforms_sane : ∀ P ∈ platforms, sane P = true := by decide

theorem platforms_consistent : ∀ P ∈ platforms, (P.shape).consistent = true :=
  fun P hP => shape_consistent_of_sane P (platforms_sane P hP)

/-- in the table `int` is always wider than `char`: only `unsigned short` can fill `int` (class K2) -/
theorem platforms_char_lt_int : ∀ P ∈ platforms, (P.shape).charLtInt = true := by decide

example : ∃ P ∈ platforms, P.name = "win64" ∧ (P.shape).intLtLong = false := by decide
example : ∃ P ∈ platforms, P.name = "avr8" ∧ (P.shape).shortLtInt = false := by decide

/-! ## binary arithmetic and bit operators: usual arithmetic conversions -/

/-- UNPATCHED.  For `+ - * / % & | ^` on operands of any two arithmetic types, the type the code attaches is the type
    of C17 6.3.1.8 / C++17 [expr]p11, PROVIDED the input is outside
      K1 `sameSizeDifferentRankMixedSign` (mixed signedness, the signed operand has the higher rank but is not wider), and
      K2 `promotesToUnsigned` for either operand (a sub-`int` type that fills `int`). -/
theorem conv_eq_spec_partial (s : Shape) (hs : s.consistent = true) (cpp : Bool) (op : BinOp) (t1 t2 : CT)
    (hop : op.cls = .arith ∨ op.cls = .bit) (hwt : wellTypedBin op t1 t2 = true)
    (h1 : sameSizeDifferentRankMixedSign s t1 t2 = false)
    (h2 : promotesToUnsigned s t1 = false) (h3 : promotesToUnsigned s t2 = false) :
    convBin .base s cpp op (declVT t1) (declVT t2) = some (asVT (specBin s cpp op t1 t2)) := by
  obtain ⟨hc, hsp⟩ := convBin_arith .base s cpp op t1 t2 hop hwt
  rw [hc, hsp]
  exact arith_base_partial s hs t1 t2 h1 h2 h3

-- the hypotheses are satisfiable, non-trivially: mixed signedness, different ranks, on the table's win64
example : ∃ P ∈ platforms, P.name = "win64" ∧ sameSizeDifferentRankMixedSign P.shape .uint .llong = false ∧
    promotesToUnsigned P.shape .uint = false ∧ wellTypedBin .add .uint .llong = true := by decide

/-- the same statement for the platforms of the table -/
theorem conv_eq_spec_partial_table (P : Plat) (hP : P ∈ platforms) (cpp : Bool) (op : BinOp) (t1 t2 : CT)
    (hop : op.cls = .arith ∨ op.cls = .bit) (hwt : wellTypedBin op t1 t2 = true)
    (h1 : sameSizeDifferentRankMixedSign P.shape t1 t2 = false)
    (h2 : promotesToUnsigned P.shape t1 = false) (h3 : promotesToUnsigned P.shape t2 = false) :
    convBin .base P.shape cpp op (declVT t1) (declVT t2) = some (asVT (specBin P.shape cpp op t1 t2)) :=
  conv_eq_spec_partial P.shape (platforms_consistent P hP) cpp op t1 t2 hop hwt h1 h2 h3

/-- F7: the full-strength statement is FALSE of the unpatched code: `unsigned int + long` on win64 (LLP64) is typed
    `signed long`; the language gives `unsigned long` -/
theorem conv_counterexample :
    ¬ ∀ P ∈ platforms, ∀ t1 t2 : CT,
        convBin .base P.shape false .add (declVT t1) (declVT t2) = some (asVT (specBin P.shape false .add t1 t2)) := by
  intro h
  have hw : ∃ P ∈ platforms, P.name = "win64" ∧
      convBin .base P.shape false .add (declVT .uint) (declVT .long) = some ⟨.long, .signed⟩ ∧
      asVT (specBin P.shape false .add .uint .long) = ⟨.long, .unsigned⟩ := by decide
  obtain ⟨P, hP, _, hc, hsp⟩ := hw
  have := h P hP .uint .long
  rw [hc, hsp] at this
  cases this

/-- the same on LP64 (unix64, the usual native platform): `unsigned long + long long` is typed `signed long long` -/
theorem conv_counterexample_lp64 :
    ∃ P ∈ platforms, P.name = "unix64" ∧
      convBin .base P.shape false .add (declVT .ulong) (declVT .llong) = some ⟨.llong, .signed⟩ ∧
      asVT (specBin P.shape false .add .ulong .llong) = ⟨.llong, .unsigned⟩ := by decide

/-- K1 is exactly a class of deviations: inside it the code NEVER gives the language's type -/
theorem sameSize_class_deviates (s : Shape) (hs : s.consistent = true) (cpp : Bool) (op : BinOp) (t1 t2 : CT)
    (hop : op.cls = .arith ∨ op.cls = .bit) (hwt : wellTypedBin op t1 t2 = true)
    (h1 : sameSizeDifferentRankMixedSign s t1 t2 = true) :
    convBin .base s cpp op (declVT t1) (declVT t2) ≠ some (asVT (specBin s cpp op t1 t2)) := by
  obtain ⟨hc, hsp⟩ := convBin_arith .base s cpp op t1 t2 hop hwt
  rw [hc, hsp]
  have := (arith_all s hs t1 t2).2
  rwa [h1] at this

/-- PATCHED (either patch state): no hypothesis is left — the type is the 6.3.1.8 type for all operands -/
theorem arith_fixed_eq_spec (v : Variant) (hv : v = .fixA ∨ v = .fixAB) (s : Shape) (hs : s.consistent = true)
    (cpp : Bool) (op : BinOp) (t1 t2 : CT) (hop : op.cls = .arith ∨ op.cls = .bit) (hwt : wellTypedBin op t1 t2 = true) :
    convBin v s cpp op (declVT t1) (declVT t2) = some (asVT (specBin s cpp op t1 t2)) := by
  obtain ⟨hc, hsp⟩ := convBin_arith v s cpp op t1 t2 hop hwt
  rw [hc, hsp]
  exact arith_fix_all v hv s hs t1 t2

example : wellTypedBin .mod .ushort .llong = true := by decide

/-! ## integer promotions: unary `-`, `~` and shifts -/

/-- UNPATCHED: `-a` and `~a` on a type below `int` are typed `signed int`; that is the promoted type of the language
    unless the operand is in K2 -/
theorem promotion_below_int (s : Shape) (hs : s.consistent = true) (cpp : Bool) (op : UnOp) (hop : op = .neg ∨ op = .bnot)
    (t : CT) (hwt : wellTypedUn op t = true) :
    (belowInt t = true → convUn .base s op (declVT t) = some ⟨.int, .signed⟩) ∧
    (promotesToUnsigned s t = false → convUn .base s op (declVT t) = some (asVT (specUn s cpp op t))) :=
  have h := unary_all .base s cpp op hop t hwt
  ⟨h.1 rfl, fun hk => h.2 fun _ => hk⟩

example : belowInt .ushort = true ∧ wellTypedUn .bnot .ushort = true := by decide

/-- K2 witness from the table: on avr8 (`sizeof(short) == sizeof(int)`) `-us` is typed `signed int`, the language
    promotes `unsigned short` to `unsigned int` -/
theorem promotion_counterexample :
    ∃ P ∈ platforms, P.name = "avr8" ∧ convUn .base P.shape .neg (declVT .ushort) = some ⟨.int, .signed⟩ ∧
      asVT (specUn P.shape false .neg .ushort) = ⟨.int, .unsigned⟩ := by decide

/-- PATCHED: `-a`, `~a` have the promoted type, for all operands -/
theorem promotion_fixed (v : Variant) (hv : v = .fixA ∨ v = .fixAB) (s : Shape) (hs : s.consistent = true) (cpp : Bool)
    (op : UnOp) (hop : op = .neg ∨ op = .bnot) (t : CT) (hwt : wellTypedUn op t = true) :
    convUn v s op (declVT t) = some (asVT (specUn s cpp op t)) :=
  (unary_all v s cpp op hop t hwt).2 fun hb => by rcases hv with rfl | rfl <;> cases hb

/-- a shift takes the type of its promoted LEFT operand; the right operand and the language play no role.
    UNPATCHED the promotion is always to `signed int`, which is the language's type outside K2 -/
theorem shift_takes_left_type (s : Shape) (hs : s.consistent = true) (cpp : Bool) (op : BinOp) (hop : op.cls = .shift)
    (t1 t2 : CT) (hwt : wellTypedBin op t1 t2 = true) :
    convBin .base s cpp op (declVT t1) (declVT t2) = some (if belowInt t1 then ⟨.int, .signed⟩ else declVT t1) ∧
    (promotesToUnsigned s t1 = false →
      convBin .base s cpp op (declVT t1) (declVT t2) = some (asVT (specBin s cpp op t1 t2))) :=
  have h := shift_all .base s cpp op hop t1 t2 hwt
  ⟨h.1 rfl, fun hk => h.2 fun _ => hk⟩

example : wellTypedBin .shl .uchar .llong = true ∧ (BinOp.shl).cls = .shift := by decide

/-- PATCHED: the shift has the promoted left type of the language, for all integer operands -/
theorem shift_fixed (v : Variant) (hv : v = .fixA ∨ v = .fixAB) (s : Shape) (hs : s.consistent = true) (cpp : Bool)
    (op : BinOp) (hop : op.cls = .shift) (t1 t2 : CT) (hwt : wellTypedBin op t1 t2 = true) :
    convBin v s cpp op (declVT t1) (declVT t2) = some (asVT (specBin s cpp op t1 t2)) :=
  (shift_all v s cpp op hop t1 t2 hwt).2 fun hb => by rcases hv with rfl | rfl <;> cases hb

/-! ## comparison and logical operators, `!` -/

/-- every state of the code types `< <= > >= == != && ||` as `bool`; that is the language's type in C++ and NOT in C
    (C17 6.5.8p6: `int`) — class K3 -/
theorem comparison_yields_int_or_bool (v : Variant) (s : Shape) (cpp : Bool) (op : BinOp) (hop : boolValued op = true)
    (t1 t2 : CT) :
    convBin v s cpp op (declVT t1) (declVT t2) = some ⟨.bool, .unknown⟩ ∧
    (convBin v s cpp op (declVT t1) (declVT t2) = some (asVT (specBin s cpp op t1 t2)) ↔ cpp = true) := by
  have hc : op.cls = .cmp ∨ op.cls = .logical := by
    simpa [boolValued] using hop
  have h1 : convBin v s cpp op (declVT t1) (declVT t2) = some ⟨.bool, .unknown⟩ := by
    unfold convBin
    rcases hc with hc | hc <;> rw [hc] <;> rfl
  refine ⟨h1, ?_⟩
  rw [h1]
  unfold specBin
  rcases hc with hc | hc <;> rw [hc] <;> cases cpp <;> simp [asVT, declVT]

example : boolValued .le = true ∧ boolValued .lor = true := by decide

/-- `!a` likewise -/
theorem lnot_yields_int_or_bool (v : Variant) (s : Shape) (cpp : Bool) (t : CT) :
    convUn v s .lnot (declVT t) = some ⟨.bool, .unknown⟩ ∧
    (convUn v s .lnot (declVT t) = some (asVT (specUn s cpp .lnot t)) ↔ cpp = true) := by
  refine ⟨rfl, ?_⟩
  cases cpp <;> simp [convUn, specUn, asVT, declVT]

/-- the full-strength statement for C is false (witness: `a < b` on two ints, any platform) -/
theorem comparison_c_counterexample :
    ¬ ∀ (s : Shape) (t1 t2 : CT), convBin .base s false .lt (declVT t1) (declVT t2) = some (asVT (specBin s false .lt t1 t2)) := by
  intro h
  have := h ⟨true, true, true, true, false, false⟩ .int .int
  revert this
  decide

/-! ## assignments and casts -/

/-- `a = b`, `a += b`, …: the type of the left operand, in every state of the code, as the language says -/
theorem assignment_keeps_left_type (v : Variant) (s : Shape) (cpp : Bool) (op : BinOp) (hop : op.cls = .assign) (t1 t2 : CT) :
    convBin v s cpp op (declVT t1) (declVT t2) = some (asVT (specBin s cpp op t1 t2)) := by
  unfold convBin specBin
  rw [hop]
  rfl

/-- `(T)a` has type `T` -/
theorem cast_takes_target_type (t : CT) : convCast t = asVT t := rfl

/-! ## `++` / `--` -/

/-- UNPATCHED and with the first patch: `++a`, `a++`, `--a`, `a--` have the operand's type iff that type is not below
    `int` (class K4: a sub-`int` operand is typed `int`; the language keeps `char` / `short`) -/
theorem incdec_partial (v : Variant) (hv : v = .base ∨ v = .fixA) (s : Shape) (hs : s.consistent = true) (cpp : Bool)
    (op : UnOp) (hop : op.isIncDec = true) (t : CT) (hwt : wellTypedUn op t = true) :
    (belowInt t = false → convUn v s op (declVT t) = some (asVT (specUn s cpp op t))) ∧
    (belowInt t = true → convUn v s op (declVT t) ≠ some (asVT (specUn s cpp op t))) :=
  have h := incdec_all v s cpp op hop t hwt
  ⟨fun hb => h.1 (.inr hb), h.2 (by rcases hv with rfl | rfl <;> decide)⟩

example : UnOp.isIncDec .postInc = true ∧ wellTypedUn .postInc .ushort = true ∧ belowInt .ushort = true := by decide

/-- both patches: the operand's type, always -/
theorem incdec_fixed (s : Shape) (hs : s.consistent = true) (cpp : Bool)
    (op : UnOp) (hop : op.isIncDec = true) (t : CT) (hwt : wellTypedUn op t = true) :
    convUn .fixAB s op (declVT t) = some (asVT (specUn s cpp op t)) :=
  (incdec_all .fixAB s cpp op hop t hwt).1 (.inl rfl)

/-! ## `?:` -/

/-- UNPATCHED, operands of different `ValueType::Type`: typed like `a + b`, hence right outside K1/K2 -/
theorem ternary_partial_different (s : Shape) (hs : s.consistent = true) (cpp : Bool) (t1 t2 : CT)
    (hd : sameVType t1 t2 = false)
    (h1 : sameSizeDifferentRankMixedSign s t1 t2 = false)
    (h2 : promotesToUnsigned s t1 = false) (h3 : promotesToUnsigned s t2 = false) :
    convTernary .base s cpp (declVT t1) (declVT t2) = some (asVT (specTernary s cpp t1 t2)) := by
  obtain ⟨hc, hsp⟩ := convTernary_different .base s cpp t1 t2 hd
  rw [hc, hsp]
  exact arith_base_partial s hs t1 t2 h1 h2 h3

example : sameVType .uchar .llong = false ∧ sameVType .int .uint = true := by decide

/-- UNPATCHED and with the first patch, operands of one `ValueType::Type` (class K5): the `?` gets the type of the
    SECOND operand (`isTypeEqual` does not look at the sign); that is the language's type when the two types are
    identical and (C++ or the type is not below `int`) -/
theorem ternary_partial_same (v : Variant) (hv : v = .base ∨ v = .fixA) (s : Shape) (hs : s.consistent = true) (cpp : Bool)
    (t1 t2 : CT) (hsame : sameVType t1 t2 = true) :
    convTernary v s cpp (declVT t1) (declVT t2) = some (declVT t1) ∧
    (t1 = t2 → (cpp = true ∨ belowInt t1 = false) →
      convTernary v s cpp (declVT t1) (declVT t2) = some (asVT (specTernary s cpp t1 t2))) := by
  have keep : convTernary v s cpp (declVT t1) (declVT t2) = some (declVT t1) := by
    have hty : ((declVT t1).type == (declVT t2).type) = true := hsame
    rcases hv with rfl | rfl <;> simp [convTernary, hty]
  refine ⟨keep, fun he hc => ?_⟩
  subst he
  rw [keep, specTernary_self s cpp t1 hc, asVT]

/-- K5 witness: `c ? i : u` (int, unsigned int) in C++ is typed `signed int`; the language gives `unsigned int` -/
theorem ternary_counterexample :
    ¬ ∀ (s : Shape) (t1 t2 : CT),
        convTernary .base s true (declVT t1) (declVT t2) = some (asVT (specTernary s true t1 t2)) := by
  intro h
  have := h ⟨true, true, true, true, false, false⟩ .int .uint
  revert this
  decide

/-- first patch: operands of different `ValueType::Type` now follow 6.3.1.8 without exception -/
theorem ternary_fixA_different (s : Shape) (hs : s.consistent = true) (cpp : Bool) (t1 t2 : CT)
    (hd : sameVType t1 t2 = false) :
    convTernary .fixA s cpp (declVT t1) (declVT t2) = some (asVT (specTernary s cpp t1 t2)) := by
  obtain ⟨hc, hsp⟩ := convTernary_different .fixA s cpp t1 t2 hd
  rw [hc, hsp]
  exact arith_fix_all .fixA (.inl rfl) s hs t1 t2

/-- both patches: the language's type for all operands, except `_Bool ? _Bool : _Bool` in C (left `bool`, K3) -/
theorem ternary_fixed (s : Shape) (hs : s.consistent = true) (cpp : Bool) (t1 t2 : CT)
    (hb : cpp = true ∨ t1 ≠ .bool ∨ t2 ≠ .bool) :
    convTernary .fixAB s cpp (declVT t1) (declVT t2) = some (asVT (specTernary s cpp t1 t2)) := by
  rw [convTernary_fixAB]
  split
  · next h =>
    -- the type is kept; so it is by the language, `_Bool` in C (which `hb` excludes) apart
    simp only [Bool.and_eq_true, beq_iff_eq, Bool.or_eq_true, Bool.not_eq_true'] at h
    obtain ⟨rfl, hc⟩ := h
    rw [specTernary_self s cpp t1 (by rcases hc with hc | rfl <;> simp_all), asVT]
  · next h =>
    -- typed like `a + b`; the language converts as well, since identical types in C++ would have been kept
    have hsp : specTernary s cpp t1 t2 = uac s t1 t2 := by
      unfold specTernary
      cases hc : (cpp && t1 == t2)
      · rfl
      · simp_all
    rw [hsp]
    exact arith_fix_all .fixA (.inl rfl) s hs t1 t2

example : (true = true ∨ CT.bool ≠ CT.bool ∨ CT.bool ≠ CT.bool) := Or.inl rfl

/-! ## integer literals (unbounded: every value, every triple of maxima) -/

/-- the type the code gives an integer literal is the type of C17 6.4.4.1p5 / C++17 [lex.icon], for EVERY value and every
    platform with INT_MAX ≤ LONG_MAX, PROVIDED the literal is outside
      K6 `octalAsDecimal` (octal literal without `u` whose type is `unsigned int` / `unsigned long`),
    and has a type at all (`hfit`, `hfitd`).  `dec` as the code sees it: `base != hex` (an octal literal is all digits). -/
theorem literal_type_partial (imax lmax llmax value longs : Nat) (base : Base) (us : Bool)
    (hm1 : imax ≤ lmax) (hl : longs ≤ 2)
    (h7 : octalAsDecimal imax lmax base us longs value = false)
    (hfit : value ≤ 2 * llmax + 1) (hfitd : base = .dec → us = false → value ≤ llmax) :
    (litSpec imax lmax llmax base us longs value).map asVT
      = some (litTypeCore imax lmax llmax (base != .hex) us longs value) := by
  obtain ⟨t, ht⟩ := Option.isSome_iff_exists.mp (litSpec_fits imax lmax longs hfit hfitd)
  rw [litTypeCore_eq_litSpec h7, ht]
  rfl

-- the hypotheses are satisfiable: `020000000000` (2^31, octal) with 32-bit int and the `u` suffix
example : octalAsDecimal 2147483647 9223372036854775807 .oct true 0 2147483648 = false := by decide
example : octalAsDecimal 2147483647 9223372036854775807 .hex false 0 4294967296 = false := by decide

/-- K6 is exactly a class of deviations: inside it the code never gives the language's type -/
theorem literal_octal_deviates (imax lmax llmax value longs : Nat) (base : Base) (us : Bool)
    (hm1 : imax ≤ lmax) (hl : longs ≤ 2)
    (h : octalAsDecimal imax lmax base us longs value = true) :
    (litSpec imax lmax llmax base us longs value).map asVT
      ≠ some (litTypeCore imax lmax llmax (base != .hex) us longs value) := by
  obtain ⟨rfl, rfl, u, hu, hs⟩ := litSpec_octalAsDecimal imax lmax llmax value longs base us hm1 h
  rw [hs]
  exact fun e => litTypeCore_dec_signed imax lmax llmax longs value u hu (Option.some.inj e).symm

/-- the maxima of every platform of the table are ordered, so `literal_type_partial` applies to it -/
theorem platforms_maxima_ordered : ∀ P ∈ platforms,
    maxValue (P.charBit * P.sizeofInt) ≤ maxValue (P.charBit * P.sizeofLong) ∧
    maxValue (P.charBit * P.sizeofLong) ≤ maxValue (P.charBit * P.sizeofLongLong) := by decide

/-- K6 witness: `037777777777` (= UINT_MAX) on unix64 is typed `long`; the language gives `unsigned int` -/
theorem literal_counterexample_oct :
    ∃ P ∈ platforms, P.name = "unix64" ∧ litType P false true false 0 4294967295 = ⟨.long, .signed⟩ ∧
      litSpec (maxValue (P.charBit * P.sizeofInt)) (maxValue (P.charBit * P.sizeofLong))
        (maxValue (P.charBit * P.sizeofLongLong)) .oct false 0 4294967295 = some .uint := by decide

/-- the `>> 1` window of non-decimal literals (`>> 2` before /repo a4b8285): `0x100000000` on unix64 is `long` in model and language -/
theorem literal_hex_window_closed :
    ∃ P ∈ platforms, P.name = "unix64" ∧ litType P false false false 0 4294967296 = ⟨.long, .signed⟩ ∧
      litSpec (maxValue (P.charBit * P.sizeofInt)) (maxValue (P.charBit * P.sizeofLong))
        (maxValue (P.charBit * P.sizeofLongLong)) .hex false 0 4294967296 = some .long := by decide

/-! ## nested expressions: the type of a tree (structural induction)

`typeOf` folds the per-node rules of the code over an expression tree (variables and integer literals at the leaves),
`specOf` folds the language rules, `ok` says that every node is well-typed and outside K1..K6 (judged by the LANGUAGE
types of its operands).  The node lemmas restate the per-operator theorems in that vocabulary; the tree theorem is the
induction.  That the real code is compositional like `typeOf` is tied by the nested-expression correspondence. -/

theorem uacClass_fine (s : Shape) (t1 t2 : CT) (h : uacClass s t1 t2 = .fine) :
    sameSizeDifferentRankMixedSign s t1 t2 = false ∧ promotesToUnsigned s t1 = false ∧ promotesToUnsigned s t2 = false := by
  unfold uacClass at h
  cases hk2 : (promotesToUnsigned s t1 || promotesToUnsigned s t2)
  · cases hk1 : sameSizeDifferentRankMixedSign s t1 t2
    · exact ⟨rfl, by simpa using hk2⟩
    · simp [hk2, hk1] at h
  · simp [hk2] at h

theorem node_bin (s : Shape) (hs : s.consistent = true) (cpp : Bool) (op : BinOp) (t1 t2 : CT)
    (h : binClass s cpp op t1 t2 = .fine) :
    convBin .base s cpp op (declVT t1) (declVT t2) = some (asVT (specBin s cpp op t1 t2)) := by
  unfold binClass at h
  cases hwt : wellTypedBin op t1 t2
  · simp [hwt] at h
  simp only [hwt, Bool.not_true, Bool.false_eq_true, if_false] at h
  cases hc : op.cls <;> rw [hc] at h
  case arith | bit =>
    obtain ⟨h1, h2, h3⟩ := uacClass_fine s t1 t2 h
    exact conv_eq_spec_partial s hs cpp op t1 t2 (by simp [hc]) hwt h1 h2 h3
  case shift =>
    cases hk2 : promotesToUnsigned s t1
    · exact (shift_takes_left_type s hs cpp op hc t1 t2 hwt).2 hk2
    · simp [hk2] at h
  case cmp | logical =>
    cases cpp
    · simp at h
    · exact ((comparison_yields_int_or_bool .base s true op (by simp [boolValued, hc]) t1 t2).2).mpr rfl
  case assign => exact assignment_keeps_left_type .base s cpp op hc t1 t2

theorem node_un (s : Shape) (hs : s.consistent = true) (cpp : Bool) (op : UnOp) (t : CT)
    (h : unClass s cpp op t = .fine) :
    convUn .base s op (declVT t) = some (asVT (specUn s cpp op t)) := by
  unfold unClass at h
  cases hwt : wellTypedUn op t
  · simp [hwt] at h
  simp only [hwt, Bool.not_true, Bool.false_eq_true, if_false] at h
  cases op
  case neg | bnot =>
    cases hk2 : promotesToUnsigned s t
    · exact (promotion_below_int s hs cpp _ (by simp) t hwt).2 hk2
    · simp [hk2] at h
  case lnot =>
    cases cpp
    · simp at h
    · exact ((lnot_yields_int_or_bool .base s true t).2).mpr rfl
  all_goals
    cases hb : belowInt t
    · exact (incdec_partial .base (Or.inl rfl) s hs cpp _ rfl t hwt).1 hb
    · simp [hb] at h

theorem node_tern (s : Shape) (hs : s.consistent = true) (cpp : Bool) (t1 t2 : CT)
    (h : ternClass s cpp t1 t2 = .fine) :
    convTernary .base s cpp (declVT t1) (declVT t2) = some (asVT (specTernary s cpp t1 t2)) := by
  unfold ternClass at h
  cases hsv : sameVType t1 t2
  · simp only [hsv, Bool.false_eq_true, if_false] at h
    obtain ⟨h1, h2, h3⟩ := uacClass_fine s t1 t2 h
    exact ternary_partial_different s hs cpp t1 t2 hsv h1 h2 h3
  · simp only [hsv, if_true] at h
    cases hc : (t1 == t2 && (cpp || !belowInt t1))
    · simp only [hc, Bool.false_eq_true, if_false] at h
      split at h <;> cases h
    · simp only [Bool.and_eq_true, beq_iff_eq, Bool.or_eq_true, Bool.not_eq_true'] at hc
      exact (ternary_partial_same .base (Or.inl rfl) s hs cpp t1 t2 hsv).2 hc.1 hc.2

theorem node_lit (P : Plat) (base : Base) (us : Bool) (longs value : Nat)
    (h : litClass P base us longs value = .fine) :
    litType P false (base != .hex) us longs value
      = asVT ((litSpec (imaxOf P) (lmaxOf P) (llmaxOf P) base us longs value).getD .int) := by
  unfold litClass at h
  split at h
  · cases h
  split at h
  · cases h
  next hty h6 =>
    simp only [Bool.or_eq_true, decide_eq_true_eq, not_or, Option.isNone_iff_eq_none] at hty
    obtain ⟨t, ht⟩ := Option.ne_none_iff_exists'.mp hty.2
    have key := litTypeCore_eq_litSpec (llmax := llmaxOf P) (Bool.eq_false_iff.mpr h6)
    rw [ht] at key ⊢
    exact key

/-- THE TREE THEOREM (unpatched code).  For every platform with ordered sizes, both languages and every expression tree over
    variables of the 15 arithmetic types and integer literals: if every node is well-typed and outside K1..K6 (`ok`), the
    type the code attaches to the root is the type the language gives the whole expression. -/
theorem typeOf_eq_spec_partial (P : Plat) (hP : sane P = true) (cpp : Bool) (e : Expr) (h : ok P cpp e = true) :
    typeOf .base P cpp e = some (asVT (specOf P cpp e)) := by
  have hs := shape_consistent_of_sane P hP
  induction e with
  | var t => rfl
  | lit base us longs value =>
    simp only [ok, beq_iff_eq] at h
    simp only [typeOf, specOf]
    rw [node_lit P base us longs value h]
  | un op e ih =>
    simp only [ok, Bool.and_eq_true, beq_iff_eq, rootClass] at h
    obtain ⟨hr, he⟩ := h
    split at hr
    · cases hr
    · simp only [typeOf, ih he, specOf]
      exact node_un P.shape hs cpp op _ hr
  | bin op a b iha ihb =>
    simp only [ok, Bool.and_eq_true, beq_iff_eq, rootClass] at h
    obtain ⟨⟨hr, ha⟩, hb⟩ := h
    split at hr
    · cases hr
    · simp only [typeOf, iha ha, ihb hb, specOf]
      exact node_bin P.shape hs cpp op _ _ hr
  | tern c a b _ iha ihb =>
    simp only [ok, Bool.and_eq_true, beq_iff_eq, rootClass] at h
    simp only [typeOf, iha h.1.2, ihb h.2, specOf]
    exact node_tern P.shape hs cpp _ _ h.1.1.1
  | cast t e _ => rfl

/-- for the platforms of the generated table -/
theorem typeOf_eq_spec_partial_table (P : Plat) (hP : P ∈ platforms) (cpp : Bool) (e : Expr) (h : ok P cpp e = true) :
    typeOf .base P cpp e = some (asVT (specOf P cpp e)) :=
  typeOf_eq_spec_partial P (platforms_sane P hP) cpp e h

-- `ok` is satisfiable by nested trees with all node kinds: `(unsigned char)(c ? (a * 2u) << b : -d) + 0x7fL` on unix64, C++
example : ∃ P ∈ platforms, P.name = "unix64" ∧
    ok P true (.bin .add (.cast .uchar (.tern (.bin .lt (.var .int) (.var .long))
        (.bin .shl (.bin .mul (.var .short) (.lit .dec true 0 2)) (.var .schar)) (.un .neg (.var .uint))))
      (.lit .hex false 1 127)) = true := by decide

/-- the full-strength tree statement is false of the unpatched code: a K1 node below the root (`(u + l) * 2` on win64) -/
theorem typeOf_counterexample :
    ∃ P ∈ platforms, P.name = "win64" ∧
      typeOf .base P false (.bin .mul (.bin .add (.var .uint) (.var .long)) (.lit .dec false 0 2)) = some ⟨.long, .signed⟩ ∧
      asVT (specOf P false (.bin .mul (.bin .add (.var .uint) (.var .long)) (.lit .dec false 0 2))) = ⟨.long, .unsigned⟩ ∧
      firstClass P false (.bin .mul (.bin .add (.var .uint) (.var .long)) (.lit .dec false 0 2)) = .k1 := by decide

end Cppcheck.C09
